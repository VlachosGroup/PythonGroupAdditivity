-- GENERATED by harness/mkdriver.py. Do not edit.
import PGA.Drv.All
import PGA.Drv.C01
import PGA.Drv.C02
import PGA.Drv.C03
import PGA.Drv.C05
import PGA.Drv.C06
import PGA.Drv.C07
import PGA.Drv.C08
import PGA.Drv.C09
import PGA.Drv.C10
import PGA.Drv.C11
import PGA.Drv.C12
import PGA.Drv.C13
import PGA.Drv.C14
import PGA.Drv.C15
import PGA.Drv.C16
import PGA.Drv.C17
import PGA.Drv.C18
import PGA.Drv.C19
import PGA.Drv.C20
import PGA.Drv.CorrHistory
import PGA.Drv.EstimateCodec
import PGA.Drv.MolJson
import PGA.Drv.Pipeline
import PGA.Drv.Util
import PGA.Drv.YamlJson
import PGA.Gen.Chars
import PGA.Gen.LibAll
import PGA.Gen.LibData
import PGA.Gen.LibObl_BensonGA
import PGA.Gen.LibObl_GRWAqueous2018
import PGA.Gen.LibObl_GRWSurface2018
import PGA.Gen.LibObl_GuSolventGA2017Aq
import PGA.Gen.LibObl_GuSolventGA2017Vac
import PGA.Gen.LibObl_PPY
import PGA.Gen.LibObl_PtSurface2023
import PGA.Gen.LibObl_SalciccioliGA2012
import PGA.Gen.LibObl_XieGA2022
import PGA.Gen.Lib_BensonGA
import PGA.Gen.Lib_GRWAqueous2018
import PGA.Gen.Lib_GRWSurface2018
import PGA.Gen.Lib_GuSolventGA2017Aq
import PGA.Gen.Lib_GuSolventGA2017Vac
import PGA.Gen.Lib_PPY
import PGA.Gen.Lib_PtSurface2023
import PGA.Gen.Lib_SalciccioliGA2012
import PGA.Gen.Lib_XieGA2022
import PGA.Gen.MolQuery
import PGA.Gen.Pmutt
import PGA.Gen.RingChars
import PGA.Gen.RingElements
import PGA.Gen.RingGrammar
import PGA.Gen.ThermoRanges
import PGA.Gen.Units
import PGA.Gen.Uq
import PGA.Gen.UqLib_GRWAqueous2018
import PGA.Gen.UqLib_GRWSurface2018
import PGA.Gen.UqLib_GuSolventGA2017Vac
import PGA.Gen.UqObl_BensonGA
import PGA.Gen.UqObl_GRWAqueous2018
import PGA.Gen.UqObl_GRWSurface2018
import PGA.Gen.UqObl_GuSolventGA2017Aq
import PGA.Gen.UqObl_GuSolventGA2017Vac
import PGA.Gen.UqObl_PPY
import PGA.Gen.UqObl_PtSurface2023
import PGA.Gen.UqObl_SalciccioliGA2012
import PGA.Gen.UqObl_XieGA2022
import PGA.Gen.Uq_BensonGA
import PGA.Gen.Uq_GRWAqueous2018
import PGA.Gen.Uq_GRWSurface2018
import PGA.Gen.Uq_GuSolventGA2017Aq
import PGA.Gen.Uq_GuSolventGA2017Vac
import PGA.Gen.Uq_PPY
import PGA.Gen.Uq_PtSurface2023
import PGA.Gen.Uq_SalciccioliGA2012
import PGA.Gen.Uq_XieGA2022
import PGA.Gen.YamlUnits
import PGA.Model.Aromatize
import PGA.Model.Ast
import PGA.Model.Chars
import PGA.Model.CorrHistory
import PGA.Model.Dec
import PGA.Model.Decompose
import PGA.Model.Estimate
import PGA.Model.EstimateDec
import PGA.Model.GroupName
import PGA.Model.History
import PGA.Model.LibTable
import PGA.Model.LibThermo
import PGA.Model.ListUtil
import PGA.Model.Match
import PGA.Model.Merge
import PGA.Model.Mol
import PGA.Model.Net
import PGA.Model.Paths
import PGA.Model.Pipeline
import PGA.Model.Qty
import PGA.Model.Query
import PGA.Model.RingAstBridge
import PGA.Model.RingParse
import PGA.Model.RingRead
import PGA.Model.Rxn
import PGA.Model.Scheme
import PGA.Model.Thermo
import PGA.Model.ThermoDec
import PGA.Model.Units
import PGA.Model.UnitsDec
import PGA.Model.Yaml
import PGA.Model.YamlFormat
import PGA.Model.YamlTables
import PGA.Proofs.Aromatize
import PGA.Proofs.AromatizeLiteral
import PGA.Proofs.Cand
import PGA.Proofs.Chars
import PGA.Proofs.CorrHistory
import PGA.Proofs.Decompose
import PGA.Proofs.DecomposeRelabel
import PGA.Proofs.DecomposeUnion
import PGA.Proofs.DiagDominant
import PGA.Proofs.EmbedsMap
import PGA.Proofs.Enum
import PGA.Proofs.Estimate
import PGA.Proofs.EstimateTables
import PGA.Proofs.EstimateUQ
import PGA.Proofs.GroupName
import PGA.Proofs.History
import PGA.Proofs.LibTable
import PGA.Proofs.ListUtil
import PGA.Proofs.Match
import PGA.Proofs.Merge
import PGA.Proofs.MergeLib
import PGA.Proofs.MolIso
import PGA.Proofs.MolUnion
import PGA.Proofs.Neighbours
import PGA.Proofs.Net
import PGA.Proofs.OneSide
import PGA.Proofs.Pipeline
import PGA.Proofs.PipelineCompose
import PGA.Proofs.PipelineKeys
import PGA.Proofs.Psd
import PGA.Proofs.Qty
import PGA.Proofs.Read
import PGA.Proofs.ReadConnected
import PGA.Proofs.RingLayout
import PGA.Proofs.RingParse
import PGA.Proofs.RingPos
import PGA.Proofs.RingPresentation
import PGA.Proofs.RingReadSafe
import PGA.Proofs.RingShape
import PGA.Proofs.RingTop
import PGA.Proofs.Rxn
import PGA.Proofs.Scheme
import PGA.Proofs.SchemeRelabel
import PGA.Proofs.SchemeSets
import PGA.Proofs.SchemeUnion
import PGA.Proofs.Tables
import PGA.Proofs.Thermo
import PGA.Proofs.ThermoDefects
import PGA.Proofs.ThermoRange
import PGA.Proofs.UnitsDen
import PGA.Proofs.UnitsEval
import PGA.Proofs.UnitsExt
import PGA.Proofs.UnitsLex
import PGA.Proofs.UnitsParser
import PGA.Proofs.UnitsRender
import PGA.Proofs.UnitsSnap
import PGA.Proofs.UnitsTables
import PGA.Proofs.UnitsTablesLive
import PGA.Proofs.UnitsTablesRef
import PGA.Proofs.Yaml
import PGA.Proofs.YamlFormat
import PGA.Props.C01
import PGA.Props.C02
import PGA.Props.C02Full
import PGA.Props.C03
import PGA.Props.C04
import PGA.Props.C05
import PGA.Props.C06
import PGA.Props.C07
import PGA.Props.C08
import PGA.Props.C08Cap
import PGA.Props.C08Text
import PGA.Props.C09
import PGA.Props.C10
import PGA.Props.C11
import PGA.Props.C12
import PGA.Props.C12Units
import PGA.Props.C13
import PGA.Props.C14
import PGA.Props.C14Eval
import PGA.Props.C15
import PGA.Props.C16
import PGA.Props.C17
import PGA.Props.C18
import PGA.Props.C19
import PGA.Props.C20
import PGA.Props.CorrHistory
import PGA.Props.Pipeline
import PGA.Spec.CorrHistory
import PGA.Spec.Decompose
import PGA.Spec.Embeds
import PGA.Spec.Estimate
import PGA.Spec.GroupName
import PGA.Spec.History
import PGA.Spec.LibTable
import PGA.Spec.LibThermo
import PGA.Spec.Merge
import PGA.Spec.MolIso
import PGA.Spec.MolUnion
import PGA.Spec.Net
import PGA.Spec.Pipeline
import PGA.Spec.Qty
import PGA.Spec.Relabel
import PGA.Spec.RingLayout
import PGA.Spec.RingParse
import PGA.Spec.RingsSame
import PGA.Spec.Rxn
import PGA.Spec.SI
import PGA.Spec.SIExt
import PGA.Spec.SchemeGuards
import PGA.Spec.Thermo
import PGA.Spec.Union
import PGA.Spec.UnitExpr
import PGA.Spec.Yaml
import PGA.Spec.YamlFormat
