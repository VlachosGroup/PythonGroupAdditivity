import PGA.Proofs.Estimate
import PGA.Proofs.EstimateTables
/-!
# C07 — dimensional results are the non-dimensional ones times R (and T); elemental-entropy offset

Property theorems about the model (`PGA.Model.Estimate`) of `ThermochemBase.get_H/get_G/get_S/get_Cp/get_GoRT`
(`pgradd/ThermoChem/base.py`) and `ThermochemGroupAdditive.get_Selements/get_SoR` (`group_data.py`).
`ND` is what every correlation object offers (`get_CpoR`, `get_HoRT`, `get_SoR`): the theorems hold for estimates
(`Estimator.toND`) and for a group's own correlation (`Corr.toND`) alike, for every gas-constant table `R`, every
unit string, every temperature.  The table obligations are about the regenerated tables `PGA.Gen.Pmutt`
(`pmutt.constants.R` probed for every unit string it accepts, `pmutt.constants.S_elements`).
-/
namespace PGA.Estimate

/-! ### T1: the four product identities -/

/-- `H(T,u) = (H/RT)·T·R(u/K)`: a value exists exactly when `H/RT` exists and `'{u}/K'` is a key of the table. -/
theorem C07_H (R : RTable) (o : ND) (T : Rat) (u : UnitStr) (v : Rat) :
    o.H R T u = .ok v ↔ ∃ h r, o.hort T = .ok h ∧ R.lookup (perK u) = some r ∧ v = h * T * r := by
  simp only [← lookupR_ok_iff]; exact seq_ok_iff _ _ (· * T * ·) v

/-- `G(T,u) = (G/RT)·T·R(u/K)` with `G/RT = H/RT − S/R`. -/
theorem C07_G (R : RTable) (o : ND) (T : Rat) (u : UnitStr) (flag : PyFlag) (v : Rat) :
    o.G R T u flag = .ok v ↔
      ∃ h s r, o.hort T = .ok h ∧ o.sor T flag = .ok s ∧ R.lookup (perK u) = some r ∧ v = (h - s) * T * r := by
  simp only [G_ok_iff, GoRT_ok_iff]
  constructor
  · rintro ⟨_, r, ⟨h, s, hh, hs, rfl⟩, hr, rfl⟩; exact ⟨h, s, r, hh, hs, hr, rfl⟩
  · rintro ⟨h, s, r, hh, hs, hr, rfl⟩; exact ⟨_, r, ⟨h, s, hh, hs, rfl⟩, hr, rfl⟩

/-- `S(T,u) = (S/R)·R(u)` -/
theorem C07_S (R : RTable) (o : ND) (T : Rat) (u : UnitStr) (flag : PyFlag) (v : Rat) :
    o.Sdim R T u flag = .ok v ↔ ∃ s r, o.sor T flag = .ok s ∧ R.lookup u = some r ∧ v = s * r := by
  simp only [← lookupR_ok_iff]; exact seq_ok_iff _ _ (· * ·) v

/-- `Cp(T,u) = (Cp/R)·R(u)` -/
theorem C07_Cp (R : RTable) (o : ND) (T : Rat) (u : UnitStr) (v : Rat) :
    o.Cp R T u = .ok v ↔ ∃ c r, o.cp T = .ok c ∧ R.lookup u = some r ∧ v = c * r := by
  simp only [← lookupR_ok_iff]; exact seq_ok_iff _ _ (· * ·) v

/-- `G(T,u) = H(T,u) − T·S(T,u/K)` whenever the three exist … -/
theorem C07_G_eq_H_minus_TS (R : RTable) (o : ND) (T : Rat) (u : UnitStr) (flag : PyFlag) (g h s : Rat)
    (hg : o.G R T u flag = .ok g) (hh : o.H R T u = .ok h) (hs : o.Sdim R T (perK u) flag = .ok s) :
    g = h - T * s := by
  obtain ⟨h0, s0, r, a1, a2, a3, rfl⟩ := (C07_G R o T u flag g).mp hg
  obtain ⟨h1, r1, b1, b2, rfl⟩ := (C07_H R o T u h).mp hh
  obtain ⟨s2, r2, c1, c2, rfl⟩ := (C07_S R o T (perK u) flag s).mp hs
  rw [a1] at b1; cases b1
  rw [a2] at c1; cases c1
  rw [a3] at b2; cases b2
  rw [a3] at c2; cases c2
  ring

/-- … and `G` exists as soon as `H(T,u)` and `S(T,u/K)` do. -/
theorem C07_G_exists (R : RTable) (o : ND) (T : Rat) (u : UnitStr) (flag : PyFlag) (h s : Rat)
    (hh : o.H R T u = .ok h) (hs : o.Sdim R T (perK u) flag = .ok s) : ∃ g, o.G R T u flag = .ok g := by
  obtain ⟨h1, r1, b1, b2, rfl⟩ := (C07_H R o T u h).mp hh
  obtain ⟨s2, r2, c1, c2, rfl⟩ := (C07_S R o T (perK u) flag s).mp hs
  exact ⟨_, (C07_G R o T u flag _).mpr ⟨h1, s2, r1, b1, c1, b2, rfl⟩⟩

/-! ### T2: two units differ exactly by the ratio of the table entries -/

/-- `H(T,u₁)·R(u₂/K) = H(T,u₂)·R(u₁/K)` -/
theorem C07_units_H (R : RTable) (o : ND) (T : Rat) (u1 u2 : UnitStr) (v1 v2 r1 r2 : Rat)
    (h1 : o.H R T u1 = .ok v1) (h2 : o.H R T u2 = .ok v2)
    (hr1 : R.lookup (perK u1) = some r1) (hr2 : R.lookup (perK u2) = some r2) : v1 * r2 = v2 * r1 :=
  units_ratio (· * T) ((C07_H R o T u1 v1).mp h1) ((C07_H R o T u2 v2).mp h2) hr1 hr2

/-- `G(T,u₁)·R(u₂/K) = G(T,u₂)·R(u₁/K)` -/
theorem C07_units_G (R : RTable) (o : ND) (T : Rat) (u1 u2 : UnitStr) (flag : PyFlag) (v1 v2 r1 r2 : Rat)
    (h1 : o.G R T u1 flag = .ok v1) (h2 : o.G R T u2 flag = .ok v2)
    (hr1 : R.lookup (perK u1) = some r1) (hr2 : R.lookup (perK u2) = some r2) : v1 * r2 = v2 * r1 :=
  units_ratio (· * T) ((G_ok_iff R o T u1 flag v1).mp h1) ((G_ok_iff R o T u2 flag v2).mp h2) hr1 hr2

/-- `S(T,u₁)·R(u₂) = S(T,u₂)·R(u₁)` -/
theorem C07_units_S (R : RTable) (o : ND) (T : Rat) (u1 u2 : UnitStr) (flag : PyFlag) (v1 v2 r1 r2 : Rat)
    (h1 : o.Sdim R T u1 flag = .ok v1) (h2 : o.Sdim R T u2 flag = .ok v2)
    (hr1 : R.lookup u1 = some r1) (hr2 : R.lookup u2 = some r2) : v1 * r2 = v2 * r1 :=
  units_ratio id ((C07_S R o T u1 flag v1).mp h1) ((C07_S R o T u2 flag v2).mp h2) hr1 hr2

/-- `Cp(T,u₁)·R(u₂) = Cp(T,u₂)·R(u₁)` -/
theorem C07_units_Cp (R : RTable) (o : ND) (T : Rat) (u1 u2 : UnitStr) (v1 v2 r1 r2 : Rat)
    (h1 : o.Cp R T u1 = .ok v1) (h2 : o.Cp R T u2 = .ok v2)
    (hr1 : R.lookup u1 = some r1) (hr2 : R.lookup u2 = some r2) : v1 * r2 = v2 * r1 :=
  units_ratio id ((C07_Cp R o T u1 v1).mp h1) ((C07_Cp R o T u2 v2).mp h2) hr1 hr2

/-- `get_H` with a unit string that is not a key of the table is an error (`KeyError`), not a number — provided `H/RT`
itself exists (its own error comes first).  For `get_G`, `get_S`, `get_Cp` the iff theorems `C07_G`, `C07_S`, `C07_Cp` say
that no value exists; which error is raised is stated for `get_H` only. -/
theorem C07_bad_units (R : RTable) (o : ND) (T : Rat) (u : UnitStr) (h : Rat) (hh : o.hort T = .ok h)
    (hu : R.lookup (perK u) = none) : o.H R T u = .error .badUnits := by
  simp [ND.H, hh, lookupR, hu]

/-! ### T3: entropy and Gibbs energy relative to the elements -/

/-- The elemental term is the sum of the tabulated entropies over **all** atoms of the molecule (hydrogens
included: `atoms` is the atom list after `AddHs`); it exists iff every atom's element is tabulated. -/
theorem C07_selements (sel : Nat → Option Rat) (atoms : List Nat) (σ : Rat) :
    selements sel (some atoms) = .ok σ ↔ (∀ z ∈ atoms, ∃ w, sel z = some w) ∧ σ = (atoms.map (selD sel)).sum := by
  rw [selements, selSumFrom_ok_iff, zero_add]

/-- Only the truthiness of `S_elements` matters: `None`, `False`, `0`, `''` all give the plain entropy. -/
theorem C07_falsy_flags (sel : Nat → Option Rat) (e : Estimator) (T : Rat) (flag : PyFlag) (hf : flag.truthy = false) :
    e.SoR sel T flag = e.SoR sel T .none := by
  rw [SoR_plain sel e T flag hf, SoR_plain sel e T .none rfl]

/-- Requesting entropy relative to the elements lowers `S/R` by exactly the elemental sum `σ`. -/
theorem C07_S_offset (sel : Nat → Option Rat) (e : Estimator) (T : Rat) (flag : PyFlag) (hf : flag.truthy = true)
    (σ : Rat) (hσ : selements sel e.name = .ok σ) (v : Rat) :
    e.SoR sel T flag = .ok v ↔ ∃ s, e.SoR sel T .none = .ok s ∧ v = s - σ := by
  rw [SoR_ok_iff, SoR_plain sel e T .none rfl]
  simp only [hf, if_true, hσ, Except.ok.injEq]
  constructor
  · rintro ⟨sele, s, rfl, hs, rfl⟩; exact ⟨s, hs, rfl⟩
  · rintro ⟨s, hs, rfl⟩; exact ⟨σ, s, rfl, hs, rfl⟩

/-- … and raises `G/RT` by the same `σ`; `H/RT` and `Cp/R` take no such argument at all (`Estimator.HoRT`,
`Estimator.CpoR` have no flag parameter) and therefore do not move. -/
theorem C07_G_offset (sel : Nat → Option Rat) (e : Estimator) (T : Rat) (flag : PyFlag) (hf : flag.truthy = true)
    (σ : Rat) (hσ : selements sel e.name = .ok σ) (v : Rat) :
    (e.toND sel).GoRT T flag = .ok v ↔ ∃ g, (e.toND sel).GoRT T .none = .ok g ∧ v = g + σ := by
  simp only [GoRT_ok_iff, Estimator.toND, C07_S_offset sel e T flag hf σ hσ]
  constructor
  · rintro ⟨h, s, hh, ⟨s0, hs0, rfl⟩, rfl⟩
    exact ⟨h - s0, ⟨h, s0, hh, hs0, rfl⟩, by ring⟩
  · rintro ⟨g, ⟨h, s0, hh, hs0, rfl⟩, rfl⟩
    exact ⟨h, s0 - σ, hh, ⟨s0, hs0, rfl⟩, by ring⟩

/-- dimensional form: `S(T,u)` relative to the elements is lower by `σ·R(u)` -/
theorem C07_Sdim_offset (R : RTable) (sel : Nat → Option Rat) (e : Estimator) (T : Rat) (u : UnitStr) (flag : PyFlag)
    (hf : flag.truthy = true) (σ : Rat) (hσ : selements sel e.name = .ok σ) (r : Rat) (hr : R.lookup u = some r) (v : Rat) :
    (e.toND sel).Sdim R T u flag = .ok v ↔ ∃ s, (e.toND sel).Sdim R T u .none = .ok s ∧ v = s - σ * r := by
  simp only [C07_S, Estimator.toND, C07_S_offset sel e T flag hf σ hσ, hr, Option.some.injEq]
  constructor
  · rintro ⟨s, r', ⟨s0, hs0, rfl⟩, hrr, rfl⟩
    subst hrr
    exact ⟨_, ⟨s0, _, hs0, rfl, rfl⟩, by ring⟩
  · rintro ⟨s, ⟨s0, r', hs0, hrr, rfl⟩, rfl⟩
    subst hrr
    exact ⟨s0 - σ, _, ⟨s0, hs0, rfl⟩, rfl, by ring⟩

/-- A missing molecule or an element without a tabulated entropy is an error, not a zero offset. -/
theorem C07_sel_error (sel : Nat → Option Rat) (e : Estimator) (T : Rat) (flag : PyFlag) (hf : flag.truthy = true)
    (err : Err) (hσ : selements sel e.name = .error err) : e.SoR sel T flag = .error err := by
  simp [Estimator.SoR, hf, hσ]

/-- A group's own correlation ignores `S_elements` (`ThermochemIncomplete.get_SoR`). -/
theorem C07_corr_ignores_flag (c : Corr) (T : Rat) (f1 f2 : PyFlag) : c.toND.sor T f1 = c.toND.sor T f2 := rfl

/-! ### T4: table obligations over the regenerated pmutt tables (`decide +kernel`) -/

open PGA.Gen.Pmutt in
/-- every unit string `R` accepts has a reference factor, and `R(u)·(value of u in J/mol/K)` reproduces
`R('J/mol/K')` to the table's eight significant digits (relative 10⁻⁷): the ratios of the entries are the standard
conversion factors kcal↔kJ↔J↔cal↔eV↔Eh, per mole vs per molecule, pressure-volume units. -/
theorem C07_tab_units_ref :
    rTable.all (fun p => match refUnitInSI.lookup p.1 with
      | some f => within (p.2.toRat * f) rSI (1/10000000)
      | none => false) = true := by decide +kernel

open PGA.Gen.Pmutt in
/-- the gas constant itself: 8.3144598 J/(mol·K) (CODATA 2014) to 10⁻⁷ relative -/
theorem C07_tab_R_SI : within rSI (83144598/10000000) (1/10000000) = true ∧ 0 < rSI := by decide +kernel

/-- prefixes and synonyms are exact: kJ = 1000 J, kcal = 1000 cal, Ha = Eh, L·kPa = m³·Pa = cm³·MPa = J,
cm³·kPa = 10⁻³ J, L·bar = 100 J, m³·bar = 10⁵ J, L·atm = 1000 cm³·atm -/
theorem C07_tab_exact_ratios :
    (ratioIs ['k', 'J', '/', 'm', 'o', 'l', '/', 'K'] ['J', '/', 'm', 'o', 'l', '/', 'K'] 1000 && ratioIs ['k', 'c', 'a', 'l', '/', 'm', 'o', 'l', '/', 'K'] ['c', 'a', 'l', '/', 'm', 'o', 'l', '/', 'K'] 1000 && ratioIs ['H', 'a', '/', 'K'] ['E', 'h', '/', 'K'] 1 &&
     ratioIs ['L', ' ', 'k', 'P', 'a', '/', 'm', 'o', 'l', '/', 'K'] ['J', '/', 'm', 'o', 'l', '/', 'K'] 1 && ratioIs ['m', '3', ' ', 'P', 'a', '/', 'm', 'o', 'l', '/', 'K'] ['J', '/', 'm', 'o', 'l', '/', 'K'] 1 && ratioIs ['c', 'm', '3', ' ', 'M', 'P', 'a', '/', 'm', 'o', 'l', '/', 'K'] ['J', '/', 'm', 'o', 'l', '/', 'K'] 1 &&
     ratioIs ['c', 'm', '3', ' ', 'k', 'P', 'a', '/', 'm', 'o', 'l', '/', 'K'] ['J', '/', 'm', 'o', 'l', '/', 'K'] (1/1000) && ratioIs ['L', ' ', 'b', 'a', 'r', '/', 'm', 'o', 'l', '/', 'K'] ['J', '/', 'm', 'o', 'l', '/', 'K'] 100 && ratioIs ['m', '3', ' ', 'b', 'a', 'r', '/', 'm', 'o', 'l', '/', 'K'] ['J', '/', 'm', 'o', 'l', '/', 'K'] 100000 &&
     ratioIs ['L', ' ', 'a', 't', 'm', '/', 'm', 'o', 'l', '/', 'K'] ['c', 'm', '3', ' ', 'a', 't', 'm', '/', 'm', 'o', 'l', '/', 'K'] 1000) = true := by decide +kernel

open PGA.Gen.Pmutt in
/-- every key of the table is a per-kelvin unit (`…/K`): `get_H`/`get_G` accept exactly the keys with that
suffix removed, `get_S`/`get_Cp` exactly the keys; the keys are distinct -/
theorem C07_tab_keys : rTable.all (fun p => p.1.reverse.take 2 == ['K', '/']) = true ∧ (rTable.map (·.1)).Nodup := by
  decide +kernel

open PGA.Gen.Pmutt in
/-- the energy units the getters' documentation names (J/mol, kJ/mol, cal/mol, kcal/mol, eV) are all accepted -/
theorem C07_tab_doc_units : docEnergyUnits.all (fun u => (rTable.lookup (perK u)).isSome) = true := by decide +kernel

open PGA.Gen.Pmutt in
/-- the tabulated elemental entropies (dimensionless, `S°/R` per atom) reproduce the reference standard entropies
of the elements the shipped schemes can decompose to 10⁻⁴ J/(mol·K); the two key spaces of the table
(atomic number, symbol) agree on them; every entry is positive -/
theorem C07_tab_selements :
    refEntropy.all (fun p => match sElements.lookup p.1 with
      | some d => (d.toRat * rSI - p.2) * (d.toRat * rSI - p.2) ≤ (1/10000) * (1/10000)
      | none => false) = true
    ∧ refSymbols.all (fun p => sElementsSym.lookup p.1 == sElements.lookup p.2 && (sElements.lookup p.2).isSome) = true
    ∧ sElements.all (fun p => 0 < p.2.toRat) = true := by decide +kernel

/-- **Conversion factors (algebra)** If two table entries `r₁`, `r₂` reproduce the same SI value through the
reference factors `f₁`, `f₂` to relative `tol`, then a quantity `nd·r` requested in the two units, converted to SI
with the reference factors, agrees to `2·tol·|nd|·R_SI`. -/
theorem C07_conversion (nd r1 r2 f1 f2 Rsi tol : Rat)
    (h1 : |r1 * f1 - Rsi| ≤ tol * |Rsi|) (h2 : |r2 * f2 - Rsi| ≤ tol * |Rsi|) :
    |nd * r1 * f1 - nd * r2 * f2| ≤ 2 * tol * |nd| * |Rsi| := by
  have e : nd * r1 * f1 - nd * r2 * f2 = nd * ((r1 * f1 - Rsi) - (r2 * f2 - Rsi)) := by ring
  rw [e, abs_mul, show 2 * tol * |nd| * |Rsi| = |nd| * (tol * |Rsi| + tol * |Rsi|) by ring]
  exact mul_le_mul_of_nonneg_left ((abs_sub _ _).trans (add_le_add h1 h2)) (abs_nonneg nd)

open PGA.Gen.Pmutt in
/-- **Conversion factors (the regenerated table)** For any two unit strings the gas-constant table accepts, with
hand-written reference factors `f₁`, `f₂` (value of the unit in J/(mol·K)): a non-dimensional value `nd` turned into the
two units (`nd·R(u)`) and converted to SI agrees to `2·10⁻⁷·|nd|·R_SI` — values requested in two units differ by the
conversion factor between those units, to the eight significant digits of the table. With `nd = (S/R)`, `(Cp/R)`,
`(H/RT)·T`, `(G/RT)·T` this covers the four getters (`C07_S`, `C07_Cp`, `C07_H`, `C07_G`). -/
theorem C07_tab_conversion (u1 u2 : UnitStr) (d1 d2 : Dec) (f1 f2 nd : Rat)
    (hu1 : rTable.lookup u1 = some d1) (hu2 : rTable.lookup u2 = some d2)
    (hf1 : refUnitInSI.lookup u1 = some f1) (hf2 : refUnitInSI.lookup u2 = some f2) :
    |nd * d1.toRat * f1 - nd * d2.toRat * f2| ≤ 2 * (1/10000000) * |nd| * |rSI| := by
  have hall := C07_tab_units_ref
  rw [List.all_eq_true] at hall
  have mem : ∀ (u : UnitStr) (d : Dec), rTable.lookup u = some d → (u, d) ∈ rTable := by
    intro u d h
    obtain ⟨l1, l2, hl, _⟩ := List.lookup_eq_some_iff.mp h
    rw [hl]; simp
  have a1 := hall _ (mem u1 d1 hu1)
  have a2 := hall _ (mem u2 d2 hu2)
  simp only [hf1, hf2] at a1 a2
  rw [within_iff _ _ _ (by norm_num)] at a1 a2
  exact C07_conversion nd d1.toRat d2.toRat f1 f2 rSI (1/10000000) a1 a2

/-! ### non-vacuity -/
namespace Ex07
open PGA.Gen.Pmutt

def R : RTable := rTable.map fun p => (p.1, p.2.toRat)
def sel (z : Nat) : Option Rat := (sElements.lookup z).map Dec.toRat
def c : Corr := ⟨fun _ => .ok 3, fun T => .ok (T / 100), fun _ => .ok (1/2), none⟩
/-- one term, count 2; the library decomposed methane (C, H, H, H, H) -/
def e : Estimator := ⟨some [6, 1, 1, 1, 1], [(c, 2)], none, none⟩
def kJmol : UnitStr := ['k', 'J', '/', 'm', 'o', 'l']
def okVal (r : Val) (v : Rat) : Bool := match r with | .ok w => w == v | .error _ => false
def isErr (r : Val) (err : Err) : Bool := match r with | .ok _ => false | .error e' => e' == err

/-- H(300 K, kJ/mol) = (2·3)·300·8.3144598e-3 -/
example : okVal ((e.toND sel).H R 300 kJmol) (6 * 300 * (83144598 / 10000000000)) = true := by decide +kernel
example : isErr ((e.toND sel).H R 300 ['J']) .badUnits = true := by decide +kernel
/-- the elemental sum for CH₄: C + 4 H -/
example : okVal (selements sel e.name) (6903636/10000000 + 4 * (78585984/10000000)) = true := by decide +kernel
example : okVal (e.SoR sel 300 (.bool true)) (1 - (6903636/10000000 + 4 * (78585984/10000000))) = true := by decide +kernel
example : okVal (e.SoR sel 300 (.int 0)) 1 = true := by decide +kernel
/-- technetium has no tabulated entropy -/
example : isErr (selements sel (some [43])) (.noElement 43) = true := by decide +kernel
example : isErr ((⟨none, [(c, 2)], none, none⟩ : Estimator).SoR sel 300 (.bool true)) .noMolecule = true := by decide +kernel

end Ex07

end PGA.Estimate
