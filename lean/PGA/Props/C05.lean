import PGA.Proofs.ThermoDefects
import PGA.Proofs.ThermoRange
/-!
# C05 — correlations are thermodynamically consistent with their data

Property theorems about the model `PGA.Model.Thermo` of `pgradd/ThermoChem/raw_data.py`,
`incomplete.py` (evaluation wrappers) and `base.py` (`get_GoRT`).  Vocabulary in `PGA/Spec/Thermo.lean`,
helper lemmas in `PGA/Proofs/Thermo.lean`, `PGA/Proofs/ThermoRange.lean`.

Quantifiers: every table of any length ≥ 1 in any supply order, every placement of the reference
temperature (below / at an end / inside / above the tabulated span), every declared or defaulted range
whose lower end is positive, every evaluation temperature in range.  The interpolant is a parameter
constrained by `Interp.Good` / `Interp.Hits` (assumption A-spline, re-validated numerically by the harness).
-/
namespace PGA.Thermo
variable {ip : Interp} {Href Sref : Rat} {pts : List Pt} {Tref : Rat} {range : Option Range} {d : RawData}

/-- **T1 (enthalpy)** at the reference temperature the correlation returns the reference H/RT — for every
table and every placement of `T_ref`. -/
theorem C05_ref_enthalpy (hmk : RawData.mk ip Href Sref pts Tref range = .ok d) (hg : ip.Good)
    (hpos : 0 < d.range.1) : d.HoRT Tref = .ok Href := by
  have hb := RawData.mk_built hmk
  have hT : inRange Tref (some d.range) := ⟨hb.tref ▸ hb.lo_le_ref, hb.tref ▸ hb.ref_le_hi⟩
  obtain ⟨h, hne⟩ := HoRT_in_range hpos hT
  rw [h, hNum_integral hmk hg, d.intCp_self (hb.good hg).I_add, add_zero, mul_div_cancel_right₀ _ hne]

/-- **T1 (entropy)** at the reference temperature the correlation returns the reference S/R. -/
theorem C05_ref_entropy (hmk : RawData.mk ip Href Sref pts Tref range = .ok d) (hg : ip.Good)
    (hpos : 0 < d.range.1) : d.SoR Tref = .ok Sref := by
  have hb := RawData.mk_built hmk
  have hT : inRange Tref (some d.range) := ⟨hb.tref ▸ hb.lo_le_ref, hb.tref ▸ hb.ref_le_hi⟩
  rw [SoR_in_range hT, sVal_integral hmk hg hpos,
    d.intCpT_self (hb.good hg) (hpos.trans_le hb.lo_le_min) (hpos.trans_le hT.1), add_zero]

/-- **T2** for any two temperatures in range, the change of `T·(H/RT)` is the integral of the extended
heat capacity (`Cp/R` held at the end values outside the tabulated span). -/
theorem C05_enthalpy_integral (hmk : RawData.mk ip Href Sref pts Tref range = .ok d) (hg : ip.Good)
    (hpos : 0 < d.range.1) (T₁ T₂ : Rat) (h₁ : inRange T₁ (some d.range)) (h₂ : inRange T₂ (some d.range)) :
    ∃ v₁ v₂, d.HoRT T₁ = .ok v₁ ∧ d.HoRT T₂ = .ok v₂ ∧ T₂ * v₂ - T₁ * v₁ = d.intCp T₁ T₂ := by
  obtain ⟨e₁, n₁⟩ := HoRT_in_range hpos h₁
  obtain ⟨e₂, n₂⟩ := HoRT_in_range hpos h₂
  refine ⟨_, _, e₁, e₂, ?_⟩
  rw [mul_div_cancel₀ _ n₁, mul_div_cancel₀ _ n₂, hNum_integral hmk hg, hNum_integral hmk hg,
    ← d.intCp_add ((RawData.mk_built hmk).good hg).I_add Tref T₁ T₂, add_sub_add_left_eq_sub, add_sub_cancel_left]

/-- **T3** for any two temperatures in range, the change of `S/R` is the integral of the extended
`Cp/(R·T)`. -/
theorem C05_entropy_integral (hmk : RawData.mk ip Href Sref pts Tref range = .ok d) (hg : ip.Good)
    (hpos : 0 < d.range.1) (T₁ T₂ : Rat) (h₁ : inRange T₁ (some d.range)) (h₂ : inRange T₂ (some d.range)) :
    ∃ s₁ s₂, d.SoR T₁ = .ok s₁ ∧ d.SoR T₂ = .ok s₂ ∧ s₂ - s₁ = d.intCpT T₁ T₂ := by
  have hb := RawData.mk_built hmk
  refine ⟨_, _, SoR_in_range h₁, SoR_in_range h₂, ?_⟩
  rw [sVal_integral hmk hg hpos, sVal_integral hmk hg hpos,
    ← d.intCpT_add (hb.good hg) (hpos.trans_le hb.lo_le_min) (hb.tref ▸ hpos.trans_le hb.lo_le_ref)
      (hpos.trans_le h₁.1) (hpos.trans_le h₂.1),
    add_sub_add_left_eq_sub, add_sub_cancel_left]

/-- **T4a** each tabulated `Cp/R` is reproduced at its temperature (any table length, any supply order). -/
theorem C05_cp_at_data_points (hmk : RawData.mk ip Href Sref pts Tref range = .ok d) (hh : ip.Hits pts) :
    ∀ p ∈ pts, d.CpoR p.1 = .ok p.2 := by
  have hb := RawData.mk_built hmk
  intro p hp
  have l1 := hb.min_le p hp
  have l2 := hb.le_max p hp
  have hT : inRange p.1 (some d.range) := ⟨le_trans hb.lo_le_min l1, le_trans l2 hb.max_le_hi⟩
  rw [CpoR_in_range hT, RawData.CpExt, if_neg (not_lt.mpr l1), if_neg (not_lt.mpr l2), hb.hits hh p hp]

/-- **T4b** everywhere in range, `Cp/R` is the extended heat capacity: the interpolant inside the
tabulated span, the value of the lowest-temperature data point below it, of the highest above it. -/
theorem C05_cp_extended (hmk : RawData.mk ip Href Sref pts Tref range = .ok d) {T : Rat}
    (hT : inRange T (some d.range)) :
    d.CpoR T = .ok (d.CpExt T) ∧ (d.minT, d.minCp) ∈ pts ∧ (d.maxT, d.maxCp) ∈ pts ∧
      (∀ p ∈ pts, d.minT ≤ p.1 ∧ p.1 ≤ d.maxT) := by
  have hb := RawData.mk_built hmk
  exact ⟨CpoR_in_range hT, hb.min_mem, hb.max_mem, fun p hp => ⟨hb.min_le p hp, hb.le_max p hp⟩⟩

/-- **T5** `G/RT = H/RT − S/R` whenever both are values; an error of either is the error of G/RT. -/
theorem C05_gibbs (d : RawData) (T : Rat) :
    (∀ h s, d.HoRT T = .ok h → d.SoR T = .ok s → d.GoRT T = .ok (h - s)) ∧
    (∀ e, d.HoRT T = .error e → d.GoRT T = .error e) ∧
    (∀ h e, d.HoRT T = .ok h → d.SoR T = .error e → d.GoRT T = .error e) := by
  unfold RawData.GoRT
  refine ⟨fun h s e1 e2 => by rw [e1, e2], fun e e1 => by rw [e1], fun h e e1 e2 => by rw [e1, e2]⟩

/-- **T6** the constructed correlation does not depend on the order in which the data points were
supplied (temperatures pairwise distinct). -/
theorem C05_order_independent (ip : Interp) (Href Sref : Rat) (pts pts' : List Pt) (Tref : Rat) (range : Option Range)
    (hp : pts.Perm pts') (hn : (pts.map (·.1)).Nodup) :
    RawData.mk ip Href Sref pts Tref range = RawData.mk ip Href Sref pts' Tref range := by
  unfold RawData.mk
  rw [sortPts_perm_eq pts pts' hp hn]


/-- **T7** a `ThermochemIncomplete`/`ThermochemGroup` that has heat-capacity data evaluates through the
table correlation built from the same data (missing reference values replaced by 0), converting the
out-of-range error into the incomplete-data error; a missing reference value is the incomplete-data error. -/
theorem C05_incomplete_delegates {Href Sref : Option Rat} {cp : List Pt} {c : Incomplete}
    (hmk : Incomplete.mk ip Href Sref cp Tref range = .ok c) (hcp : cp ≠ []) :
    ∃ d, RawData.mk ip (Href.getD 0) (Sref.getD 0) cp Tref range = .ok d ∧ c.range = range ∧
      ∀ T, c.CpoR T = (convertErr (d.CpoR T), false) ∧
        (c.HoRT T = match Href with | none => (.error .incomplete, false) | some _ => (convertErr (d.HoRT T), false)) ∧
        (c.SoR T = match Sref with | none => (.error .incomplete, false) | some _ => (convertErr (d.SoR T), false)) := by
  obtain ⟨_, eH, eS, eCp, _, eR, hd⟩ := Incomplete.mk_wf hmk
  obtain ⟨d, hd, hc⟩ := hd hcp
  refine ⟨d, hd, eR, fun T => ?_⟩
  obtain ⟨e1, e2, e3⟩ := Incomplete.eval_cp (eCp ▸ hcp) hc T
  rw [eH] at e2
  rw [eS] at e3
  exact ⟨e1, by cases Href <;> exact e2, by cases Sref <;> exact e3⟩

/-- **T7'** consequently a `ThermochemIncomplete`/`ThermochemGroup` with heat-capacity data, both reference
values and a declared range with positive lower end is
consistent with its data in the same sense: reference values at `T_ref`, and for any two temperatures in range the
changes of `T·(H/RT)` and `S/R` are the integrals of the extended `Cp/R` and `Cp/(R·T)` of its table correlation;
no warning is issued. -/
theorem C05_incomplete_consistent {h s : Rat} {cp : List Pt} {r : Range} {c : Incomplete}
    (hmk : Incomplete.mk ip (some h) (some s) cp Tref (some r) = .ok c) (hcp : cp ≠ []) (hg : ip.Good) (hpos : 0 < r.1) :
    ∃ d, RawData.mk ip h s cp Tref (some r) = .ok d ∧
      c.HoRT Tref = (.ok h, false) ∧ c.SoR Tref = (.ok s, false) ∧
      ∀ T₁ T₂, inRange T₁ (some r) → inRange T₂ (some r) →
        ∃ h₁ h₂ s₁ s₂, c.HoRT T₁ = (.ok h₁, false) ∧ c.HoRT T₂ = (.ok h₂, false) ∧
          c.SoR T₁ = (.ok s₁, false) ∧ c.SoR T₂ = (.ok s₂, false) ∧
          T₂ * h₂ - T₁ * h₁ = d.intCp T₁ T₂ ∧ s₂ - s₁ = d.intCpT T₁ T₂ ∧
          c.GoRT T₁ = (.ok (h₁ - s₁), false) := by
  obtain ⟨d, hd, _, hev⟩ := C05_incomplete_delegates hmk hcp
  have hr : d.range = r := (RawData.mk_built hd).range_some r rfl
  have hpos' : 0 < d.range.1 := hr ▸ hpos
  have H : ∀ {T v}, d.HoRT T = .ok v → c.HoRT T = (.ok v, false) := fun e => by rw [(hev _).2.1, e]; rfl
  have S : ∀ {T v}, d.SoR T = .ok v → c.SoR T = (.ok v, false) := fun e => by rw [(hev _).2.2, e]; rfl
  refine ⟨d, hd, H (C05_ref_enthalpy hd hg hpos'), S (C05_ref_entropy hd hg hpos'), fun T₁ T₂ i₁ i₂ => ?_⟩
  obtain ⟨h₁, h₂, e₁, e₂, eh⟩ := C05_enthalpy_integral hd hg hpos' T₁ T₂ (hr ▸ i₁) (hr ▸ i₂)
  obtain ⟨s₁, s₂, f₁, f₂, es⟩ := C05_entropy_integral hd hg hpos' T₁ T₂ (hr ▸ i₁) (hr ▸ i₂)
  refine ⟨h₁, h₂, s₁, s₂, H e₁, H e₂, S f₁, S f₂, eh, es, ?_⟩
  unfold Incomplete.GoRT gibbs
  rw [H e₁, S f₁]
  rfl

/-- The specification integral `intCp` really is "the integral of Cp/R held at the end values outside the
tabulated span": it is additive, equals `minCp·(b−a)` below the table, the interpolant's own integral
inside, and `maxCp·(b−a)` above. -/
theorem C05_intCp_is_extension (hmk : RawData.mk ip Href Sref pts Tref range = .ok d) (hg : ip.Good) :
    (∀ a b c, d.intCp a b + d.intCp b c = d.intCp a c) ∧
    (∀ a b, a ≤ d.minT → b ≤ d.minT → d.intCp a b = d.minCp * (b - a)) ∧
    (∀ a b, d.minT ≤ a → a ≤ d.maxT → d.minT ≤ b → b ≤ d.maxT → d.intCp a b = d.ip.I a b) ∧
    (∀ a b, d.maxT ≤ a → d.maxT ≤ b → d.intCp a b = d.maxCp * (b - a)) := by
  have hb := RawData.mk_built hmk
  have hmm := hb.min_le_max
  have hg' := hb.good hg
  refine ⟨d.intCp_add hg'.I_add, fun a b ha hb' => ?_, fun a b ha ha' hb' hb'' => ?_, fun a b ha hb' => ?_⟩
  · simp only [RawData.intCp, RawData.coords_below hmm ha, RawData.coords_below hmm hb', hg'.I_self, sub_self,
      mul_zero, add_zero]
  · simp only [RawData.intCp, RawData.coords_inside ha ha', RawData.coords_inside hb' hb'', sub_self, mul_zero,
      zero_add, add_zero]
  · simp only [RawData.intCp, RawData.coords_above hmm ha, RawData.coords_above hmm hb', hg'.I_self, sub_self,
      mul_zero, zero_add]

/-- The same for `intCpT`, the integral of the extended `Cp/(R·t)`, on positive temperatures:
additive, `minCp·log(b/a)` below the table, the quadrature `J` inside, `maxCp·log(b/a)` above. -/
theorem C05_intCpT_is_extension (hmk : RawData.mk ip Href Sref pts Tref range = .ok d) (hg : ip.Good)
    (hpos : 0 < d.range.1) :
    (∀ a b c, 0 < a → 0 < b → 0 < c → d.intCpT a b + d.intCpT b c = d.intCpT a c) ∧
    (∀ a b, 0 < a → 0 < b → a ≤ d.minT → b ≤ d.minT → d.intCpT a b = d.minCp * d.ip.lg a b) ∧
    (∀ a b, d.minT ≤ a → a ≤ d.maxT → d.minT ≤ b → b ≤ d.maxT → d.intCpT a b = d.ip.J a b) ∧
    (∀ a b, d.maxT ≤ a → d.maxT ≤ b → d.intCpT a b = d.maxCp * d.ip.lg a b) := by
  have hb := RawData.mk_built hmk
  have hmm := hb.min_le_max
  have hg' := hb.good hg
  have p1 : 0 < d.minT := hpos.trans_le hb.lo_le_min
  have p2 : 0 < d.maxT := p1.trans_le hmm
  refine ⟨fun a b c => d.intCpT_add hg' p1, fun a b _ _ ha hb' => ?_, fun a b ha ha' hb' hb'' => ?_,
    fun a b ha hb' => ?_⟩
  · simp only [RawData.intCpT, RawData.coords_below hmm ha, RawData.coords_below hmm hb', hg'.J_self p1,
      hg'.lg_self p2, mul_zero, add_zero]
  · simp only [RawData.intCpT, RawData.coords_inside ha ha', RawData.coords_inside hb' hb'', hg'.lg_self p1,
      hg'.lg_self p2, mul_zero, zero_add, add_zero]
  · simp only [RawData.intCpT, RawData.coords_above hmm ha, RawData.coords_above hmm hb', hg'.J_self p2,
      hg'.lg_self p1, mul_zero, zero_add]

/-! ### non-vacuity: concrete inputs meeting the hypotheses
`exIp` (Cp/R = t/100, defined in `PGA/Proofs/ThermoDefects.lean`) satisfies `Interp.Good` (`exIp_good`); it passes
through the three data points below, supplied out of order; the constructor succeeds with a positive lower range
end for a reference temperature below / at the first point / inside / at the last point / above the table, and for
a one-point table without a declared range. -/

def exPts : List Pt := [(400, 4), (300, 3), (500, 5)]

theorem exIp_hits : exIp.Hits exPts := by
  intro p hp
  simp only [exPts, List.mem_cons, List.not_mem_nil, or_false] at hp
  rcases hp with rfl | rfl | rfl <;> decide +kernel

def builtOk (r : Except Err RawData) : Bool := match r with | .ok d => decide (0 < d.range.1) | .error _ => false

example : builtOk (RawData.mk exIp 2 3 exPts 250 (some (200, 600))) = true := by decide +kernel
example : builtOk (RawData.mk exIp 2 3 exPts 300 (some (200, 600))) = true := by decide +kernel
example : builtOk (RawData.mk exIp 2 3 exPts 350 (some (200, 600))) = true := by decide +kernel
example : builtOk (RawData.mk exIp 2 3 exPts 500 (some (200, 600))) = true := by decide +kernel
example : builtOk (RawData.mk exIp 2 3 exPts 550 (some (200, 600))) = true := by decide +kernel
example : builtOk (RawData.mk exIp 2 3 [(300, 7)] 300 none) = true := by decide +kernel
/-- hypotheses of `C05_order_independent` -/
example : exPts.Perm [(300, 3), (400, 4), (500, 5)] ∧ (exPts.map (·.1)).Nodup := by decide +kernel
/-- hypotheses of `C05_incomplete_delegates` -/
example : (match Incomplete.mk exIp (some 2) none exPts 350 (some (200, 600)) with | .ok c => !c.cp.isEmpty | _ => false) = true := by
  decide +kernel
/-- the error outcomes of the constructor are reachable: empty table, table outside the range, reference outside
the range, repeated temperature -/
example : (match RawData.mk exIp 2 3 [] 300 none with | .error .value => true | _ => false) = true := by decide +kernel
example : (match RawData.mk exIp 2 3 exPts 350 (some (350, 600)) with | .error .value => true | _ => false) = true := by decide +kernel
example : (match RawData.mk exIp 2 3 exPts 250 none with | .error .value => true | _ => false) = true := by decide +kernel
example : (match RawData.mk exIp 2 3 [(300, 3), (300, 4)] 300 none with | .error .value => true | _ => false) = true := by decide +kernel

end PGA.Thermo
