import PGA.Proofs.SchemeRelabel
import PGA.Proofs.Aromatize
import PGA.Proofs.AromatizeLiteral
import PGA.Proofs.DecomposeRelabel
import PGA.Proofs.RingPresentation
import PGA.Props.C02
/-!
# C03 — descriptors do not depend on how the molecule is written

For the model of the decomposition above the matcher: any renumbering `π` of the atoms (a bijection preserving
`0..n-1`), with the neighbour lists transported as multisets and the patterns' matches transported as *sets*
(`Relabel`, `PGA/Spec/Relabel.lean`), leaves every count and the failure outcome unchanged.  Every molecule size,
every scheme, every chain-free remap table.  That the matcher transports matches this way is proved below, end to
end: every predicate of `Spec.Embeds` is invariant under a renumbering of the graph (`C03_embeds_relabel`, via
`Spec.OpenMap`), the perception commutes with it (`C03_aromatize_relabel`), hence `PGA.Decompose.decompose` gives the same
result on a renumbered graph (`C03_decompose_relabel`) and — under the guard below — on a graph whose rings are presented
differently (`C03_decompose_ring_presentation_partial`; without the guard: refuted, `…_full_fails`).

The Benson C6 perception (`PGA/Model/Aromatize.lean`, `C03_aromatize_*` below) does not depend on where a ring's atom
list starts or which way round it runs, and not on the ORDER of the ring list as long as no two rings that pass the
check share a bond; for fused rings the order matters (finding F3: `C03_aromatize_order_full_fails`).
-/
namespace PGA.C03

/-- the renumbering of the non-vacuity examples: atoms 0 and 1 swapped -/
def swap01 (i : Nat) : Nat := if i = 0 then 1 else if i = 1 then 0 else i

theorem swap01_of_two_le {i : Nat} (h : 2 ≤ i) : swap01 i = i := by
  unfold swap01; rw [if_neg (by omega), if_neg (by omega)]

/-- a relation between an atom and its image under the swap is checked at 0, at 1, and on the atoms left alone -/
theorem swap01_cases {P : Nat → Nat → Prop} (h0 : P 0 1) (h1 : P 1 0) (h : ∀ i, 2 ≤ i → P i i) (i : Nat) :
    P i (swap01 i) := by
  rcases i with _ | _ | i
  · exact h0
  · exact h1
  · rw [swap01_of_two_le (by omega)]; exact h _ (by omega)

theorem swap01_invol (i : Nat) : swap01 (swap01 i) = i :=
  swap01_cases (P := fun i j => swap01 j = i) rfl rfl (fun _ h => swap01_of_two_le h) i

end PGA.C03

namespace PGA.Scheme
open PGA

variable {inp inp' : Input} {π : Nat → Nat}

/-- every atom is matched by as many centre patterns after renumbering as before -/
theorem C03_cnt_relabel (R : Relabel inp inp' π) (i : Nat) : cnt inp'.centres (π i) = cnt inp.centres i :=
  cnt_relabel R i

/-- centre classification succeeds for one numbering iff for the other, and gives atom `π i` the names of atom `i` -/
theorem C03_centres_relabel (R : Relabel inp inp' π) :
    ((∃ a', assignCentres inp' = .ok a') ↔ (∃ a, assignCentres inp = .ok a)) ∧
    ∀ a a', assignCentres inp = .ok a → assignCentres inp' = .ok a' → ∀ i, a'.get? (π i) = a.get? i :=
  ⟨centres_ok_relabel R, fun a a' ha ha' i => get_relabel R a a' ha ha' i⟩

/-- the group contributed by an atom is the same (canonical names ignore neighbour order: C19) -/
theorem C03_groupName_relabel (R : Relabel inp inp' π) (a a' : Assign)
    (ha : assignCentres inp = .ok a) (ha' : assignCentres inp' = .ok a') (i : Nat) :
    groupName a' inp'.nbrs (π i) = groupName a inp.nbrs i := groupName_relabel R a a' ha ha' i

theorem C03_groupCount_relabel (R : Relabel inp inp' π) (a a' : Assign)
    (ha : assignCentres inp = .ok a) (ha' : assignCentres inp' = .ok a') (g : String) :
    ((List.range inp'.n).filter fun j => decide (groupName a' inp'.nbrs j = some g)).length
      = ((List.range inp.n).filter fun i => decide (groupName a inp.nbrs i = some g)).length :=
  groupCount_relabel R a a' ha ha' g

/-- the number of distinct matched atom sets is preserved by an injective renumbering -/
theorem C03_distinctSets_relabel (hinj : Function.Injective π) (ms ms' : List Match)
    (h : (ms'.map List.toFinset).toFinset = ((ms.map List.toFinset).toFinset).image (Finset.image π)) :
    distinctSets ms' = distinctSets ms := distinctSets_relabel hinj ms ms' h

/-- the remap pass sees a dictionary only through its counts, never through its insertion order -/
theorem C03_remap_depends_on_counts_only (rm : List (String × List (Rat × String))) (hcf : ChainFree rm)
    (c c' : Counts) (hc : (Counts.keys c).Nodup) (hc' : (Counts.keys c').Nodup)
    (hget : ∀ k, c.get k = c'.get k) (t : String) :
    (remapAll rm c).get t = (remapAll rm c').get t := remapAll_get_congr rm hcf c c' hc hc' hget t

/-- **C03 for the decomposition model.** Renumbering the atoms changes neither the failure outcome nor the count of any
descriptor. -/
theorem C03_descriptors_relabel (R : Relabel inp inp' π) (hcf : ChainFree inp.remaps) :
    (getDescriptors inp' = .error .patternMatch ↔ getDescriptors inp = .error .patternMatch) ∧
    ∀ res res', getDescriptors inp = .ok res → getDescriptors inp' = .ok res' → ∀ t, res'.get t = res.get t := by
  constructor
  · rw [C02_getDescriptors_error_iff, C02_getDescriptors_error_iff, error_iff_not_ok, error_iff_not_ok]
    exact not_congr (centres_ok_relabel R)
  · intro res res' hres hres' t
    obtain ⟨a, ha⟩ := (getDescriptors_ok_iff inp).1 ⟨res, hres⟩
    obtain ⟨a', ha'⟩ := (getDescriptors_ok_iff inp').1 ⟨res', hres'⟩
    rw [C02_getDescriptors_value inp a res ha hres t, C02_getDescriptors_value inp' a' res' ha' hres' t]
    simp only
    rw [countDescs_relabel_aux R.inj _ _ R.descs [], R.remaps,
      remapAll_get_congr inp.remaps hcf (countGroups a' inp'.nbrs (List.range inp'.n) [])
        (countGroups a inp.nbrs (List.range inp.n) []) (countGroups_nodup _ _ _ _ List.nodup_nil)
        (countGroups_nodup _ _ _ _ List.nodup_nil)
        (fun g => by rw [countGroups_get, countGroups_get, groupCount_relabel R a a' ha ha' g]) t]

/-! ### non-vacuity: ethane-like two-atom input and its swap -/
example : Relabel ⟨2, [[1], [0]], [⟨"C", "C", [[0, 1], [1, 0]]⟩], [], []⟩
    ⟨2, [[1], [0]], [⟨"C", "C", [[1, 0], [0, 1]]⟩], [], []⟩ (fun i => if i = 0 then 1 else if i = 1 then 0 else i) := by
  have ge2 : ∀ i, 2 ≤ i → [[1], [0]].getD i [] = [] := fun i h => by
    rw [List.getD_eq_getElem?_getD, List.getElem?_eq_none_iff.2 h]; rfl
  refine ⟨Function.Involutive.injective PGA.C03.swap01_invol, Function.Involutive.surjective PGA.C03.swap01_invol, rfl,
    PGA.C03.swap01_cases (P := fun i j => j < 2 ↔ i < 2) (by decide) (by decide) fun _ _ => Iff.rfl,
    PGA.C03.swap01_cases (P := fun i j => ([[1], [0]].getD j []).Perm (([[1], [0]].getD i []).map PGA.C03.swap01))
      (.refl _) (.refl _) fun i h => by rw [ge2 i h]; exact .refl _,
    .cons ⟨rfl, rfl, ?_⟩ .nil, .nil, rfl⟩
  have e1 : firstAtoms [[1, 0], [0, 1]] = [1, 0] := by decide +kernel
  have e2 : firstAtoms [[0, 1], [1, 0]] = [0, 1] := by decide +kernel
  rw [e1, e2]
  exact PGA.C03.swap01_cases (P := fun i j => j ∈ [1, 0] ↔ i ∈ [0, 1]) (by decide) (by decide)
    fun _ _ => (List.Perm.swap 0 1 []).mem_iff

end PGA.Scheme

/-! ## The Benson aromatic perception (`_aromatization_Benson`) -/
namespace PGA.C03
open PGA PGA.Arom PGA.Spec

/-- **One ring, written differently.** Visiting a ring under any rotation or reflection of its atom list does the same
to the molecule — every graph, every list (lists that are not six atoms long are skipped either way). -/
theorem C03_aromatize_ring_equiv (m : Mol) {r r' : List Nat} (h : RingEquiv r r') : aromStep m r' = aromStep m r :=
  aromStep_equiv m h

/-- **A ring list whose rings are written differently** (same order of the rings; each ring rotated/reflected at will):
the perception gives the same molecule. -/
theorem C03_aromatize_rings_equiv (rs rs' : List (List Nat)) (h : List.Forall₂ RingEquiv rs rs') (m : Mol) :
    aromatizeRings rs' m = aromatizeRings rs m := aromatizeRings_equiv rs rs' h m

/-- the molecule carrying a ring list whose rings are rotated/reflected at will (same order; `Mol.rings` is all that
differs) is given the same atoms and bonds by the perception -/
theorem C03_aromatize_rotation_reflection (m : Mol) (rs' : List (List Nat)) (h : List.Forall₂ RingEquiv m.rings rs') :
    (aromatizeBenson { m with rings := rs' }).atoms = (aromatizeBenson m).atoms ∧
    (aromatizeBenson { m with rings := rs' }).bonds = (aromatizeBenson m).bonds := by
  unfold aromatizeBenson
  show (aromatizeRings rs' { m with rings := rs' }).atoms = _ ∧ (aromatizeRings rs' { m with rings := rs' }).bonds = _
  rw [PGA.Decompose.aromatizeRings_with_rings, aromatizeRings_equiv m.rings rs' h m]
  exact ⟨rfl, rfl⟩

/-- **The model's one-pass update is the code's call-by-call update**: on every graph without parallel bonds (every
`Mol.wf` graph) and every six-atom ring list, `setAromatic` (every bond joining two consecutive ring atoms retyped, ring
atoms flagged — one pass) equals the six `GetAtomWithIdx(a).SetIsAromatic(True)` and six
`GetBondBetweenAtoms(x, y).SetBondType(AROMATIC)` calls of `Scheme.py:372-407` executed one after the other. -/
theorem C03_aromatize_update_literal (m : Mol) (hm : m.wf = true) (r : List Nat) (h6 : r.length = 6) :
    setAromatic m r = setAromaticLiteral m r :=
  setAromatic_eq_literal m (m.wf_iff.1 hm).2.1 r h6

/-- **Order of the ring list, proved part.** If no two rings that pass Benson's check on `m` share a bond
(`EligibleRingsBondDisjoint m`, decidable), visiting the rings in any other order gives the same molecule: every
graph, any number of rings, any permutation. -/
theorem C03_aromatize_order_partial (m : Mol) (rs' : List (List Nat)) (hp : m.rings.Perm rs')
    (hd : EligibleRingsBondDisjoint m) : aromatizeRings rs' m = aromatizeBenson m :=
  aromatizeRings_perm m m.rings rs' hp hd

/-- **Order of the ring list, full statement**: the perception does not depend on the order in which the rings are
listed.  False of the code as it is (finding F3): `C03_aromatize_order_full_fails`. -/
def C03_aromatize_order_full : Prop :=
  ∀ (m : Mol) (rs' : List (List Nat)), m.rings.Perm rs' → aromatizeRings rs' m = aromatizeBenson m

/-- 1-methylnaphthalene as RDKit gives it for `'Cc1cccc2ccccc12'` (explicit hydrogens, Kekulé form with the double bond
on the fusion bond 10–5, the two six-rings in RDKit's order); extracted by `harness/lib_mol.mol_to_json`. -/
def methylnaphthalene : Mol :=
  { atoms := [⟨6, 0, 0, false, some 4⟩, ⟨6, 0, 0, false, some 4⟩, ⟨6, 0, 0, false, some 4⟩, ⟨6, 0, 0, false, some 4⟩, ⟨6, 0, 0, false, some 4⟩, ⟨6, 0, 0, false, some 4⟩, ⟨6, 0, 0, false, some 4⟩, ⟨6, 0, 0, false, some 4⟩, ⟨6, 0, 0, false, some 4⟩, ⟨6, 0, 0, false, some 4⟩, ⟨6, 0, 0, false, some 4⟩, ⟨1, 0, 0, false, some 1⟩, ⟨1, 0, 0, false, some 1⟩, ⟨1, 0, 0, false, some 1⟩, ⟨1, 0, 0, false, some 1⟩, ⟨1, 0, 0, false, some 1⟩, ⟨1, 0, 0, false, some 1⟩, ⟨1, 0, 0, false, some 1⟩, ⟨1, 0, 0, false, some 1⟩, ⟨1, 0, 0, false, some 1⟩, ⟨1, 0, 0, false, some 1⟩],
    bonds := [⟨0, 1, .single, false, .none, []⟩, ⟨1, 2, .double, true, .none, []⟩, ⟨2, 3, .single, true, .none, []⟩, ⟨3, 4, .double, true, .none, []⟩, ⟨4, 5, .single, true, .none, []⟩, ⟨5, 6, .single, true, .none, []⟩, ⟨6, 7, .double, true, .none, []⟩, ⟨7, 8, .single, true, .none, []⟩, ⟨8, 9, .double, true, .none, []⟩, ⟨9, 10, .single, true, .none, []⟩, ⟨10, 1, .single, true, .none, []⟩, ⟨10, 5, .double, true, .none, []⟩, ⟨0, 11, .single, false, .none, []⟩, ⟨0, 12, .single, false, .none, []⟩, ⟨0, 13, .single, false, .none, []⟩, ⟨2, 14, .single, false, .none, []⟩, ⟨3, 15, .single, false, .none, []⟩, ⟨4, 16, .single, false, .none, []⟩, ⟨6, 17, .single, false, .none, []⟩, ⟨7, 18, .single, false, .none, []⟩, ⟨8, 19, .single, false, .none, []⟩, ⟨9, 20, .single, false, .none, []⟩],
    rings := [[1, 10, 5, 4, 3, 2], [6, 7, 8, 9, 10, 5]] }

/-- **The full statement fails (F3).** On 1-methylnaphthalene both rings pass the check and share the bond 10–5:
whichever is visited first becomes aromatic and spoils the other.  In RDKit's order the substituted ring (atom 1 carries
the methyl group) is aromatic, in the other order it is not. -/
theorem C03_aromatize_order_full_fails : ¬ C03_aromatize_order_full := by
  intro h
  have := h methylnaphthalene [[6, 7, 8, 9, 10, 5], [1, 10, 5, 4, 3, 2]] (.swap _ _ _)
  have hne : (aromatizeRings [[6, 7, 8, 9, 10, 5], [1, 10, 5, 4, 3, 2]] methylnaphthalene).atoms[1]?.map (·.aromatic)
      ≠ (aromatizeBenson methylnaphthalene).atoms[1]?.map (·.aromatic) := by decide +kernel
  exact hne (by rw [this])

/-- the witness is a well-formed graph whose rings are bonded cycles, and it violates the guard of the proved part -/
example : methylnaphthalene.wf = true ∧ methylnaphthalene.ringsBonded = true ∧
    ¬ EligibleRingsBondDisjoint methylnaphthalene := by decide +kernel

/-- non-vacuity of the proved part: the witness graph with only its substituted ring listed meets the guard (one ring
passes the check), and so does the graph listing that ring and a ring that fails the check -/
example : EligibleRingsBondDisjoint { methylnaphthalene with rings := [[1, 10, 5, 4, 3, 2]] } ∧
    EligibleRingsBondDisjoint { methylnaphthalene with rings := [[1, 10, 5, 4, 3, 2], [6, 7, 8, 9, 10, 0]] } := by decide +kernel

/-- non-vacuity of the rotation/reflection theorem: the substituted ring started at atom 5 and walked the other way -/
example : RingEquiv [1, 10, 5, 4, 3, 2] [5, 10, 1, 2, 3, 4] := by
  have h1 : RingEquiv [1, 10, 5, 4, 3, 2] [2, 3, 4, 5, 10, 1] := .rev _
  have h2 : RingEquiv [2, 3, 4, 5, 10, 1] [3, 4, 5, 10, 1, 2] := .rot 2 _
  have h3 : RingEquiv [3, 4, 5, 10, 1, 2] [4, 5, 10, 1, 2, 3] := .rot 3 _
  have h4 : RingEquiv [4, 5, 10, 1, 2, 3] [5, 10, 1, 2, 3, 4] := .rot 4 _
  exact .trans h1 (.trans h2 (.trans h3 h4))

/-- **Renumbering the atoms commutes with the perception**: if `m'` is `m` with every atom `i` renamed `π i` (bonds
renamed and listed in any order, rings renamed in the same order), the aromatised `m'` is the aromatised `m` renamed the
same way — every well-formed graph, every bijection `π`. -/
theorem C03_aromatize_relabel {π : Nat → Nat} {m m' : Mol} (iso : MolIso π m m') (hm : m.wf = true) :
    MolIso π (aromatizeBenson m) (aromatizeBenson m') := iso.aromatizeBenson hm (iso.wf hm)

/-- a renumbering of a well-formed graph is a well-formed graph -/
theorem C03_relabel_wf {π : Nat → Nat} {m m' : Mol} (iso : MolIso π m m') (hm : m.wf = true) : m'.wf = true := iso.wf hm

/-- **Embeddings are transported by a renumbering**: an assignment `f` into `m` embeds a query exactly when `π ∘ f`
embeds it in the renumbered graph — every atom, bond, constraint, stereo and molecule-level predicate of
`Spec/Embeds.lean` is invariant. -/
theorem C03_embeds_relabel {π : Nat → Nat} {m m' : Mol} (iso : MolIso π m m') (hm : m.wf = true) (q : Query) (f : List Nat)
    (hf : ∀ x ∈ f, x < m.natoms) : Embeds q m' (f.map π) ↔ Embeds q m f :=
  PGA.Decompose.embeds_iso iso hm q f hf

end PGA.C03

namespace PGA.C03
open PGA PGA.Spec PGA.Scheme PGA.Decompose PGA.Match

/-- **C03 end to end.** For every scheme and every pair of graphs of which one is the other with its atoms renumbered
(`MolIso π m m'`: atoms renamed; bonds renamed, listed in any order; rings renamed, in the same order): the
decomposition of the renumbered graph fails exactly when that of the original fails, and otherwise gives every name the
same count.  Hypotheses: the graph well-formed, queries well-formed (reader), no `*` suffix, every pattern's candidate
count below the cap on both aromatised graphs, chain-free remap table.  (Independence from the ORDER of the ring list is
`C03_aromatize_order_*`.) -/
theorem C03_decompose_relabel (S : SchemeDef) {π : Nat → Nat} {m m' : Mol} (iso : MolIso π m m')
    (hm : m.wf = true) (hq : S.wf = true) (hs : S.noStar = true)
    (hcap : maxRaw S (aromatizeBenson m) < maxMatches) (hcap' : maxRaw S (aromatizeBenson m') < maxMatches)
    (hcf : ChainFree S.remaps) :
    (decompose S m' = .error .patternMatch ↔ decompose S m = .error .patternMatch) ∧
    ∀ res res', decompose S m = .ok res → decompose S m' = .ok res' → ∀ t, res'.get t = res.get t := by
  have hm' := iso.wf hm
  have R := toInput_relabel S (iso.aromatizeBenson hm hm') (wf_aromatizeBenson m hm) (wf_aromatizeBenson m' hm') hq hs hcap hcap'
  exact PGA.Scheme.C03_descriptors_relabel R hcf

/-- **The matcher does not see how the rings are presented**: for a well-formed graph and any ring list `rs'` that
presents the same rings (`RingsSame`: each ring's atom list rotated/reflected at will, the list reordered at will), an
assignment embeds a query in the graph with `rs'` exactly when it embeds it in the graph with its own ring list —
ring-atom prefixes, ring sizes, ring counts and the `cyclic`/`linear` prefixes included. -/
theorem C03_embeds_ring_presentation (m : Mol) (hm : m.wf = true) (rs' : List (List Nat)) (h : RingsSame m.rings rs')
    (q : Query) (f : List Nat) : Embeds q { m with rings := rs' } f ↔ Embeds q m f :=
  embeds_rings m hm rs' h q f

/-- **C03 end to end, presentation of the rings (proved part).** The decomposition of a graph does not depend on where
RDKit starts each ring's atom list, which way round it walks it, or in which order it lists the rings — provided no two
rings that pass Benson's check share a bond (`EligibleRingsBondDisjoint`, decidable; without it the statement is false:
finding F3, `C03_aromatize_order_full_fails`).  Further hypotheses as in `C03_decompose_relabel`. -/
theorem C03_decompose_ring_presentation_partial (S : SchemeDef) (m : Mol) (rs' : List (List Nat))
    (h : RingsSame m.rings rs') (hd : EligibleRingsBondDisjoint m)
    (hm : m.wf = true) (hq : S.wf = true) (hs : S.noStar = true)
    (hcap : maxRaw S (aromatizeBenson m) < maxMatches)
    (hcap' : maxRaw S { aromatizeBenson m with rings := rs' } < maxMatches) (hcf : ChainFree S.remaps) :
    (decompose S { m with rings := rs' } = .error .patternMatch ↔ decompose S m = .error .patternMatch) ∧
    ∀ res res', decompose S m = .ok res → decompose S { m with rings := rs' } = .ok res' → ∀ t, res'.get t = res.get t := by
  have ha := wf_aromatizeBenson m hm
  have hr : RingsSame (aromatizeBenson m).rings rs' := by
    have : (aromatizeBenson m).rings = m.rings := aromatizeRings_rings m.rings m
    rw [this]; exact h
  have R := toInput_rings_relabel S (aromatizeBenson m) ha rs' hr hq hs hcap hcap'
  have key := PGA.Scheme.C03_descriptors_relabel R hcf
  unfold decompose
  rw [aromatizeBenson_rings m rs' h hd]
  exact key

/-- **The full statement** (no guard on the rings): false of the code as it is — `C03_decompose_ring_presentation_full_fails`.
The cap is assumed on `aromatizeBenson { m with rings := rs' }`, the graph the second decomposition matches against; in the
proved part it is on `{ aromatizeBenson m with rings := rs' }`, which is that graph under the guard
(`aromatizeBenson_rings`).  Only the counts of two successful decompositions are compared: the refutation needs no more. -/
def C03_decompose_ring_presentation_full : Prop :=
  ∀ (S : SchemeDef) (m : Mol) (rs' : List (List Nat)), RingsSame m.rings rs' → m.wf = true → S.wf = true → S.noStar = true →
    maxRaw S (aromatizeBenson m) < maxMatches → maxRaw S (aromatizeBenson { m with rings := rs' }) < maxMatches →
    ChainFree S.remaps →
    ∀ res res', decompose S m = .ok res → decompose S { m with rings := rs' } = .ok res' → ∀ t, res'.get t = res.get t

/-- a scheme for the witness: one centre entry matching every atom, one correction descriptor counting the aromatic
carbons that carry a carbon outside the rings (here: the methyl group) -/
def probeScheme : SchemeDef :=
  { centres := [⟨"X", "X", ⟨"a", [], [⟨"x", ⟨none, .any, .free⟩, []⟩], [], []⟩⟩],
    descs := [⟨"ArMe", ⟨"d", [], [⟨"c", ⟨some .aromatic, .elem 6, .free⟩,
                                   [.conn false ⟨.eq, 1⟩ ⟨some .nonringatom, .elem 6, .free⟩ .single]⟩], [], []⟩⟩],
    remaps := [] }

/-- **F3 end to end, in the model.** On 1-methylnaphthalene the descriptor "aromatic carbon carrying a methyl group" is
counted once with RDKit's ring order and not at all with the two rings listed the other way round: the decomposition
depends on the order of the ring list. -/
theorem C03_decompose_ring_presentation_full_fails : ¬ C03_decompose_ring_presentation_full := by
  intro h
  have hs : RingsSame methylnaphthalene.rings [[6, 7, 8, 9, 10, 5], [1, 10, 5, 4, 3, 2]] :=
    ⟨_, List.forall₂_same.2 fun r _ => .refl r, .swap _ _ _⟩
  have hcf : ChainFree probeScheme.remaps := by intro k ts hk; simp [probeScheme, lookupRemap] at hk
  have e1 : (decompose probeScheme methylnaphthalene).map (fun c => c.get "ArMe") = .ok 1 := by decide +kernel
  have e2 : (decompose probeScheme { methylnaphthalene with rings := [[6, 7, 8, 9, 10, 5], [1, 10, 5, 4, 3, 2]] }).map
      (fun c => c.get "ArMe") = .ok 0 := by decide +kernel
  cases h1 : decompose probeScheme methylnaphthalene with
  | error e => rw [h1] at e1; cases e1
  | ok res =>
    cases h2 : decompose probeScheme { methylnaphthalene with rings := [[6, 7, 8, 9, 10, 5], [1, 10, 5, 4, 3, 2]] } with
    | error e => rw [h2] at e2; cases e2
    | ok res' =>
      have := h probeScheme methylnaphthalene _ hs (by decide +kernel) (by decide) (by decide) (by decide +kernel) (by decide +kernel) hcf
        res res' h1 h2 "ArMe"
      rw [h1] at e1; rw [h2] at e2
      simp only [Except.map, Except.ok.injEq] at e1 e2
      rw [e1, e2] at this
      exact absurd this (by decide)

/-! ### non-vacuity: a C–H fragment and the same fragment with its two atoms swapped -/
def chMol : Mol :=
  { atoms := [⟨6, 0, 3, false, some 1⟩, ⟨1, 0, 0, false, some 1⟩], bonds := [⟨0, 1, .single, false, .none, []⟩], rings := [] }
def hcMol : Mol :=
  { atoms := [⟨1, 0, 0, false, some 1⟩, ⟨6, 0, 3, false, some 1⟩], bonds := [⟨1, 0, .single, false, .none, []⟩], rings := [] }

example : MolIso swap01 chMol hcMol :=
  ⟨Function.Involutive.injective swap01_invol, Function.Involutive.surjective swap01_invol,
    swap01_cases (P := fun i j => j < 2 ↔ i < 2) (by decide) (by decide) fun _ _ => Iff.rfl, rfl,
    swap01_cases (P := fun i j => hcMol.atoms[j]? = chMol.atoms[i]?) rfl rfl fun i h => by
      rw [List.getElem?_eq_none_iff.2 h, List.getElem?_eq_none_iff.2 h],
    .refl _, rfl⟩

end PGA.C03
