import PGA.Proofs.Estimate
/-!
# C01 — the estimate is the exact count-weighted sum of the group contributions

Property theorems about the model `PGA.Model.Estimate` of `GroupLibrary.Estimate`/`__getitem__`
(`pgradd/GroupAdd/Library.py`), `ThermochemGroupAdditive` (`pgradd/ThermoChem/group_data.py`) and
`ThermochemBase.get_GoRT` (`pgradd/ThermoChem/base.py`).  Vocabulary in `PGA/Spec/Estimate.lean`
(`corrOf`, `HasDatum`, `FailsWith`, `specEstimate`, `specMissing`, `Terms`), helper lemmas in
`PGA/Proofs/Estimate.lean`.

Quantifiers are unbounded: every library (any number of entries and property sets), every mapping given as a
list `(descriptor, count)` of any length with rational counts — integer, fractional, zero, negative —, every
temperature, every type of descriptor names.  What a constituent's own correlation returns is a parameter
(`Corr`): a value or an error class per temperature.

`e.CpoR T`, `e.HoRT T` are by definition `wsum (·.cp T) e.correlations`, `wsum (·.hort T) e.correlations`;
the general theorems are stated for an arbitrary datum `get : Corr → Val` and instantiated for the four
non-dimensional properties.
-/
namespace PGA.Estimate

section
variable {N S : Type} [DecidableEq N] [DecidableEq S]

/-- **T1 (terms)** A successful `Estimate` holds exactly one term per entry of the mapping, in mapping order:
the descriptor's own correlation for the requested property set, with the mapping's count. -/
theorem C01_terms (reg : List S) (lib : Library N S) (gs : List (N × Rat)) (s : S) (e : Estimator)
    (he : estimate reg lib gs s = .ok e) : Terms lib s gs e.correlations :=
  estimate_terms reg lib gs s e he

/-- **T1 (value)** For any datum: the estimate returns `v` exactly when every descriptor of the mapping has
that datum and `v = Σ count · (the descriptor's own value)`. -/
theorem C01_value_iff (get : Corr → Val) (reg : List S) (lib : Library N S) (gs : List (N × Rat)) (s : S)
    (e : Estimator) (he : estimate reg lib gs s = .ok e) (v : Rat) :
    wsum get e.correlations = .ok v ↔
      (∀ g ∈ gs, HasDatum lib s get g.1) ∧ v = specEstimate lib s get gs :=
  estimate_value_iff get reg lib gs s e he v

/-- **T1 for H/RT**: `get_HoRT(T)` of the estimate is `Σ n·h_d(T)`. -/
theorem C01_sum_H (reg : List S) (lib : Library N S) (gs : List (N × Rat)) (s : S) (e : Estimator) (T : Rat)
    (he : estimate reg lib gs s = .ok e) (h : N → Rat)
    (hv : ∀ g ∈ gs, ∃ c, corrOf lib s g.1 = some c ∧ c.hort T = .ok (h g.1)) :
    e.HoRT T = .ok ((gs.map fun g => g.2 * h g.1).sum) :=
  estimate_sum (·.hort T) reg lib gs s e he h hv

/-- **T1 for Cp/R**. -/
theorem C01_sum_Cp (reg : List S) (lib : Library N S) (gs : List (N × Rat)) (s : S) (e : Estimator) (T : Rat)
    (he : estimate reg lib gs s = .ok e) (h : N → Rat)
    (hv : ∀ g ∈ gs, ∃ c, corrOf lib s g.1 = some c ∧ c.cp T = .ok (h g.1)) :
    e.CpoR T = .ok ((gs.map fun g => g.2 * h g.1).sum) :=
  estimate_sum (·.cp T) reg lib gs s e he h hv

/-- **T1 for S/R** (entropy not taken relative to the elements: any falsy `S_elements`). -/
theorem C01_sum_S (reg : List S) (lib : Library N S) (gs : List (N × Rat)) (s : S) (e : Estimator) (T : Rat)
    (sel : Nat → Option Rat) (flag : PyFlag) (hf : flag.truthy = false)
    (he : estimate reg lib gs s = .ok e) (h : N → Rat)
    (hv : ∀ g ∈ gs, ∃ c, corrOf lib s g.1 = some c ∧ c.sor T = .ok (h g.1)) :
    e.SoR sel T flag = .ok ((gs.map fun g => g.2 * h g.1).sum) := by
  rw [SoR_plain sel e T flag hf]
  exact estimate_sum (·.sor T) reg lib gs s e he h hv

/-- **T1 for G/RT**: `get_GoRT(T)` of the estimate is `Σ n·(h_d(T) − s_d(T))`, the weighted sum of the
constituents' own `G/RT`. -/
theorem C01_sum_G (reg : List S) (lib : Library N S) (gs : List (N × Rat)) (s : S) (e : Estimator) (T : Rat)
    (sel : Nat → Option Rat) (flag : PyFlag) (hf : flag.truthy = false)
    (he : estimate reg lib gs s = .ok e) (hh hs : N → Rat)
    (hvh : ∀ g ∈ gs, ∃ c, corrOf lib s g.1 = some c ∧ c.hort T = .ok (hh g.1))
    (hvs : ∀ g ∈ gs, ∃ c, corrOf lib s g.1 = some c ∧ c.sor T = .ok (hs g.1)) :
    (e.toND sel).GoRT T flag = .ok ((gs.map fun g => g.2 * (hh g.1 - hs g.1)).sum) := by
  have h1 := C01_sum_H reg lib gs s e T he hh hvh
  have h2 := C01_sum_S reg lib gs s e T sel flag hf he hs hvs
  simp only [ND.GoRT, Estimator.toND, h1, h2, sum_sub_sum]

/-- **T2 (which error)** The estimate fails with `err` exactly when the first descriptor (in mapping order)
whose own correlation fails, fails with `err`: the terms are evaluated left to right and the first exception
ends the evaluation. -/
theorem C01_first_error (get : Corr → Val) (reg : List S) (lib : Library N S) (gs : List (N × Rat)) (s : S)
    (e : Estimator) (he : estimate reg lib gs s = .ok e) (err : Err) :
    wsum get e.correlations = .error err ↔
      ∃ pre g post, gs = pre ++ g :: post ∧ (∀ p ∈ pre, HasDatum lib s get p.1) ∧ FailsWith lib s get g.1 err := by
  obtain ⟨hall, hcs⟩ := (terms_iff lib s gs _).mp (C01_terms reg lib gs s e he)
  -- both sides say "the first element without the datum fails with `err`": of the terms, and of the mapping
  rw [wsum_error_iff, hcs]
  refine (firstBad_map _ _ _ gs).trans ⟨?_, ?_⟩ <;> rintro ⟨pre, g, post, rfl, hpre, hg⟩ <;>
    refine ⟨pre, g, post, rfl, fun p hp => ?_, ?_⟩
  · exact (hasDatum_iff (hall p (by simp [hp]))).mpr (hpre p hp)
  · exact (failsWith_iff (hall g (by simp))).mpr hg
  · exact (hasDatum_iff (hall p (by simp [hp]))).mp (hpre p hp)
  · exact (failsWith_iff (hall g (by simp))).mp hg

/-- **T2** The estimate fails for a datum exactly when some descriptor of the mapping fails for it. -/
theorem C01_error_iff (get : Corr → Val) (reg : List S) (lib : Library N S) (gs : List (N × Rat)) (s : S)
    (e : Estimator) (he : estimate reg lib gs s = .ok e) :
    (∃ err, wsum get e.correlations = .error err) ↔ ∃ g ∈ gs, ∃ err, FailsWith lib s get g.1 err := by
  constructor
  · rintro ⟨err, h⟩
    obtain ⟨pre, g, post, rfl, _, hg⟩ := (C01_first_error get reg lib gs s e he err).mp h
    exact ⟨g, by simp, err, hg⟩
  · rintro ⟨g, hg, err, c, hc, hcerr⟩
    cases hw : wsum get e.correlations with
    | error err' => exact ⟨err', rfl⟩
    | ok v =>
      obtain ⟨c', w, hc', hw'⟩ := ((C01_value_iff get reg lib gs s e he v).mp hw).1 g hg
      rw [hc] at hc'; cases hc'
      rw [hcerr] at hw'; cases hw'

/-- **T2 (incomplete data)** When the constituents' only failure mode for the datum is the incomplete-data
error, the estimate raises the incomplete-data error iff some descriptor of the mapping lacks the datum. -/
theorem C01_incomplete_iff (get : Corr → Val) (reg : List S) (lib : Library N S) (gs : List (N × Rat)) (s : S)
    (e : Estimator) (he : estimate reg lib gs s = .ok e)
    (honly : ∀ g ∈ gs, ∀ err, FailsWith lib s get g.1 err → err = .incomplete) :
    wsum get e.correlations = .error .incomplete ↔ ∃ g ∈ gs, FailsWith lib s get g.1 .incomplete := by
  constructor
  · intro h
    obtain ⟨g, hg, err, hf⟩ := (C01_error_iff get reg lib gs s e he).mp ⟨_, h⟩
    exact ⟨g, hg, honly g hg err hf ▸ hf⟩
  · rintro ⟨g, hg, hf⟩
    obtain ⟨err, h⟩ := (C01_error_iff get reg lib gs s e he).mpr ⟨g, hg, _, hf⟩
    obtain ⟨pre, g', post, rfl, _, hf'⟩ := (C01_first_error get reg lib _ s e he err).mp h
    exact honly g' (by simp) err hf' ▸ h

/-- **T3** `Estimate` fails with the missing-data error naming `ds` exactly when the property set is registered,
`ds` is the list of the mapping's descriptors without that property set — in mapping order — and `ds` is not empty. -/
theorem C01_missing_iff (reg : List S) (lib : Library N S) (gs : List (N × Rat)) (s : S) (ds : List N) :
    estimate reg lib gs s = .error (.missing ds) ↔
      reg.contains s = true ∧ ds = specMissing lib s gs ∧ ds ≠ [] := by
  rw [estimate_error_iff]
  constructor
  · rintro (⟨_, h⟩ | ⟨hr, ⟨hm, h⟩ | ⟨hm, h⟩⟩)
    · cases h
    · cases h; exact ⟨hr, rfl, hm⟩
    · exact absurd rfl ((construct_error_ne lib s gs _ h hm).2.1 ds)
  · rintro ⟨hr, rfl, hm⟩; exact Or.inr ⟨hr, Or.inl ⟨hm, rfl⟩⟩

/-- **T3 (unregistered property set)** `Estimate` fails with the invalid-name `KeyError` exactly when the property-set
name is not registered — before any descriptor is looked at. -/
theorem C01_invalid_set_iff (reg : List S) (lib : Library N S) (gs : List (N × Rat)) (s : S) :
    estimate reg lib gs s = .error .invalidSet ↔ reg.contains s = false := by
  rw [estimate_error_iff]
  constructor
  · rintro (⟨hr, _⟩ | ⟨_, ⟨_, h⟩ | ⟨hm, h⟩⟩)
    · exact hr
    · cases h
    · exact absurd rfl (construct_error_ne lib s gs _ h hm).1
  · exact fun hr => Or.inl ⟨hr, rfl⟩

/-- **T3 (no partial sum)** If some descriptor of the mapping lacks the property set there is no estimate at
all: the outcome carries no value (for any registered or unregistered set name). -/
theorem C01_missing_no_value (reg : List S) (lib : Library N S) (gs : List (N × Rat)) (s : S)
    (g : N × Rat) (hg : g ∈ gs) (hno : corrOf lib s g.1 = none) (e : Estimator) :
    estimate reg lib gs s ≠ .ok e := by
  intro h
  obtain ⟨_, hm, _⟩ := (estimate_ok_iff reg lib gs s e).mp h
  obtain ⟨c, hc⟩ := (specMissing_nil_iff lib s gs).mp hm g hg
  rw [hno] at hc; cases hc

/-- The `KeyError` of `lib[group]['thermochem']` inside the estimator cannot occur: the check comes first. -/
theorem C01_no_keyError (reg : List S) (lib : Library N S) (gs : List (N × Rat)) (s : S) :
    estimate reg lib gs s ≠ .error .keyError := by
  rw [Ne, estimate_error_iff]
  rintro (⟨_, h⟩ | ⟨_, ⟨_, h⟩ | ⟨hm, h⟩⟩)
  · cases h
  · cases h
  · exact absurd rfl (construct_error_ne lib s gs _ h hm).2.2

/-- `GroupLibrary.__getitem__` returns the empty collection of property sets for a descriptor the library does
not know; such a descriptor therefore counts as lacking every property set. -/
theorem C01_lookup_unknown (lib : Library N S) (s : S) (g : N) (hg : ∀ p ∈ lib.contents, p.1 ≠ g) :
    lib.getItem g = [] ∧ corrOf lib s g = none := by
  have : lib.contents.lookup g = none := by
    rw [List.lookup_eq_none_iff]
    intro p hp
    simpa using (hg p hp).symm
  simp [corrOf, Library.getItem, this]

/-- **T4 (order, outcome)** Whether `Estimate` succeeds does not depend on the order of the mapping. -/
theorem C01_perm_outcome (reg : List S) (lib : Library N S) {gs gs' : List (N × Rat)} (s : S) (hp : gs.Perm gs') :
    (∃ e, estimate reg lib gs s = .ok e) ↔ (∃ e', estimate reg lib gs' s = .ok e') := by
  constructor
  · rintro ⟨e, he⟩; obtain ⟨e', he', _⟩ := estimate_perm reg lib s e hp he; exact ⟨e', he'⟩
  · rintro ⟨e, he⟩; obtain ⟨e', he', _⟩ := estimate_perm reg lib s e hp.symm he; exact ⟨e', he'⟩

/-- **T4 (order, Cp/R)** -/
theorem C01_perm_Cp (reg : List S) (lib : Library N S) {gs gs' : List (N × Rat)} (s : S) (e e' : Estimator) (T v : Rat)
    (hp : gs.Perm gs') (he : estimate reg lib gs s = .ok e) (he' : estimate reg lib gs' s = .ok e') :
    e.CpoR T = .ok v ↔ e'.CpoR T = .ok v :=
  (wsum_perm _ (perm_terms reg lib s e e' hp he he').1 v).symm

/-- **T4 (order, H/RT)** The order of the mapping does not change `get_HoRT`. -/
theorem C01_perm_H (reg : List S) (lib : Library N S) {gs gs' : List (N × Rat)} (s : S) (e e' : Estimator) (T v : Rat)
    (hp : gs.Perm gs') (he : estimate reg lib gs s = .ok e) (he' : estimate reg lib gs' s = .ok e') :
    e.HoRT T = .ok v ↔ e'.HoRT T = .ok v :=
  (wsum_perm _ (perm_terms reg lib s e e' hp he he').1 v).symm

/-- **T4 (order, S/R)**, with or without the elemental term. -/
theorem C01_perm_S (reg : List S) (lib : Library N S) {gs gs' : List (N × Rat)} (s : S) (e e' : Estimator) (T v : Rat)
    (sel : Nat → Option Rat) (flag : PyFlag)
    (hp : gs.Perm gs') (he : estimate reg lib gs s = .ok e) (he' : estimate reg lib gs' s = .ok e') :
    e.SoR sel T flag = .ok v ↔ e'.SoR sel T flag = .ok v := by
  obtain ⟨h1, h2, _⟩ := perm_terms reg lib s e e' hp he he'
  rw [SoR_ok_iff, SoR_ok_iff, h2]
  simp only [wsum_perm _ h1]

/-- **T4 (order, G/RT)** -/
theorem C01_perm_G (reg : List S) (lib : Library N S) {gs gs' : List (N × Rat)} (s : S) (e e' : Estimator) (T v : Rat)
    (sel : Nat → Option Rat) (flag : PyFlag)
    (hp : gs.Perm gs') (he : estimate reg lib gs s = .ok e) (he' : estimate reg lib gs' s = .ok e') :
    (e.toND sel).GoRT T flag = .ok v ↔ (e'.toND sel).GoRT T flag = .ok v := by
  rw [GoRT_ok_iff, GoRT_ok_iff]
  simp only [Estimator.toND, C01_perm_H reg lib s e e' T _ hp he he', C01_perm_S reg lib s e e' T _ sel flag hp he he']

/-- **T4 (linearity: splitting the mapping)** For any datum, the estimate of `g₁ ++ g₂` has the value `v` iff the
estimates of `g₁` and `g₂` have values adding up to `v`: `est(g₁ ++ g₂) = est g₁ + est g₂`. -/
theorem C01_append (get : Corr → Val) (reg : List S) (lib : Library N S) (g1 g2 : List (N × Rat)) (s : S)
    (e e1 e2 : Estimator) (he : estimate reg lib (g1 ++ g2) s = .ok e)
    (he1 : estimate reg lib g1 s = .ok e1) (he2 : estimate reg lib g2 s = .ok e2) (v : Rat) :
    wsum get e.correlations = .ok v ↔
      ∃ v1 v2, wsum get e1.correlations = .ok v1 ∧ wsum get e2.correlations = .ok v2 ∧ v = v1 + v2 := by
  simp only [C01_value_iff get reg lib _ s _ he, C01_value_iff get reg lib _ s _ he1, C01_value_iff get reg lib _ s _ he2,
    specEstimate_append, List.forall_mem_append]
  exact ⟨fun ⟨⟨h1, h2⟩, hv⟩ => ⟨_, _, ⟨h1, rfl⟩, ⟨h2, rfl⟩, hv⟩, fun ⟨_, _, ⟨h1, rfl⟩, ⟨h2, rfl⟩, hv⟩ => ⟨⟨h1, h2⟩, hv⟩⟩

/-- **T4 (linearity: scaling)** Multiplying every count by `k` multiplies every property by `k`. -/
theorem C01_scale (get : Corr → Val) (reg : List S) (lib : Library N S) (gs : List (N × Rat)) (s : S) (k : Rat)
    (e e' : Estimator) (he : estimate reg lib gs s = .ok e)
    (he' : estimate reg lib (gs.map fun g => (g.1, k * g.2)) s = .ok e') (v : Rat)
    (hv : wsum get e.correlations = .ok v) : wsum get e'.correlations = .ok (k * v) := by
  obtain ⟨h, rfl⟩ := (C01_value_iff get reg lib _ s _ he v).mp hv
  exact (C01_value_iff get reg lib _ s _ he' _).mpr ⟨List.forall_mem_map.mpr h, (specEstimate_scale lib s get k gs).symm⟩

/-- **T4 (merging counts)** Giving a descriptor the count `n₁ + n₂` is the same as listing it twice with `n₁`, `n₂`. -/
theorem C01_merge_counts (get : Corr → Val) (reg : List S) (lib : Library N S) (d : N) (n1 n2 : Rat)
    (rest : List (N × Rat)) (s : S) (e e' : Estimator)
    (he : estimate reg lib ((d, n1) :: (d, n2) :: rest) s = .ok e)
    (he' : estimate reg lib ((d, n1 + n2) :: rest) s = .ok e') (v : Rat) :
    wsum get e.correlations = .ok v ↔ wsum get e'.correlations = .ok v := by
  rw [C01_value_iff get reg lib _ s _ he, C01_value_iff get reg lib _ s _ he']
  have hs : specEstimate lib s get ((d, n1) :: (d, n2) :: rest) = specEstimate lib s get ((d, n1 + n2) :: rest) := by
    simp only [specEstimate, List.map_cons, List.sum_cons]; ring
  simp only [hs, List.forall_mem_cons, and_self_left]

/-- **Zero counts** A descriptor with count 0 adds nothing to any value, but it still has to have the datum. -/
theorem C01_zero_count (get : Corr → Val) (reg : List S) (lib : Library N S) (d : N) (rest : List (N × Rat)) (s : S)
    (e e' : Estimator) (he : estimate reg lib ((d, 0) :: rest) s = .ok e) (he' : estimate reg lib rest s = .ok e') (v : Rat) :
    wsum get e.correlations = .ok v ↔ HasDatum lib s get d ∧ wsum get e'.correlations = .ok v := by
  rw [C01_value_iff get reg lib _ s _ he, C01_value_iff get reg lib _ s _ he']
  have hs : specEstimate lib s get ((d, 0) :: rest) = specEstimate lib s get rest := by
    simp [specEstimate]
  rw [hs, List.forall_mem_cons, and_assoc]

/-- **Range** The range of a successful estimate is a non-empty interval inside the range of every constituent
that declares one (and is absent exactly when no constituent declares one). -/
theorem C01_range_inter (reg : List S) (lib : Library N S) (gs : List (N × Rat)) (s : S) (e : Estimator)
    (he : estimate reg lib gs s = .ok e) :
    match e.range with
    | none => ∀ c ∈ e.correlations, c.1.range = none
    | some (lo, hi) => lo ≤ hi ∧ ∀ c ∈ e.correlations, ∀ a b, c.1.range = some (a, b) → a ≤ lo ∧ hi ≤ b := by
  obtain ⟨_, _, hc⟩ := (estimate_ok_iff reg lib gs s e).mp he
  obtain ⟨cs, uq, _, _, hf⟩ := (construct_ok_iff lib s gs e).mp hc
  obtain ⟨rfl, hle⟩ := (finish_ok_iff _ _ _ _).mp hf
  have spec := commonRange_spec cs
  show match commonRange cs with | none => _ | some (lo, hi) => _
  rcases h : commonRange cs with _ | ⟨lo, hi⟩ <;> rw [h] at spec
  · exact spec
  · exact ⟨hle lo hi h, spec⟩

end

/-! ### non-vacuity: a concrete library and mappings meeting the hypotheses -/
namespace Ex01

def cA : Corr := ⟨fun _ => .ok 2, fun T => .ok (T / 100), fun _ => .ok (1/2), some (100, 1000)⟩
def cB : Corr := ⟨fun _ => .error .incomplete, fun _ => .ok (-3), fun _ => .error .incomplete, some (200, 1500)⟩
def cC : Corr := ⟨fun _ => .ok 1, fun _ => .ok 7, fun _ => .ok 1, some (1200, 1300)⟩
/-- descriptors 1, 2, 4 carry property set 0; descriptor 3 is listed without it; 5 is unknown -/
def lib : Library Nat Nat := ⟨[(1, [(0, cA)]), (2, [(0, cB)]), (3, [(9, cA)]), (4, [(0, cC)])], none, none⟩

def okVal (r : Val) (v : Rat) : Bool := match r with | .ok w => w == v | .error _ => false
def errVal (r : Val) (e : Err) : Bool := match r with | .ok _ => false | .error e' => e' == e
def chk (gs : List (Nat × Rat)) (f : Estimator → Bool) : Bool :=
  match estimate [0] lib gs 0 with | .ok e => f e | .error _ => false
def errIs (gs : List (Nat × Rat)) (s : Nat) (err : EstErr Nat) : Bool :=
  match estimate [0] lib gs s with | .ok _ => false | .error e => e == err

/-- fractional, negative and zero counts: H/RT(300) = 2·3 + (−1/2)·(−3) + 0·3 = 15/2 -/
example : chk [(1, 2), (2, -1/2)] (fun e => okVal (e.HoRT 300) (15/2)) = true := by decide +kernel
/-- Cp/R: the second descriptor has no heat-capacity datum → incomplete-data error, although H/RT exists -/
example : chk [(1, 2), (2, -1/2)] (fun e => errVal (e.CpoR 300) .incomplete) = true := by decide +kernel
example : chk [(1, 2), (1, 3)] (fun e => okVal (e.HoRT 300) 15) = true := by decide +kernel
example : chk [(1, 0), (2, 1)] (fun e => okVal (e.HoRT 300) (-3)) = true := by decide +kernel
/-- range: intersection [200, 1000] -/
example : chk [(1, 2), (2, -1/2)] (fun e => e.range == some (200, 1000)) = true := by decide +kernel
/-- missing data: exactly the descriptors without the set, in mapping order; an unregistered set; disjoint ranges -/
example : errIs [(5, 1), (1, 2), (3, 0)] 0 (.missing [5, 3]) = true := by decide +kernel
example : errIs [(1, 2)] 7 .invalidSet = true := by decide +kernel
example : errIs [(1, 1), (4, 1)] 0 .emptyRange = true := by decide +kernel

end Ex01

end PGA.Estimate
