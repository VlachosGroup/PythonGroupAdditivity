import PGA.Proofs.Net
import Mathlib.Data.Set.Finite.Basic
/-!
# C17 — a generated reaction network is the duplicate-free closure of its seeds

Property theorems about the model `PGA.Model.Net` of the work-list loop of
`pgradd/RDkitWrapper/GenRxnNet.py` (after the repair of F25).  Vocabulary (`Step`, `Reach`, `Closed`, `Unary`,
`IsClosureOf`, `FiniteClosure`) in `PGA/Spec/Net.lean`; helper lemmas in `PGA/Proofs/Net.lean`.

The quantifiers are unbounded: every key type with decidable equality, every list of unimolecular rules (each an
arbitrary function `run : α → List α`, valence filter included), every seed list, every fuel.  Species equality is
equality of a canonical key (see the header of `PGA/Model/Net.lean`; assumption A-canon is re-validated by the
harness on every run).
-/
namespace PGA.Net
variable {α : Type} [DecidableEq α]

/-- **T1** every seed is in the returned list. -/
theorem C17_seeds_in (fuel : Nat) (seeds : List α) (rules : List (Rule α)) (hU : Unary rules) (res : List α)
    (h : generate fuel seeds rules = .ok res) : ∀ s ∈ seeds, s ∈ res :=
  fun s hs => loop_mem hU (generate_ok h) s (.inr hs)

/-- **T2** the returned list is closed under the rules: every product (that passes the valence filter) of every
listed species is listed. -/
theorem C17_closed (fuel : Nat) (seeds : List α) (rules : List (Rule α)) (hU : Unary rules) (res : List α)
    (h : generate fuel seeds rules = .ok res) : Closed rules (· ∈ res) :=
  fun a b ha hab => loop_closed hU (generate_ok h) (fun _ ha => nomatch ha) a ha b hab

/-- **T3** nothing else: every listed species is obtainable from a seed by repeatedly applying the rules. -/
theorem C17_only_reachable (fuel : Nat) (seeds : List α) (rules : List (Rule α)) (hU : Unary rules) (res : List α)
    (h : generate fuel seeds rules = .ok res) : ∀ x ∈ res, ∃ s ∈ seeds, Reach rules s x := by
  apply loop_ind hU (generate_ok h) (fun x => ∃ s ∈ seeds, Reach rules s x)
  · rintro x (hx | hx)
    · cases hx
    · exact ⟨x, hx, Relation.ReflTransGen.refl⟩
  · rintro a b ⟨s, hsm, hsa⟩ hab
    exact ⟨s, hsm, Relation.ReflTransGen.tail hsa hab⟩

/-- **T1+T2** every species obtainable from a seed is listed. -/
theorem C17_complete (fuel : Nat) (seeds : List α) (rules : List (Rule α)) (hU : Unary rules) (res : List α)
    (h : generate fuel seeds rules = .ok res) : ∀ s ∈ seeds, ∀ x, Reach rules s x → x ∈ res := by
  intro s hs x hx
  induction hx with
  | refl => exact C17_seeds_in fuel seeds rules hU res h s hs
  | tail _ hab ih => exact C17_closed fuel seeds rules hU res h _ _ ih hab

/-- **T4** no species is listed twice (for pairwise distinct seeds). -/
theorem C17_nodup (fuel : Nat) (seeds : List α) (rules : List (Rule α)) (hU : Unary rules) (hnd : seeds.Nodup)
    (res : List α) (h : generate fuel seeds rules = .ok res) : res.Nodup :=
  loop_nodup hU (generate_ok h) hnd

/-- **T1-T4 together**: a returned list is exactly the closure of the seeds, each species once. -/
theorem C17_is_closure (fuel : Nat) (seeds : List α) (rules : List (Rule α)) (hU : Unary rules) (hnd : seeds.Nodup)
    (res : List α) (h : generate fuel seeds rules = .ok res) : IsClosureOf rules seeds res :=
  ⟨fun x => ⟨C17_only_reachable fuel seeds rules hU res h x,
             fun ⟨s, hs, hx⟩ => C17_complete fuel seeds rules hU res h s hs x hx⟩,
   C17_nodup fuel seeds rules hU hnd res h⟩

/-- **T5** termination whenever the closure is finite: if some finite list `C` contains the seeds and is closed
under the rules, the loop ends within `C.length` iterations (one per popped species) — it never runs out of fuel
`≥ C.length`, and never ends in an error. -/
theorem C17_terminates (fuel : Nat) (seeds : List α) (rules : List (Rule α)) (hU : Unary rules) (hnd : seeds.Nodup)
    (hs : seeds ≠ []) (hr : rules ≠ []) (C : List α) (hC : FiniteClosure rules seeds C) (hf : C.length ≤ fuel) :
    ∃ res, generate fuel seeds rules = .ok res := by
  rw [generate_eq_loop fuel hs hr]
  exact loop_terminates rules hU C hC.2 fuel seeds [] hnd (fun x hx => hC.1 x (hx.resolve_left List.not_mem_nil)) hf

/-- **T1-T5 in one statement**: for unimolecular rules, distinct seeds and a finite closure `C`, the generator
returns, within `C.length` iterations, a list that is exactly the duplicate-free closure of the seeds. -/
theorem C17_generates_closure (fuel : Nat) (seeds : List α) (rules : List (Rule α)) (hU : Unary rules)
    (hnd : seeds.Nodup) (hs : seeds ≠ []) (hr : rules ≠ []) (C : List α) (hC : FiniteClosure rules seeds C)
    (hf : C.length ≤ fuel) : ∃ res, generate fuel seeds rules = .ok res ∧ IsClosureOf rules seeds res := by
  obtain ⟨res, h⟩ := C17_terminates fuel seeds rules hU hnd hs hr C hC hf
  exact ⟨res, h, C17_is_closure fuel seeds rules hU hnd res h⟩

/-- **T5, as the property words it**: if the set of species obtainable from the seeds is finite, generation
terminates (for some fuel, hence for every larger one) and returns exactly that set, each species once. -/
theorem C17_terminates_of_finite (seeds : List α) (rules : List (Rule α)) (hU : Unary rules) (hnd : seeds.Nodup)
    (hs : seeds ≠ []) (hr : rules ≠ []) (hfin : {x | ∃ s ∈ seeds, Reach rules s x}.Finite) :
    ∃ fuel res, generate fuel seeds rules = .ok res ∧ IsClosureOf rules seeds res := by
  classical
  let C := hfin.toFinset.toList
  have hmem : ∀ x, x ∈ C ↔ ∃ s ∈ seeds, Reach rules s x := by
    intro x; simp [C]
  have hC : FiniteClosure rules seeds C := by
    refine ⟨fun s hs => (hmem s).mpr ⟨s, hs, Relation.ReflTransGen.refl⟩, ?_⟩
    intro a b ha hab
    obtain ⟨s, hs, hsa⟩ := (hmem a).mp ha
    exact (hmem b).mpr ⟨s, hs, Relation.ReflTransGen.tail hsa hab⟩
  exact ⟨C.length, C17_generates_closure C.length seeds rules hU hnd hs hr C hC (le_refl _)⟩

/-- the duplicate elimination inside one product list (lines 130-139) is redundant after the repair: pushing the
products with or without it gives the same `unprocessed` list (so deleting that block is behaviour-preserving). -/
theorem C17_inner_dedup_redundant (processed products unprocessed : List α) :
    pushNew processed (dedup products) unprocessed = pushNew processed products unprocessed :=
  pushNew_dedup processed products unprocessed

/-- more fuel never changes a returned list. -/
theorem C17_fuel_irrelevant (f g : Nat) (hfg : f ≤ g) (seeds : List α) (rules : List (Rule α)) (res : List α)
    (h : generate f seeds rules = .ok res) : generate g seeds rules = .ok res := by
  obtain ⟨hs, hr⟩ := generate_ok_ne h
  rw [generate_eq_loop _ hs hr] at h ⊢
  exact loopWith_fuel_mono hfg h

/-- a returned list is reproduced with fuel equal to its own length: `res.length` loop iterations suffice. -/
theorem C17_fuel_exact (fuel : Nat) (seeds : List α) (rules : List (Rule α)) (hU : Unary rules) (hnd : seeds.Nodup)
    (res : List α) (h : generate fuel seeds rules = .ok res) : generate res.length seeds rules = .ok res := by
  obtain ⟨hs, hr⟩ := generate_ok_ne h
  have hC : FiniteClosure rules seeds res := ⟨C17_seeds_in fuel seeds rules hU res h, C17_closed fuel seeds rules hU res h⟩
  obtain ⟨res', h'⟩ := C17_terminates res.length seeds rules hU hnd hs hr res hC (le_refl _)
  rcases Nat.le_total res.length fuel with hle | hle
  · have := C17_fuel_irrelevant res.length fuel hle seeds rules res' h'
    rw [h] at this
    cases this
    exact h'
  · exact C17_fuel_irrelevant fuel res.length hle seeds rules res h

/-- error clause: no seed or no rule is `IndexError`. -/
theorem C17_empty_error (fuel : Nat) (seeds : List α) (rules : List (Rule α)) (h : seeds = [] ∨ rules = []) :
    generate fuel seeds rules = .error .index := by
  rcases h with rfl | rfl
  · simp [generate]
  · cases seeds <;> simp [generate]

/-- error clause: a rule that is not unimolecular ends the call in `ValueError` (no reactant template) or
`TypeError` (two or more) as soon as the first species is expanded — no list is returned. -/
theorem C17_nonunary_error (fuel : Nat) (seeds : List α) (rules : List (Rule α)) (hs : seeds ≠ [])
    (h : ∃ r ∈ rules, r.arity ≠ 1) :
    generate (fuel + 1) seeds rules = .error .value ∨ generate (fuel + 1) seeds rules = .error .type := by
  have hr : rules ≠ [] := by
    rintro rfl
    obtain ⟨r, hr, _⟩ := h
    cases hr
  rw [generate_eq_loop _ hs hr]
  cases seeds with
  | nil => exact absurd rfl hs
  | cons s ss =>
    rcases rulesStep_nonunary pushNew s [s] rules h ss with e | e
    · left; simp [loop, loopWith, e]
    · right; simp [loop, loopWith, e]

/-! ### F25: the loop before the repair does not have T4

Two species that both produce the same new species before it is expanded: `0 → {1, 2}`, `2 → {1}`. -/

def witnessRule : Rule Nat := ⟨1, fun x => match x with | 0 => [1, 2] | 2 => [1] | _ => []⟩

/-- T4 as it would read for the loop before the repair of F25 -/
def C17_nodup_unrepaired_full : Prop :=
  ∀ (fuel : Nat) (seeds : List Nat) (rules : List (Rule Nat)), Unary rules → seeds.Nodup →
    ∀ res, generateOld fuel seeds rules = .ok res → res.Nodup

/-- the unrepaired loop lists species `1` twice on the three-species witness -/
theorem C17_unrepaired_witness : generateOld 4 [0] [witnessRule] = .ok [1, 1, 2, 0] := by decide

/-- T4 is false of the loop before the repair (F25). -/
theorem C17_unrepaired_not_nodup : ¬ C17_nodup_unrepaired_full := by
  intro h
  have := h 4 [0] [witnessRule] (by intro r hr; simp at hr; subst hr; rfl) (by simp) _ C17_unrepaired_witness
  simp at this

/-- the repaired loop lists it once on the same input -/
theorem C17_repaired_witness : generate 4 [0] [witnessRule] = .ok [1, 2, 0] := by decide

/-! ### non-vacuity: concrete inputs meeting the hypotheses

An abstract copy of the docstring's ethane example: `0` = ethane, `1` = ethyl, `2` = H, `3` = methyl, `4` = CH2;
rule A (C–H scission) `0 → [1,2,1,2]`, `3 → [4,2]`; rule B (C–C scission) `0 → [3,3]`. -/

def ruleA : Rule Nat := ⟨1, fun x => match x with | 0 => [1, 2, 1, 2] | 3 => [4, 2] | _ => []⟩
def ruleB : Rule Nat := ⟨1, fun x => match x with | 0 => [3, 3] | _ => []⟩

example : Unary [ruleA, ruleB] := by intro r hr; simp at hr; rcases hr with rfl | rfl <;> rfl
example : generate 5 [0] [ruleA, ruleB] = .ok [1, 2, 4, 3, 0] := by decide
example : generateOld 6 [0] [ruleA, ruleB] = .ok [1, 2, 4, 2, 3, 0] := by decide
example : FiniteClosure [ruleA, ruleB] [0] [0, 1, 2, 3, 4] := by
  refine ⟨by simp, ?_⟩
  rintro a b ha ⟨r, hr, hb⟩
  exact (by decide : ∀ a ∈ [0, 1, 2, 3, 4], ∀ r ∈ [ruleA, ruleB], ∀ b ∈ r.run a, b ∈ [0, 1, 2, 3, 4]) a ha r hr b hb
example : generate 4 [0] [ruleA, ruleB] = .error .fuel := by decide
example : generate 3 ([] : List Nat) [ruleA] = .error .index := by decide
example : generate 3 [0] [ruleA, ⟨2, fun _ => []⟩] = .error .type := by decide
example : generate 3 [0] [⟨0, fun _ => []⟩, ruleA] = .error .value := by decide
/-- duplicate seeds are outside T4's hypothesis, and indeed are listed twice (the loop never compares seeds) -/
example : generate 5 [0, 0] [ruleB] = .ok [0, 3, 0] := by decide

end PGA.Net
