import PGA.Props.C08
import PGA.Props.C09
import PGA.Spec.RingLayout
import PGA.Proofs.RingLayout
/-!
# C08 from the text on — parser model (C09) ∘ bridge ∘ reader model ∘ matcher model

`PGA.readText`/`PGA.matchText` (`PGA/Model/RingAstBridge.lean`) compose the C09 model of `Parser.py`
on the regenerated grammar, the bridge `Ring.Ast → PGA.Ast` over the regenerated rule-name table, the
C08 reader and the C08 matcher.  The theorems below are the C08 and C09 theorems carried to that
composition: they hold for **every text** (any length, any characters).  The last section is the
layout clause of C08 ("layout and whitespace do not matter") on the token-level rendering of a fragment:
proved for layouts that differ in opaque gaps and trailing filler (`C08_layout_irrelevant_partial`,
`C08_layout_read_partial`); the clause for all valid layouts is stated as `C08_layout_irrelevant_full` and
not proved (documented gap, see `notes/C08.md`).
-/
namespace PGA.C08
open PGA PGA.Spec PGA.Match PGA.Ring PGA.Gen.RingGrammar

/-! ## The bridge -/

/-- **Bridge, nodes**: a node of rule index `n` becomes the node named by the regenerated rule-name
table, over the bridged children in the same order; leaves keep their text, integer leaves become
their decimal rendering. -/
theorem C08_bridge_shape (n : Nat) (kids : List Ring.Ast) (s : List Char) (v : Nat) :
    (Ring.Ast.node n kids).toPGA = .node (ruleNameOf ruleNames n) (kids.map Ring.Ast.toPGA) ∧
    (Ring.Ast.str s).toPGA = .leaf (String.ofList s) ∧
    (Ring.Ast.int v).toPGA = .leaf (toString v) := by
  refine ⟨?_, rfl, rfl⟩
  simp only [Ring.Ast.toPGA, Ring.Ast.toPGAWith, toPGAList_eq_map]
  rfl

/-- the names the reader model dispatches on are entries of the regenerated table (table obligation:
a renamed grammar rule breaks this, and with it the reader's `assert tree[0].name == …`) -/
theorem C08_tab_rule_names :
    (["RINGInput", "Fragment", "FragmentName", "MolQuery", "Prefix", "Atom", "AtomType", "AtomPrefix", "Symbols",
      "AtomSuffix", "AtomLabel", "AtomConstraintChain", "AtomConstraints", "AtomConstraintConnectivity",
      "AtomConstraintRing", "AtomConstraintRadical", "AtomConstraintNRing", "Boolean", "ConstraintNumber", "GroupName",
      "BondType", "AtomChain", "BondedAtom", "RingBond", "StereoDoubleBond", "DoubleBondStereoType"].all
        fun n => ruleNames.contains n) = true := by
  decide +kernel

/-! ## Outcomes of reading a text -/

/-- **Text, no abort**: for every text the composed reader ends with a query, a syntax error or a
reader outcome — the parser model's abort outcomes (stuck, missing rule, hang, internal) are
unreachable on the shipped grammar (C09-T2 with the regenerated rank witness). -/
theorem C08_text_never_aborts (s : List Char) (a : Ring.Abort) : readText s ≠ .error (.abort a) := by
  unfold readText parseText
  cases hp : parse enhanced s with
  | abort b => exact absurd hp ((C09_shipped_never_stuck s).1 b)
  | syntaxError e => simp
  | accepted t fin =>
    simp only
    cases readFragment t.toPGA <;> simp

/-- **Text, error position**: a syntax error reported for a text lies inside the text (end
position included) — C09-T3 carried to the composition. -/
theorem C08_text_syntax_inside (s : List Char) (l c : Nat) (h : readText s = .error (.syntax l c)) :
    Inside s l c := by
  unfold readText parseText at h
  cases hp : parse enhanced s with
  | abort b => rw [hp] at h; simp at h
  | syntaxError e =>
    rw [hp] at h
    simp only [Except.error.injEq, TextErr.syntax.injEq] at h
    obtain ⟨rfl, rfl⟩ := h
    exact C09_error_inside enhanced s e hp
  | accepted t fin =>
    rw [hp] at h
    simp only at h
    cases hr : readFragment t.toPGA <;> simp [hr] at h

/-- **Text, consumption**: a query is returned only for a text the parser consumed to its last
character, and it is the reader's result on the bridged tree of that parse. -/
theorem C08_text_query_consumed (s : List Char) (q : Query) (h : readText s = .ok q) :
    ∃ t fin, parse enhanced s = .accepted t fin ∧ fin.rest = [] ∧ fin.idx = s.length ∧
      readFragment t.toPGA = .ok q := by
  unfold readText parseText at h
  cases hp : parse enhanced s with
  | abort b => rw [hp] at h; simp at h
  | syntaxError e => rw [hp] at h; simp at h
  | accepted t fin =>
    rw [hp] at h
    simp only at h
    have hc := C09_accepted_consumed enhanced s t fin hp
    cases hr : readFragment t.toPGA with
    | error e => simp [hr] at h
    | ok q' =>
      simp only [hr, Except.ok.injEq] at h
      subst h
      exact ⟨t, fin, rfl, hc.1, hc.2.1, hr⟩

/-- **Text, well-formedness**: every query read from a text meets the hypothesis `q.wf` of T1. -/
theorem C08_text_read_wf (s : List Char) (q : Query) (h : readText s = .ok q) : q.wf = true := by
  obtain ⟨t, _, _, _, _, hr⟩ := C08_text_query_consumed s q h
  exact C08_read_wf _ q hr

/-! ## T1 from the text on -/

/-- **T1 from the text on**: for every text the composed reader accepts, every well-formed molecule
graph and every assignment: the matcher returns the assignment exactly when it embeds the fragment
the text was read as (guard: no `*` suffix, finding FM1) — no tree supplied from outside: the tree
is the parser model's. -/
theorem C08_text_matches_iff_partial (s : List Char) (q : Query) (m : Mol) (f : List Nat)
    (hread : readText s = .ok q) (hm : m.wf = true) (hstar : NoStar q = true) :
    f ∈ queryMatches q m ↔ Embeds q m f :=
  C08_matches_iff_partial q m f (C08_text_read_wf s q hread) hm hstar

/-- **T1 from the text on, as one function**: whatever `matchText` returns for a text and a graph is
duplicate-free, and (same guards) it contains exactly the embeddings of the query read from the text. -/
theorem C08_matchText_sound_complete_partial (s : List Char) (m : Mol) (l : List (List Nat))
    (h : matchText s m = .ok l) :
    l.Nodup ∧ ∃ q, readText s = .ok q ∧
      (m.wf = true → NoStar q = true → ∀ f, f ∈ l ↔ Embeds q m f) := by
  unfold matchText at h
  cases hr : readText s with
  | error e => simp [hr, Except.map] at h
  | ok q =>
    simp only [hr, Except.map, Except.ok.injEq] at h
    subst h
    exact ⟨C08_matches_nodup q m, q, rfl, fun hm hs f => C08_text_matches_iff_partial s q m f hr hm hs⟩

/-! ## Layout -/

/-- the filler characters that occur in no token of the grammar: a gap containing one of them cannot lie inside a
token such as `bond to` -/
def hardFiller (c : Char) : Bool := c == '\n' || c == '\t'

/-- **Table obligation (layout hypotheses of the shipped grammar)**: `''` is not a filler; the filler characters
(blank, newline, tab) are neither identifier characters nor decimal digits; every `Literal` / `Filler` / `Literals`
token of every rule is non-empty, contains neither newline nor tab, has no two adjacent filler characters and does
not end with one — regenerated from the live `Grammar.py` / `Parser.py` objects on every run. -/
theorem C08_tab_layout_enhanced : PGA.Ring.LayoutOK enhanced hardFiller :=
  PGA.Ring.checkLayout_sound _ _ (by decide +kernel)

open PGA.Spec.Layout in
/-- two gap lists for the same tokens that differ only where it is provably harmless: between two tokens the gaps
are equal, or both *opaque* (all filler, and at least two characters long or containing a newline or tab); after
the last token both are any filler -/
def GapsAlike : List (List Char) → List (List Char) → List (List Char) → Prop
  | [], [], [] => True
  | [_], [g], [g'] => PGA.Ring.allFil enhanced g ∧ PGA.Ring.allFil enhanced g'
  | _ :: t2 :: ts, g :: gs, g' :: gs' =>
    (g = g' ∨ (PGA.Ring.Opaque enhanced hardFiller g ∧ PGA.Ring.Opaque enhanced hardFiller g')) ∧
      GapsAlike (t2 :: ts) gs gs'
  | _, _, _ => False

open PGA.Spec.Layout in
theorem interleave_LG (toks gs gs' : List (List Char)) : GapsAlike toks gs gs' →
    PGA.Ring.LG enhanced hardFiller (interleave toks gs) (interleave toks gs') := by
  fun_induction GapsAlike toks gs gs' with
  | case1 => exact fun _ => PGA.Ring.LG.refl _ _ _
  | case2 t g g' =>
    intro h
    simp only [interleave, List.append_nil]
    exact PGA.Ring.LG.append_left t (.trail h.1 h.2)
  | case3 t t2 ts g gs g' gs' ih =>
    intro h
    simp only [interleave, List.append_assoc]
    apply PGA.Ring.LG.append_left t
    rcases h.1 with rfl | ⟨o1, o2⟩
    · exact PGA.Ring.LG.append_left g (ih h.2)
    · exact .gap o1 o2 (ih h.2)
  | case4 => exact False.elim

open PGA.Spec.Layout in
/-- **T3, layout (proved part)**: for **every** token sequence (in particular the token-level rendering of any
fragment) and any two layouts of it whose leading runs are filler and whose gaps are `GapsAlike` — equal, or both
opaque (two or more filler characters, or containing a newline or a tab), any filler after the last token — the
parser model takes the same decisions on the two texts: both are rejected, or both are accepted **with the same
tree** (hence the same query and the same matches: `C08_same_tree_same_matches`).  Proved by a lock-step simulation
of the backtracking engine (`PGA.Ring.eval_sim`) for every grammar table meeting the layout hypotheses, instantiated
on the regenerated grammar (`C08_tab_layout_enhanced`).  What is *not* covered is turning a **single blank** into
another gap (or gluing): that is unsound inside tokens such as `bond to` and needs the parse∘render argument
(`C08_layout_irrelevant_full`). -/
theorem C08_layout_irrelevant_partial (toks : List (List Char)) (L L' : Layout)
    (hl : PGA.Ring.allFil enhanced L.lead) (hl' : PGA.Ring.allFil enhanced L'.lead)
    (hg : GapsAlike toks L.gaps L'.gaps) :
    treeOf (render toks L) = treeOf (render toks L') := by
  have hlg : PGA.Ring.LG enhanced hardFiller (PGA.Ring.stripF enhanced (render toks L))
      (PGA.Ring.stripF enhanced (render toks L')) := by
    unfold render
    rw [PGA.Ring.stripF_append _ _ _ hl, PGA.Ring.stripF_append _ _ _ hl']
    exact (interleave_LG toks _ _ hg).strip
  have hp := PGA.Ring.parse_layout C08_tab_layout_enhanced _ _ hlg
  unfold treeOf parseText
  generalize parse enhanced (render toks L) = p1 at hp ⊢
  generalize parse enhanced (render toks L') = p2 at hp ⊢
  cases hp <;> rfl

/-- the same for arbitrary texts: related texts are read alike — both are syntax errors (possibly at different
positions), or the outcomes of `readText` are equal (same query, or the same reader error) -/
theorem C08_layout_read_partial (s s' : List Char)
    (h : PGA.Ring.LG enhanced hardFiller (PGA.Ring.stripF enhanced s) (PGA.Ring.stripF enhanced s')) :
    (∃ l c l' c', readText s = .error (.syntax l c) ∧ readText s' = .error (.syntax l' c')) ∨
      readText s = readText s' := by
  have hp := PGA.Ring.parse_layout C08_tab_layout_enhanced _ _ h
  unfold readText parseText
  generalize parse enhanced s = p1 at hp ⊢
  generalize parse enhanced s' = p2 at hp ⊢
  cases hp with
  | accepted t fin fin' => exact Or.inr rfl
  | syntaxError e e' => exact Or.inl ⟨_, _, _, _, rfl, rfl⟩
  | abort a => exact Or.inr rfl

/-- non-vacuity: a gap of one newline and a gap of tab + blanks are both opaque; a single blank is not -/
example : PGA.Ring.Opaque enhanced hardFiller ['\n'] ∧ PGA.Ring.Opaque enhanced hardFiller ['\t', ' ', ' '] ∧
    ¬ PGA.Ring.Opaque enhanced hardFiller [' '] := by
  refine ⟨⟨by decide +kernel, Or.inr ⟨'\n', by simp, rfl⟩⟩, ⟨by decide +kernel, Or.inl (by simp)⟩, ?_⟩
  rintro ⟨_, h | ⟨c, hc, hh⟩⟩
  · simp at h
  · simp only [List.mem_singleton] at hc; subst hc; simp [hardFiller] at hh

open PGA.Spec.Layout in
/-- non-vacuity: `fragment a{C labeled c1}` written on one line with double blanks and written over three indented lines -/
example : GapsAlike [tk "fragment", tk "a", tk "{", tk "C", tk "labeled", tk "c1", tk "}"]
    [[' ', ' '], [], [' ', ' '], [' '], [' ', ' '], [], []]
    [['\n'], [], ['\n', ' ', ' '], [' '], ['\t'], [], ['\n']] := by
  refine ⟨Or.inr ⟨⟨by decide +kernel, Or.inl (by simp)⟩, ⟨by decide +kernel, Or.inr ⟨'\n', by simp, rfl⟩⟩⟩,
    Or.inl rfl, Or.inr ⟨⟨by decide +kernel, Or.inl (by simp)⟩, ⟨by decide +kernel, Or.inl (by simp)⟩⟩,
    Or.inl rfl, Or.inr ⟨⟨by decide +kernel, Or.inl (by simp)⟩, ⟨by decide +kernel, Or.inr ⟨'\t', by simp, rfl⟩⟩⟩,
    Or.inl rfl, by decide +kernel, by decide +kernel⟩

/-! ### the full clause (stated, not proved) -/

open PGA.Spec.Layout in
/-- **T3, layout, full statement (NOT PROVED — documented gap)**: for every fragment, any two valid
layouts of its token sequence (a filler run before the first token and after every token, non-empty
between two tokens unless one is a brace, a comma, or the first is `!`) are parsed alike by the
parser model: both rejected, or both accepted with the same tree — hence the same query and the same
matches on every molecule.  Stated for fragments whose fields are lexically what the grammar expects
(`lexOK`).  Beyond `C08_layout_irrelevant_partial` this asks that a *single blank* between two tokens
may become any gap (and that gaps next to braces and commas may be closed): that needs the fact that
on a rendered fragment no literal containing a blank (`any atom`, `bond to`, …) can match across a
token boundary — a parse∘render argument over the whole fragment grammar.  That part is exercised, on
every run, by `c08.layouts` (parser model: tree and query of 2–4 further random layouts of every
random fragment equal those of the first) and by the implementation's parser on the same texts. -/
def C08_layout_irrelevant_full : Prop :=
  ∀ (f : Frag), lexOK f = true → ∀ (L L' : Layout),
    L.ok (tokens f) = true → L'.ok (tokens f) = true →
    treeOf (render (tokens f) L) = treeOf (render (tokens f) L')

/-- texts parsed to the same tree have the same matches on every molecule: everything after the parser is a
function of the tree. -/
theorem C08_same_tree_same_matches (s s' : List Char) (m : Mol)
    (h : PGA.Spec.Layout.treeOf s = PGA.Spec.Layout.treeOf s')
    (ha : (PGA.Spec.Layout.treeOf s).isSome = true) :
    matchText s m = matchText s' m := by
  unfold PGA.Spec.Layout.treeOf at h ha
  unfold matchText readText
  cases hp : parseText s with
  | error e => simp [hp, Except.toOption] at ha
  | ok t =>
    cases hp' : parseText s' with
    | error e => simp [hp, hp', Except.toOption] at h
    | ok t' =>
      simp only [hp, hp', Except.toOption, Option.some.injEq] at h
      subst h; rfl

end PGA.C08
