import PGA.Proofs.Scheme
import PGA.Proofs.SchemeSets
/-!
# C02 — descriptors equal the scheme file's declared decomposition

Theorems about `PGA.Scheme.getDescriptors` (the model of `Scheme.py` above the matcher).  They hold for every
number of atoms, every list of centre patterns / correction descriptors with *arbitrary* match lists, every
neighbour structure and every remap table meeting the stated (decidable, table-checked) conditions.
The meaning of the match lists themselves — "exactly the embeddings the RING text denotes" — is C08.
The vocabulary of the statements (`cnt`, `firstMatch`, `targetSum`, `contrib`, `ChainFree`, `Counts.keys`) is defined in
`PGA/Proofs/Scheme.lean`, next to the lemmas about it.
-/
namespace PGA.Scheme
open PGA

/-- **Centre classification succeeds exactly when every atom is matched by one centre pattern and none by two.**
`cnt ps i` is the number of pattern entries of the scheme having atom `i` as the first atom of some match. -/
theorem C02_assignCentres_ok_iff (inp : Input) :
    (∃ a, assignCentres inp = .ok a) ↔ (∀ i, cnt inp.centres i ≤ 1) ∧ (∀ i < inp.n, cnt inp.centres i = 1) :=
  assignCentres_ok_iff inp

/-- **…and then each atom carries the centre and peripheral names of the pattern that matches it.** -/
theorem C02_assignCentres_names (inp : Input) (a : Assign) (h : assignCentres inp = .ok a) (j : Nat) :
    a.get? j = firstMatch inp.centres j := assignCentres_get inp a h j

/-- **Failure clause.** The pattern-match error is raised exactly when some atom is matched by no centre pattern,
or some atom index is matched by more than one. -/
theorem C02_assignCentres_error_iff (inp : Input) :
    assignCentres inp = .error .patternMatch ↔
      (∃ i, 2 ≤ cnt inp.centres i) ∨ (∃ i, i < inp.n ∧ cnt inp.centres i = 0) := by
  rw [error_iff_not_ok, assignCentres_ok_iff, not_and_or, not_forall, not_forall]
  constructor
  · rintro (⟨i, hi⟩ | ⟨i, hi⟩)
    · exact Or.inl ⟨i, by omega⟩
    · rw [Classical.not_imp] at hi
      by_cases h0 : cnt inp.centres i = 0
      · exact Or.inr ⟨i, hi.1, h0⟩
      · exact Or.inl ⟨i, by omega⟩
  · rintro (⟨i, hi⟩ | ⟨i, hi, h0⟩)
    · exact Or.inl ⟨i, by omega⟩
    · exact Or.inr ⟨i, fun h => by have := h hi; omega⟩

/-- **Each atom with a named centre contributes one group**: the count of a group name is the number of atoms whose
centre name and multiset of neighbour peripheral names give that canonical name. -/
theorem C02_countGroups_declared (a : Assign) (nbrs : List (List Nat)) (n : Nat) (g : String) :
    (countGroups a nbrs (List.range n) []).get g =
      (((List.range n).filter fun i => decide (groupName a nbrs i = some g)).length : Rat) := by
  rw [countGroups_get]; simp [Counts.get]

/-- **Each correction descriptor is counted once per distinct set of matched atoms.** -/
theorem C02_distinctSets_card (ms : List Match) :
    distinctSets ms = ((ms.map List.toFinset).toFinset).card := distinctSets_card ms

/-- the count of a correction-descriptor name is the sum, over the entries carrying that name, of their numbers
of distinct matched atom sets -/
theorem C02_countDescs_declared (ds : List DescPat) (name : String) :
    (countDescs ds []).get name =
      ((ds.filter fun d => decide (d.name = name)).map fun d => (distinctSets d.ms : Rat)).sum := by
  rw [countDescs_get]; simp [Counts.get]

/-- **Remap rules are applied as linear substitutions** (chain-free table, any dictionary with distinct keys):
the resulting count of every name is the sum of the contributions of the original entries. -/
theorem C02_remap_linear (rm : List (String × List (Rat × String))) (hcf : ChainFree rm)
    (c : Counts) (hc : (Counts.keys c).Nodup) (t : String) :
    (remapAll rm c).get t = (c.map fun p => contrib rm p.1 p.2 t).sum := remapAll_get rm hcf c hc t

/-- …hence independent of the order in which the keys happen to be visited. -/
theorem C02_remap_order_independent (rm : List (String × List (Rat × String))) (hcf : ChainFree rm)
    (c c' : Counts) (hc : (Counts.keys c).Nodup) (hp : c.Perm c') (t : String) :
    (remapAll rm c).get t = (remapAll rm c').get t := remapAll_perm rm hcf c c' hc hp t

/-- the decomposition fails exactly when centre classification fails (never a partial result) -/
theorem C02_getDescriptors_error_iff (inp : Input) :
    getDescriptors inp = .error .patternMatch ↔ assignCentres inp = .error .patternMatch := by
  rw [error_iff_not_ok, error_iff_not_ok, getDescriptors_ok_iff]

/-- **End to end.** On success the value of every name is: the remapped correction-descriptor count if the name occurs
among the (remapped) correction descriptors, else the remapped group count. -/
theorem C02_getDescriptors_value (inp : Input) (a : Assign) (res : Counts)
    (ha : assignCentres inp = .ok a) (hr : getDescriptors inp = .ok res) (t : String) :
    res.get t =
      let groups := remapAll inp.remaps (countGroups a inp.nbrs (List.range inp.n) [])
      let descs := remapAll inp.remaps (countDescs inp.descs [])
      if t ∈ Counts.keys descs then descs.get t else groups.get t := by
  unfold getDescriptors at hr
  simp only [ha, Except.ok.injEq] at hr
  subst hr
  apply mergeUpdate_get
  exact remapAll_nodup _ _ (countDescs_nodup _ _ (by simp [Counts.keys]))

/-! ### non-vacuity: concrete inputs (a two-atom molecule with one centre pattern matching both atoms, then with a second
pattern matching atom 0 too) -/
example : cnt [⟨"C", "C", [[0, 1], [1, 0], [2]]⟩] 1 = 1 := by decide +kernel
example : assignCentres ⟨2, [[1], [0]], [⟨"C", "C", [[0, 1], [1, 0]]⟩], [], []⟩ =
    .ok [(1, ("C", "C")), (0, ("C", "C"))] := by decide +kernel
example : assignCentres ⟨2, [[1], [0]], [⟨"C", "C", [[0, 1], [1, 0]]⟩, ⟨"X", "X", [[0]]⟩], [], []⟩ =
    .error .patternMatch := by decide +kernel
example : distinctSets [[0, 8], [8, 0], [1, 2]] = 2 := by decide +kernel
example : ChainFree [("a", [((1 : Rat) / 2, "b")])] := by
  intro k ts h p hp
  simp only [lookupRemap, List.find?_cons] at h
  by_cases e : ("a" == k) = true
  · simp [e] at h; subst h; simp at hp; subst hp; decide
  · simp [e] at h

end PGA.Scheme
