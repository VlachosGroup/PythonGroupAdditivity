import PGA.Proofs.YamlFormat
import PGA.Props.C12
/-!
# C18 — a correlation written to YAML reads back as the same correlation

Property theorems about the model `PGA.Model.YamlFormat` of `ThermochemIncomplete.yaml_format` /
`Quantity.fmt_in_units`, composed with the loader model of C12.  Vocabulary (`RUnits`, `readBack`, `Round6`,
`expectedKeys`) in `PGA/Spec/YamlFormat.lean`; helper lemmas in `PGA/Proofs/YamlFormat.lean`.
`rnd` stands for what `'%g'` does to a number (assumption A-float); it is a parameter: the exact statements hold for
every `rnd`, the six-digit bounds for every `rnd` with `Round6 rnd`.  All quantifiers are unbounded (any table length,
any values — zero, negative — any unit of the right dimension).
-/
namespace PGA.YamlFormat
open PGA.Yaml PGA.Merge

section general
variable {tab : UnitTable} {R : QV} {K : UnitQ} {r : Rat} {rnd : Rat → Rat} {ru : RUnits}

/-- **Formatting never fails** when the chosen units have the right dimensions: no `UnitsError`, whatever the values
(zero included). -/
theorem C18_format_total (env : EnvOK tab R K r) (ok : ru.OK tab) (c : Corr) :
    ∃ t, yamlFormat tab R K rnd c ru.toFmt = .ok t :=
  ⟨_, yamlFormat_eq env ok c⟩

/-- **T3.** The keys written are exactly the data present, in the order of the lines: `T_ref` always; `H_ref` or
`ND_H_ref` iff a reference enthalpy is present (whatever its value); likewise entropy, table (iff not empty), range. -/
theorem C18_keys_are_present_data (env : EnvOK tab R K r) (ok : ru.OK tab) (c : Corr) :
    ∃ t, yamlFormat tab R K rnd c ru.toFmt = .ok t ∧ t.map Prod.fst = expectedKeys c ru.toFmt := by
  exact ⟨_, yamlFormat_eq env ok c, keys_mapping rnd r ru c⟩

/-- **Zero values are written.** A reference enthalpy, entropy or heat capacity equal to zero is data: its key is
emitted like any other (the presence tests are `is not None`). -/
theorem C18_zero_values_emitted (env : EnvOK tab R K r) (ok : ru.OK tab) (c : Corr)
    (hH : c.H = some 0) (hS : c.S = some 0) :
    ∃ t, yamlFormat tab R K rnd c ru.toFmt = .ok t ∧
      (if ru.H.isSome then "H_ref" else "ND_H_ref") ∈ t.map Prod.fst ∧
      (if ru.S.isSome then "S_ref" else "ND_S_ref") ∈ t.map Prod.fst := by
  obtain ⟨t, ht, hk⟩ := C18_keys_are_present_data (rnd := rnd) env ok c
  refine ⟨t, ht, ?_⟩
  rw [hk]
  simp only [expectedKeys, hH, hS, RUnits.toFmt, Option.isSome_map, List.mem_append, List.mem_singleton, true_or,
    or_true, and_self]

/-- **Write, then read (any units).** Loading the written entry gives exactly `readBack`: each number rounded in its
written unit and converted back, every value a plain number. -/
theorem C18_roundtrip_dimensional (env : EnvOK tab R K r) (ok : ru.OK tab) (c : Corr)
    (hT : (readBack rnd r ru c).Tref ≠ 0)
    (hv : checkValid (readBack rnd r ru c).cp (readBack rnd r ru c).Tref (readBack rnd r ru c).range = .ok ()) :
    roundTrip tab R K rnd c ru.toFmt = .ok (.ok (embed (readBack rnd r ru c))) :=
  roundTrip_readBack env ok c hT hv

/-- **Write, then read (any units, no side condition).** For every consistent correlation with a non-zero reference
temperature, every `rnd` that is monotone and has the six-digit property, and every positive temperature unit:
formatting succeeds, loading the written entry succeeds, and the result is `readBack` — all values plain numbers. -/
theorem C18_roundtrip_any_units (env : EnvOK tab R K r) (ok : ru.OK tab) {c : Corr} (v : Valid c) (hT : c.Tref ≠ 0)
    (hr : Round6 rnd) (hm : Mono rnd) (hf : 0 < ru.T.2) :
    roundTrip tab R K rnd c ru.toFmt = .ok (.ok (embed (readBack rnd r ru c))) :=
  roundTrip_readBack env ok c (rT_ne_zero hr (ne_of_gt hf) hT) (readBack_valid hm hf v)

/-- **T1 (values).** In the non-dimensional form what is read back has *exactly* the reference enthalpy and entropy
of the original and, point by point in the order the table is written (`sortedKeys`, a permutation of its temperatures),
exactly its heat capacities — for every `rnd`: the values never pass through `'%g'`. -/
theorem C18_roundtrip_values_exact (c : Corr) (hH : ru.H = none) (hS : ru.S = none) (hCp : ru.Cp = none) :
    (readBack rnd r ru c).H = c.H ∧ (readBack rnd r ru c).S = c.S ∧
      (readBackPts rnd r ru c.cp (sortedKeys c.cp)).map Prod.snd = (sortedKeys c.cp).map fun T => (dlookup T c.cp).getD 0 := by
  refine ⟨?_, ?_, ?_⟩
  · simp only [readBack, hH]; cases c.H <;> rfl
  · simp only [readBack, hS]; cases c.S <;> rfl
  · induction sortedKeys c.cp with
    | nil => rfl
    | cons T rest ih => simp only [readBackPts, List.map_cons, rS, hCp, ih]

/-- **T1.** Non-dimensional form, temperatures that `'%g'` writes exactly in the chosen temperature unit (at most six
significant digits): the write–read cycle returns the correlation itself — same reference temperature, range, reference
values, and the same heat capacity at every temperature (the table comes back in the order of `sortedKeys`, a
permutation of its temperatures). Includes zero reference values, zero heat capacities, missing parts. -/
theorem C18_roundtrip_nd (env : EnvOK tab R K r) (ok : ru.OK tab) {c : Corr} (v : Valid c) (hT : c.Tref ≠ 0)
    (hH : ru.H = none) (hS : ru.S = none) (hCp : ru.Cp = none)
    (hfixT : rnd (c.Tref / ru.T.2) = c.Tref / ru.T.2)
    (hfixK : ∀ T ∈ keys c.cp, rnd (T / ru.T.2) = T / ru.T.2)
    (hfixR : ∀ lo hi, c.range = some (lo, hi) → rnd (lo / ru.T.2) = lo / ru.T.2 ∧ rnd (hi / ru.T.2) = hi / ru.T.2) :
    roundTrip tab R K rnd c ru.toFmt = .ok (.ok (embed (canonCorr c))) ∧ Same (canonCorr c) c := by
  have hf := ok.t.2
  have e : readBack rnd r ru c = canonCorr c := by
    have h2 := readBackPts_fixed (rnd := rnd) (r := r) hf hCp c.cp (sortedKeys c.cp)
      fun T hT' => hfixK T ((mem_sortedKeys c.cp T).mp hT')
    have h3 : (c.range.map fun lh => (rT rnd ru.T.2 lh.1, rT rnd ru.T.2 lh.2)) = c.range := by
      cases hr : c.range with
      | none => rfl
      | some lh => rw [Option.map_some, rT_fixed hf (hfixR _ _ hr).1, rT_fixed hf (hfixR _ _ hr).2]
    rw [readBack, canonCorr, rT_fixed hf hfixT, h3, h2, hH, hS]
    cases c.H <;> cases c.S <;> rfl
  rw [← e]
  exact ⟨roundTrip_readBack env ok c (e ▸ hT) (e ▸ canonCorr_valid v), e ▸ canonCorr_same v.nodup⟩

/-! ### six significant digits -/

/-- **T2 (temperatures).** Every temperature (reference temperature, range ends, table temperatures) is read back
within the six-significant-digit bound of the original, in any temperature unit. -/
theorem C18_temperatures_six_digits (hr : Round6 rnd) (f : Rat) (hf : f ≠ 0) (T : Rat) :
    absR (rT rnd f T - T) ≤ (5 / 1000000 : Rat) * absR T :=
  rT_bound hr f hf T

/-- **T2 (values).** In the dimensional form a reference entropy or a heat capacity is read back within the
six-significant-digit bound of the original; so is the reference enthalpy when the reference temperature is written
exactly (else its own six-digit rounding enters through `H/(R·T_ref)`). Zero is read back as zero. -/
theorem C18_dimensional_six_digits (hr : Round6 rnd) (hr0 : r ≠ 0) (us : String) (f : Rat) (hf : f ≠ 0) :
    (∀ v, absR (rS rnd r (some (us, f)) v - v) ≤ (5 / 1000000 : Rat) * absR v) ∧
    (∀ T h, T ≠ 0 → absR (rH rnd r T T (some (us, f)) h - h) ≤ (5 / 1000000 : Rat) * absR h) ∧
    (rnd 0 = 0 ∧ rS rnd r (some (us, f)) 0 = 0) :=
  ⟨rS_bound hr hr0 us f hf, rH_bound hr hr0 us f hf, round6_zero hr, by simp [rS, round6_zero hr]⟩

end general

/-! ### with the live tables -/

/-- **T1 with the live tables, temperatures in K.** -/
theorem C18_roundtrip_nd_exact {rnd : Rat → Rat} {c : Corr} (v : Valid c) (hT : c.Tref ≠ 0)
    (hfixT : rnd c.Tref = c.Tref) (hfixK : ∀ T ∈ keys c.cp, rnd T = T)
    (hfixR : ∀ lo hi, c.range = some (lo, hi) → rnd lo = lo ∧ rnd hi = hi) :
    roundTrip unitTable gasR kelvin rnd c ⟨none, none, none, "K"⟩ = .ok (.ok (embed (canonCorr c))) ∧
      Same (canonCorr c) c := by
  have ok : (RUnits.mk ("K", 1) none none none).OK unitTable :=
    ⟨⟨C12_tab_kelvin.1, by norm_num⟩, (fun _ _ h => by cases h), (fun _ _ h => by cases h), (fun _ _ h => by cases h)⟩
  have := C18_roundtrip_nd (rnd := rnd) liveEnv ok v hT rfl rfl rfl (by simpa using hfixT)
    (fun T hm => by simpa using hfixK T hm) (fun lo hi h => by simpa using hfixR lo hi h)
  exact this

/-! ### non-vacuity -/

section examples

def exC : Corr := ⟨some 0, some (-2), [(400, 0), (300, 1)], 29815 / 100, some (200, 1000)⟩

example : Valid exC := ⟨(checkValid_iff _ _ _).mp (by decide +kernel), by decide +kernel⟩

/-- written non-dimensionally (identity rounding) and read back: the canonical form of `exC`, zero values kept -/
example : roundTrip unitTable gasR kelvin id exC ⟨none, none, none, "K"⟩ = .ok (.ok (embed (canonCorr exC))) := by
  decide +kernel

example : (yamlFormat unitTable gasR kelvin id exC ⟨some "kcal/mol", none, none, "kK"⟩).map (fun t => t.map Prod.fst)
    = .ok ["T_ref", "H_ref", "ND_S_ref", "ND_Cp_data", "range"] := by decide +kernel

example : (RUnits.mk ("kK", 1000) (some ("kcal/mol", 4184)) none none).OK unitTable := by
  refine ⟨⟨by decide +kernel, by norm_num⟩, ?_, (fun _ _ h => by cases h), (fun _ _ h => by cases h)⟩
  intro us f h
  cases h
  exact ⟨by decide +kernel, by norm_num⟩

/-- `Round6` is satisfiable (by the identity) -/
example : Round6 id := by
  intro x
  simp only [id, sub_self]
  have : absR 0 = 0 := by simp [absR]
  rw [this]
  exact mul_nonneg (by norm_num) (absR_nonneg x)

end examples

end PGA.YamlFormat
