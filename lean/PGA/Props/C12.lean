import PGA.Proofs.Yaml
import PGA.Model.YamlTables
/-!
# C12 — loading a library does not depend on the units its data use

Property theorems about the model `PGA.Model.Yaml` of `yaml_io/builtins.py` (`qty_loader`, …), `yaml_io/schema.py`
(`ObjectLoader`), `Units/helpers.py` (`with_units`) and `ThermochemIncomplete.yaml_construct`.
Vocabulary (`Denotes`, `Renders`, `EntryDenotes`, `embed`, `EnvOK`) in `PGA/Spec/Yaml.lean`, helper lemmas in
`PGA/Proofs/Yaml.lean`.  The quantifiers are unbounded: every value (zero and negative included), every unit of the
right dimension, every table length, every mixture of presentations, every order of the keys.
-/
namespace PGA.Yaml

/-! ### table obligations: the model's schema and environment are the live ones -/

/-- Table obligation: the schema the model loads with is the one registered under `!ThermochemGroup`
(member names, order, optional/default, types — regenerated from the live schema repository). -/
theorem C12_tab_schema_group : thermoSchema.summary = PGA.Gen.YamlUnits.schemaGroup := by decide +kernel

/-- Table obligation: same for `!ThermochemIncomplete`, whose live schema is the same table. -/
theorem C12_tab_schema_incomplete : thermoSchema.summary = PGA.Gen.YamlUnits.schemaIncomplete :=
  C12_tab_schema_group.trans rfl

/-- Table obligation: the only default in the live schemas is `T_ref: 298.15 K`. -/
theorem C12_tab_defaults : thermoSchema.defaults = PGA.Gen.YamlUnits.schemaGroupDefaults ∧
    thermoSchema.defaults = PGA.Gen.YamlUnits.schemaIncompleteDefaults := by decide +kernel

/-- Table obligation: the unit string `K` evaluates to one kelvin. -/
theorem C12_tab_kelvin : unitTable.lookup "K" = some ⟨1, Dim.temperature⟩ ∧ kelvin = ⟨1, Dim.temperature⟩ := by
  decide +kernel

/-- Table obligation: `Consts.GAS_CONSTANT` is a non-zero quantity of dimension J/(mol K). -/
theorem C12_tab_gas_constant : gasR = .qty gasR.value Dim.molarEntropy ∧ gasR.value ≠ 0 := by decide +kernel

/-- Table obligation: every unit of the generated table has a positive SI factor. -/
theorem C12_tab_units_positive : ∀ u ∈ unitTable, 0 < u.2.factor := by decide +kernel

/-- Table obligation: groups carry the single property set `thermochem`, loaded as `ThermochemGroup`. -/
theorem C12_tab_property_sets : PGA.Gen.YamlUnits.propertySets = [("thermochem", "ThermochemGroup")] := by decide +kernel

/-- the live environment satisfies the hypotheses of the general theorems -/
theorem liveEnv : EnvOK unitTable gasR kelvin gasR.value :=
  ⟨C12_tab_gas_constant.1, C12_tab_gas_constant.2, C12_tab_kelvin.2, C12_tab_kelvin.1⟩

/-! ### T1: the loaded correlation is the denoted one, as plain numbers, whatever the presentation -/

/-- **T1.** An entry — keys in any order; each dimensional value a bare number under the file's default unit of its kind
or a string with an explicit unit (any unit of the right dimension, any prefix); reference values and the table
dimensional or already non-dimensional — that denotes the consistent non-dimensional correlation `L` loads to exactly
`L`, every value a plain number.  `v = 0` is not excluded anywhere. -/
theorem C12_presentation_independent {tab : UnitTable} {R : QV} {K : UnitQ} {r : Rat} {units : List (Kind × String)}
    {data : List (String × YVal)} {e : EntryPres} {L : CorrOf Rat}
    (env : EnvOK tab R K r) (hr : Renders data e) (hd : EntryDenotes tab units r e L) (hT : L.Tref ≠ 0)
    (hv : checkValid L.cp L.Tref L.range = .ok ()) :
    loadEntry tab R K units (.map data) = .ok (embed L) :=
  loadEntry_denotes env hr hd hT hv

theorem embed_allPlain (L : CorrOf Rat) : (embed L).AllPlain := by
  refine ⟨fun v hv => ?_, fun v hv => ?_, fun kv hkv => ?_⟩
  · obtain ⟨x, -, rfl⟩ := Option.map_eq_some_iff.mp hv
    rfl
  · obtain ⟨x, -, rfl⟩ := Option.map_eq_some_iff.mp hv
    rfl
  · obtain ⟨a, -, rfl⟩ := List.mem_map.mp hkv
    rfl

/-- **T1 (plain numbers).** Under the hypotheses of T1 the load succeeds and every loaded value is a plain number,
with the live tables. -/
theorem C12_loads_plain {units : List (Kind × String)} {data : List (String × YVal)} {e : EntryPres} {L : CorrOf Rat}
    (hr : Renders data e) (hd : EntryDenotes unitTable units gasR.value e L) (hT : L.Tref ≠ 0)
    (hv : checkValid L.cp L.Tref L.range = .ok ()) :
    ∃ c, loadEntryLive units (.map data) = .ok c ∧ c.AllPlain ∧ c.Tref = L.Tref ∧ c.range = L.range :=
  ⟨embed L, loadEntry_denotes liveEnv hr hd hT hv, embed_allPlain L, rfl, rfl⟩

/-- **T1 (relational form).** Two entries, in two files with different units blocks, written in different
presentations, that denote the same physical data load to the same correlation. -/
theorem C12_same_quantity_same_load {tab : UnitTable} {R : QV} {K : UnitQ} {r : Rat}
    {units₁ units₂ : List (Kind × String)} {data₁ data₂ : List (String × YVal)} {e₁ e₂ : EntryPres} {L : CorrOf Rat}
    (env : EnvOK tab R K r) (hr₁ : Renders data₁ e₁) (hr₂ : Renders data₂ e₂)
    (hd₁ : EntryDenotes tab units₁ r e₁ L) (hd₂ : EntryDenotes tab units₂ r e₂ L) (hT : L.Tref ≠ 0)
    (hv : checkValid L.cp L.Tref L.range = .ok ()) :
    loadEntry tab R K units₁ (.map data₁) = loadEntry tab R K units₂ (.map data₂) := by
  rw [loadEntry_denotes env hr₁ hd₁ hT hv, loadEntry_denotes env hr₂ hd₂ hT hv]

/-- **Zero is a value like any other.** `with_units(0, u)` is a quantity of the unit's dimension, and a zero written
under a default unit or with an explicit unit loads as the zero quantity of its kind (not as a bare `0`). -/
theorem C12_zero_like_any_value {tab : UnitTable} {units : List (Kind × String)} (k : Kind) (p : Pres)
    (h : Denotes tab units k p 0) :
    qtyLoad tab units k p.node = .ok (.q (.qty 0 k.dim)) ∧
      ∀ u : UnitQ, u.dim ≠ Dim.zero → withUnits 0 u = .qty 0 u.dim := by
  refine ⟨qtyLoad_denotes h, ?_⟩
  intro u hu
  simp [withUnits, build_of_ne hu]

/-! ### T2: a dimensional value with no unit available is rejected -/

/-- **T2 (value).** A bare number of a kind for which the file gives no default unit is `InputDataError`. -/
theorem C12_missing_unit_rejected (tab : UnitTable) (units : List (Kind × String)) (k : Kind) (v : Rat)
    (h : units.lookup k = none) : qtyLoad tab units k (.num v) = .error .inputData := by
  simp [qtyLoad, h]

/-- **T2 (entry).** An entry that has, anywhere among its dimensional values (`T_ref`, `H_ref`, `S_ref`, an end of `range`,
a temperature or a heat capacity of any row of `Cp_data`/`ND_Cp_data`), a bare number whose kind has no default unit in
the file is never loaded. -/
theorem C12_missing_unit_entry_rejected {tab : UnitTable} {R : QV} {K : UnitQ} {units : List (Kind × String)}
    {data : List (String × YVal)} {m : Member} {x : YVal} (hm : m ∈ thermoSchema) (hx : data.lookup m.name = some x)
    (hb : HasBareNoUnit units m.ty x) : ∀ c, loadEntry tab R K units (.map data) ≠ .ok c := by
  intro c hc
  obtain ⟨p, _, _, hp, -⟩ := loadEntry_ok_inv hc
  obtain ⟨r, hr, -⟩ := loadMembers_lookup thermoSchema p thermoSchema_nodup hp m hm
  rw [loadMember_present hx] at hr
  obtain ⟨v, hv, -⟩ := bind_eq_ok hr
  exact load_ne_ok_of_bare hb v hv

/-! ### T3: a unit of the wrong dimension never yields a plain number -/

/-- **T3 (reference enthalpy).** If `H_ref` evaluates to a quantity whose dimension is not that of a molar energy —
an explicit unit of the wrong dimension, or a bare number under a wrong default unit — then, whenever the entry loads
at all, `ND_H_ref` is a unit-carrying object, never a plain number.  Same for `S_ref`. -/
theorem C12_wrong_dimension_never_plain {tab : UnitTable} {R : QV} {K : UnitQ} {r : Rat} {units : List (Kind × String)}
    {data : List (String × YVal)} {c : Loaded} (env : EnvOK tab R K r)
    (hc : loadEntry tab R K units (.map data) = .ok c) :
    (∀ node x d, data.lookup "ND_H_ref" = none → data.lookup "H_ref" = some node →
        qtyLoad tab units .molarEnthalpy node = .ok (.q (.qty x d)) → d ≠ Dim.molarEnergy →
        ∃ y d', c.H = some (.qty y d')) ∧
    (∀ node x d, data.lookup "ND_S_ref" = none → data.lookup "S_ref" = some node →
        qtyLoad tab units .molarEntropy node = .ok (.q (.qty x d)) → d ≠ Dim.molarEntropy →
        ∃ y d', c.S = some (.qty y d')) := by
  obtain ⟨p, Tq, cp, hp, -, hH, hS, -, -, hI⟩ := loadEntry_ok_inv hc
  obtain ⟨rfl, -, rfl, -⟩ := env
  obtain ⟨t, ht⟩ := inUnits_ok_dim hI
  have ht : Tq = .qty t Dim.temperature := ht
  subst ht
  obtain ⟨-, -, -, lNH, lNS, -, lH, lS⟩ := lookups_of_members hp
  constructor
  · intro node x d hnd hn hq hd
    have l1 := lNH (o := none) (member_absent hnd)
    have l2 := lH (o := some _) (member_present hn hq)
    rw [cH_dim l1 l2, R_mul_T] at hH
    obtain ⟨q, hdiv, e⟩ := bind_eq_ok hH
    obtain ⟨y, d', rfl⟩ := qty_div_ne hd hdiv
    exact ⟨y, d', (Except.ok.inj e).symm⟩
  · intro node x d hnd hn hq hd
    have l1 := lNS (o := none) (member_absent hnd)
    have l2 := lS (o := some _) (member_present hn hq)
    rw [cS_dim l1 l2] at hS
    obtain ⟨q, hdiv, e⟩ := bind_eq_ok hS
    obtain ⟨y, d', rfl⟩ := qty_div_ne hd hdiv
    exact ⟨y, d', (Except.ok.inj e).symm⟩

/-- **T3 (table).** If every row of `Cp_data` has a heat capacity that evaluates to a quantity of another dimension
than J/(mol K), then, whenever the entry loads at all, the table is not empty and none of its values is a plain number. -/
theorem C12_wrong_dimension_cp_never_plain {tab : UnitTable} {R : QV} {K : UnitQ} {r : Rat} {units : List (Kind × String)}
    {data : List (String × YVal)} {c : Loaded} (env : EnvOK tab R K r)
    (hc : loadEntry tab R K units (.map data) = .ok c)
    (hnd : data.lookup "ND_Cp_data" = none) {rows : List YVal} (hn : data.lookup "Cp_data" = some (.seq rows))
    (hne : rows ≠ [])
    (hrows : ∀ row ∈ rows, ∃ tn vn x d, row = .seq [tn, vn] ∧
      qtyLoad tab units .molarHeatCapacity vn = .ok (.q (.qty x d)) ∧ d ≠ Dim.molarEntropy) :
    c.cp ≠ [] ∧ ∀ kv ∈ c.cp, ∃ y d, kv.2 = .qty y d := by
  obtain ⟨p, Tq, cp, hp, -, -, -, hCp, hcp, -⟩ := loadEntry_ok_inv hc
  obtain ⟨rfl, -, rfl, -⟩ := env
  obtain ⟨-, -, lNC, -⟩ := lookups_of_members hp
  have l1 := lNC (o := none) (member_absent hnd)
  obtain ⟨rr, hrr, l2⟩ := loadMembers_lookup thermoSchema p thermoSchema_nodup hp mCp (by rw [thermoSchema_eq]; simp)
  rw [loadMember_present (m := mCp) hn] at hrr
  obtain ⟨v, hv, hrr⟩ := bind_eq_ok hrr
  cases hrr
  rw [show mCp.ty = .list _ from rfl, load_list_seq] at hv
  obtain ⟨ls, hls, hv⟩ := bind_eq_ok hv
  cases hv
  rw [cCp_of_dim l1 l2] at hCp
  -- rows, loaded rows and points correspond one to one
  have h1 := mapM_ok_forall₂ _ rows ls hls
  have h2 := cpPoints_ok_forall₂ ls cp hCp
  rw [hcp]
  constructor
  · apply dictOfList_ne_nil
    rintro rfl
    cases h2
    cases h1
    exact hne rfl
  · intro kv hkv
    obtain ⟨b, hb, t, w, rfl, hw⟩ := forall₂_mem_right h2 (mem_dictOfList hkv)
    obtain ⟨row, hrow, hload⟩ := forall₂_mem_right h1 hb
    obtain ⟨tn, vn, x, d, rfl, hq, hd⟩ := hrows row hrow
    rw [load_pair, load_qty, load_qty] at hload
    obtain ⟨t', -, hload⟩ := bind_eq_ok hload
    rw [hq] at hload
    cases hload
    exact qty_div_ne hd hw

/-- **T3 (temperature).** A reference temperature that evaluates to a quantity of another dimension is never loaded
(`in_units('K')` raises `UnitsError`, reported as `InputDataError`). -/
theorem C12_wrong_dimension_temperature_rejected {tab : UnitTable} {R : QV} {K : UnitQ} {r : Rat}
    {units : List (Kind × String)} {data : List (String × YVal)} (env : EnvOK tab R K r)
    {node : YVal} {x : Rat} {d : Dim} (hn : data.lookup "T_ref" = some node)
    (hq : qtyLoad tab units .temperature node = .ok (.q (.qty x d))) (hd : d ≠ Dim.temperature) :
    ∀ c, loadEntry tab R K units (.map data) ≠ .ok c := by
  intro c hc
  obtain ⟨p, Tq, cp, hp, hT, -, -, -, -, hI⟩ := loadEntry_ok_inv hc
  obtain ⟨t, ht⟩ := inUnits_ok_dim hI
  rw [env.K_eq] at ht
  obtain ⟨-, lT, -⟩ := lookups_of_members hp
  have l := lT (o := some _) (member_present hn hq)
  rw [cTref_eq l] at hT
  cases hT
  cases ht
  exact hd rfl

/-- **F12 (the unrepaired shortcut).** With the old zero shortcut of `with_units`, a zero reference enthalpy written as a
bare number loads as a bare `0`, and `H_ref/(R*T_ref)` is then a unit-carrying object of dimension 1/(J/mol) — while the
repaired helper gives the plain number 0. -/
theorem C12_F12_old_shortcut_not_plain (u : UnitQ) (hu : u.dim = Dim.molarEnergy) (r T : Rat) (h : r * T ≠ 0) :
    (withUnitsOld 0 u).div ((QV.qty r Dim.molarEntropy).mul (.qty T Dim.temperature))
        = .ok (.qty 0 (Dim.zero.sub Dim.molarEnergy)) ∧
      (withUnits 0 u).div ((QV.qty r Dim.molarEntropy).mul (.qty T Dim.temperature)) = .ok (.num 0) := by
  constructor
  · simp only [withUnitsOld, if_true, R_mul_T, QV.div, QV.value, h, if_false, QV.dim]
    rw [build_of_ne (by decide)]
    simp
  · simp only [withUnits, hu, build_of_ne (show Dim.molarEnergy ≠ Dim.zero by decide), R_mul_T]
    rw [qty_div_same h]
    simp

/-! ### concrete inputs: an entry with its rendering (`Renders`; no `EntryDenotes` is exhibited), and what the live
loader returns on it and on faulty variants -/

section examples

def exUnits : List (Kind × String) := [(.molarEnthalpy, "kcal/mol"), (.temperature, "K")]

/-- `H_ref: 0` (bare, under `kcal/mol`), `S_ref: "3 J/mol/K"`, `T_ref` defaulted, one row `[300, "2 cal/mol/K"]`,
`range: [200, "0.5 kK"]` -/
def exEntry : EntryPres :=
  ⟨none, some (.dim (.bare 0)), some (.dim (.explicit 3 "J/mol/K")),
   some (.dim [(.bare 300, .explicit 2 "cal/mol/K")]), some (.bare 200, .explicit (1/2) "kK")⟩

def exData : List (String × YVal) :=
  [("H_ref", .num 0), ("range", .seq [.num 200, .qstr (1/2) "kK"]), ("S_ref", .qstr 3 "J/mol/K"),
   ("Cp_data", .seq [.seq [.num 300, .qstr 2 "cal/mol/K"]])]

example : Renders exData exEntry := by
  constructor <;> rfl

/-- the example loads, with a zero reference enthalpy that is a plain number -/
example : (match loadEntryLive exUnits (.map exData) with
    | .ok c => c.H == some (.num 0) && c.range == some (200, 500) && c.cp.length == 1
    | .error _ => false) = true := by decide +kernel

/-- the same entry with `H_ref` as a bare number but no default unit for enthalpies is rejected -/
example : loadEntryLive [(.temperature, "K")] (.map exData) = .error .inputData := by decide +kernel

/-- wrong dimension: `H_ref: "1.5 K"` loads, as a unit-carrying object -/
example : (match loadEntryLive [] (.map [("H_ref", .qstr (3/2) "K")]) with
    | .ok c => (match c.H with | some (.qty _ _) => true | _ => false)
    | .error _ => false) = true := by decide +kernel

/-- wrong dimension on the reference temperature: rejected -/
example : loadEntryLive [] (.map [("T_ref", .qstr 300 "J")]) = .error .inputData := by decide +kernel

example : HasBareNoUnit [] (.list (.pair (.qty .temperature) (.qty .molarHeatCapacity)))
    (.seq [.seq [.qstr 300 "K", .num 2]]) :=
  .item _ _ (.seq [.qstr 300 "K", .num 2]) (List.mem_singleton.mpr rfl) (.right _ _ _ _ (.here _ _ rfl))

end examples

end PGA.Yaml
