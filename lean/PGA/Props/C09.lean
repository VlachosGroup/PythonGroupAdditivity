import PGA.Proofs.RingTop
import PGA.Proofs.RingReadSafe
import PGA.Model.RingRead
import PGA.Gen.RingGrammar
/-!
# C09 — reading RING text always ends with a query or a RING error

Theorems about the engine model `PGA.Model.RingParse` (Parser.py) interpreting the **generated**
grammar tables `PGA.Gen.RingGrammar` (both dictionaries of Grammar.py), and about the read pipeline
`PGA.Model.RingRead.read` (Reader.py, MolQueryRead.py, ReactionQueryRead.py — outcome skeleton).
Vocabulary in `PGA/Spec/RingParse.lean`, lemmas in `PGA/Proofs/Ring*.lean`.

All general theorems quantify over **every** text (any length, any characters) and — where a grammar
appears — over every grammar table satisfying the static check; the table obligations then discharge
that check for the two tables regenerated from the working tree on every run.
-/
namespace PGA.Ring
open PGA.Gen.RingGrammar

/-! ## Table obligations (finite, regenerated, `decide +kernel`) -/

/-- **T1a** Every rule name referenced anywhere in `enhanced_grammar` is a key of the dictionary
(fails on the unrepaired grammar: `C_Cyclic`, `C_DeclaredCharacteristic`, `ElementSymbol`; F21).
T2 rests on T1c alone; T1a and T1b stay as the checks that name such a defect precisely. -/
theorem C09_tab_refs_defined_enhanced : allRefsDefined enhanced = true := by decide +kernel
/-- **T1a** the same for `strict_grammar`. -/
theorem C09_tab_refs_defined_strict : allRefsDefined strict = true := by decide +kernel

/-- **T1b** Every `Literal`/`Filler`/`Literals` token of `enhanced_grammar` and every entry of the
`filler` list is a non-empty string, and every `Literals` has at least one alternative. -/
theorem C09_tab_tokens_nonempty_enhanced : allTokensNonEmpty enhanced = true := by decide +kernel
/-- **T1b** the same for `strict_grammar`. -/
theorem C09_tab_tokens_nonempty_strict : allTokensNonEmpty strict = true := by decide +kernel

/-- **T1c** The rank table and nullable table generated for `enhanced_grammar` are a valid witness:
no rule can re-enter itself (directly or through other rules) without a character having been
consumed; no `ZeroOrMore` body is nullable; every `Digit(n)` has `1 ≤ n ≤` the int digit limit. -/
theorem C09_tab_wellranked_enhanced : WellRanked enhanced enhancedNullable :=
  checkGrammar_sound _ _ (by decide +kernel)
/-- **T1c** the same for `strict_grammar`. -/
theorem C09_tab_wellranked_strict : WellRanked strict strictNullable :=
  checkGrammar_sound _ _ (by decide +kernel)

/-- `[lo, hi]` lies in the union of the runs, found in one pass over a table sorted by position:
the run that holds `lo` moves `lo` behind its end. -/
def sweep : List (Nat × Nat × Nat) → Nat → Nat → Bool
  | [], lo, hi => decide (hi < lo)
  | u :: us, lo, hi => decide (hi < lo) || sweep us (if u.1 ≤ lo ∧ lo ≤ u.2.1 then u.2.1 + 1 else lo) hi

theorem sweep_sound : ∀ (us : List (Nat × Nat × Nat)) (lo hi : Nat), sweep us lo hi = true →
    ∀ x, lo ≤ x → x ≤ hi → us.any (fun u => decide (u.1 ≤ x) && decide (x ≤ u.2.1)) = true
  | [], lo, hi, h, x, h1, h2 => by simp [sweep] at h; omega
  | u :: us, lo, hi, h, x, h1, h2 => by
    simp only [sweep, Bool.or_eq_true, decide_eq_true_eq] at h
    rcases h with h | h
    · omega
    · simp only [List.any_cons, Bool.or_eq_true, Bool.and_eq_true, decide_eq_true_eq]
      by_cases hx : u.1 ≤ x ∧ x ≤ u.2.1
      · exact Or.inl hx
      · refine Or.inr (sweep_sound us _ hi h x ?_ h2)
        split <;> omega

/-- `decimalCovered` asks the runs for every code point of every range; one sweep per range answers for all of them. -/
theorem decimalCovered_of_sweep
    (h : PGA.Gen.RingChars.isdecimalRanges.all
      (fun r => sweep PGA.Gen.Chars.decimalRuns r.1 (r.1 + (r.2 - r.1))) = true) : decimalCovered = true := by
  simp only [decimalCovered, List.all_eq_true, List.mem_range] at h ⊢
  exact fun r hr k hk => sweep_sound _ _ _ (h r hr) _ (by omega) (by omega)

/-- **T1d** Every character `str.isdecimal` accepts (the repaired `Digit`/`Number` test, F18) is one
`int()` converts (regenerated CPython tables): `int(out)` cannot raise on what the scanner collected. -/
theorem C09_tab_decimal_convertible : decimalCovered = true :=
  decimalCovered_of_sweep (by decide +kernel)

/-- **T1e** `enhanced_grammar` uses no `ZeroOrMore` and no empty literal, so the child kinds of every node
the parser builds are one of finitely many sequences read off the rule body (`kinds`). -/
theorem C09_tab_plain_enhanced : allPlain enhanced = true := by decide +kernel

/-! ## General theorems -/

/-- **T2** (soundness of the static analysis, all grammars, all texts) On a well-ranked table the
parser ends, for every text, in `accepted` or `syntaxError`: never `stuck` (a rule re-entered
without progress — Python's unbounded recursion), never `missingRule` (KeyError), never `hang`
(a loop that does not advance), never an internal exception.  Together with Lean's termination check
of `eval` (well-founded on remaining input, rank bound, expression size) this is "the parser never
hangs on any string". -/
theorem C09_never_stuck (G : Grammar) (nt : List Bool) (hG : WellRanked G nt) (s : List Char) :
    ∀ a, parse G s ≠ .abort a :=
  parse_no_abort G nt hG C09_tab_decimal_convertible s

/-- non-vacuity: both shipped tables satisfy the hypothesis (T1c), so T2 applies to them. -/
theorem C09_shipped_never_stuck (s : List Char) :
    (∀ a, parse enhanced s ≠ .abort a) ∧ (∀ a, parse strict s ≠ .abort a) :=
  ⟨C09_never_stuck _ _ C09_tab_wellranked_enhanced s, C09_never_stuck _ _ C09_tab_wellranked_strict s⟩

/-- **T3** (position invariant, every grammar table, every text, every reachable state) From a state
whose `(lineno, colno)` is the line/column of `sidx`, with `sidx ≤ |s|` and `stream[sidx:]` left, every
combinator returns such a state again, and every error it raises or remembers (`current_error`)
carries the line/column of some index `i ≤ |s|`. -/
theorem C09_position_invariant (G : Grammar) (s : List Char) (e : Expr) (st : St) (cur : Option Err) (bound : Nat)
    (hi : Inv s st) (hc : CurInside s cur) : ResInv s (eval G e st cur bound) :=
  eval_inv G s e st cur bound hi hc

/-- **T3'** Every syntax error `parse` reports lies inside the text (end position included):
its line and column are those of an index `i ≤ |s|`. No hypothesis on the grammar. -/
theorem C09_error_inside (G : Grammar) (s : List Char) (e : Err) (h : parse G s = .syntaxError e) :
    Inside s e.line e.col :=
  parse_error_inside G s e h

/-- **T5** (after the end-of-input repair, F17) Text that is accepted has been consumed in full: the
final state is the end of the text, for every grammar table. -/
theorem C09_accepted_consumed (G : Grammar) (s : List Char) (ast : Ast) (fin : St)
    (h : parse G s = .accepted ast fin) :
    fin.rest = [] ∧ fin.idx = s.length ∧ fin.line = lineOf s ∧ fin.col = colOf s :=
  parse_accepted_end G s ast fin h

/-- position order of two errors: `a` is not further into the text than `b` -/
def Err.notAfter (a b : Err) : Prop := a.line < b.line ∨ (a.line = b.line ∧ a.col ≤ b.col)

/-- **T3b** (furthest-error merging, `RINGSyntaxError.update`) Merging keeps the further of the two
positions: the merged error is at the position of one of them and neither is after it. -/
theorem C09_update_furthest (e c : Err) :
    e.notAfter (e.update c) ∧ c.notAfter (e.update c) ∧
    (((e.update c).line = e.line ∧ (e.update c).col = e.col) ∨ ((e.update c).line = c.line ∧ (e.update c).col = c.col)) := by
  unfold Err.update Err.notAfter
  split
  · omega
  · split
    · first | omega | (dsimp only; omega)
    · omega

example : (Err.mk 1 5 [.string]).update (Err.mk 2 1 [.eos]) = Err.mk 2 1 [.eos] := by decide

/-! ## The read pipeline (`Read(text)`) -/

/-- **T5 for `Read`** A query is returned only for text the parser consumed to its last character. -/
theorem C09_read_query_consumed (s : List Char) (q : Query) (h : read s = .query q) :
    ∃ ast fin, parse enhanced s = .accepted ast fin ∧ fin.rest = [] ∧ fin.idx = s.length := by
  unfold read at h
  cases hp : parse enhanced s with
  | syntaxError e => rw [hp] at h; cases h
  | abort a => rw [hp] at h; cases a <;> cases h
  | accepted ast fin =>
    have := C09_accepted_consumed enhanced s ast fin hp
    exact ⟨ast, fin, rfl, this.1, this.2.1⟩

/-- **T3 for `Read`** a syntax error of `Read` lies inside the text. -/
theorem C09_read_syntax_inside (s : List Char) (e : Err) (h : read s = .syntaxError e) : Inside s e.line e.col := by
  unfold read at h
  cases hp : parse enhanced s with
  | syntaxError e' => rw [hp] at h; cases h; exact C09_error_inside enhanced s e hp
  | abort a => rw [hp] at h; cases a <;> cases h
  | accepted ast fin => rw [hp] at h; simp only at h; split at h <;> cases h

/-- **T4a** `Read` never hangs, on any text. -/
theorem C09_read_no_hang (s : List Char) : read s ≠ .hang := by
  unfold read
  cases hp : parse enhanced s with
  | syntaxError e => simp
  | abort a => exact absurd hp (C09_never_stuck _ _ C09_tab_wellranked_enhanced s a)
  | accepted ast fin => simp only; split <;> simp

/-- **T4b** The parser contributes no internal outcome: if `Read` ends in an internal exception then the
text was *accepted by the parser* and the reader stopped on a tree shape it does not expect (`shape`: a
failed assertion / index / attribute error).  Every other reader failure is a `RINGReaderError` or
`NotImplementedError` by construction of the outcome model. -/
theorem C09_read_internal_only_shape (s : List Char) (h : read s = .internal) :
    ∃ ast fin, parse enhanced s = .accepted ast fin ∧ readAst ast = .error .shape := by
  unfold read at h
  cases hp : parse enhanced s with
  | syntaxError e => rw [hp] at h; cases h
  | abort a => exact absurd hp (C09_never_stuck _ _ C09_tab_wellranked_enhanced s a)
  | accepted ast fin =>
    rw [hp] at h; simp only at h
    split at h
    · cases h
    · cases h
    · cases h
    · rename_i hr; exact ⟨ast, fin, rfl, hr⟩

/-- **T4c** (tree shapes, all texts) Every tree the parser builds from the generated grammar conforms to it:
each node's children have one of the kind sequences of its rule body, every string leaf is non-empty,
and the root is a `RINGInput` node. -/
theorem C09_tree_conforms (s : List Char) (ast : Ast) (fin : St) (h : parse enhanced s = .accepted ast fin) :
    Conf enhanced ast ∧ kindOf ast = .node rRINGInput :=
  parse_conf enhanced C09_tab_plain_enhanced s ast fin h

/-- the full T4: no text ends in an exception that is neither a RING error nor NotImplementedError, nor hangs -/
def C09_read_total_full : Prop := ∀ s : List Char, read s ≠ .internal ∧ read s ≠ .hang

/-- **T4** (all texts) `Read` ends in a query, a RINGSyntaxError, a RINGReaderError or a
NotImplementedError: never in another exception, never in a hang.  The reader part rests on the
child-kind tables of the 46 rules the readers visit (`rk_*`, `one_*` in `PGA/Proofs/RingReadSafe.lean`),
each re-decided by the kernel over the regenerated grammar: for every tree shape the grammar can
produce the readers' assertions, indexings and attribute accesses succeed. -/
theorem C09_read_total : C09_read_total_full := by
  intro s
  refine ⟨?_, C09_read_no_hang s⟩
  intro h
  obtain ⟨ast, fin, hp, hr⟩ := C09_read_internal_only_shape s h
  obtain ⟨hc, hk⟩ := C09_tree_conforms s ast fin hp
  exact readAst_safe ast hc hk hr

/-! ## Non-vacuity on a hand-written table (the generated tables are covered by T1c) -/

/-- `S ::= 'a' S?` with blanks as filler -/
def demoGrammar : Grammar :=
  { root := 0, rules := [some (.allCons (.filler ['a'] false) (.allCons (.opt (.ref 0)) .allNil))], rank := [0],
    filler := [[' ']], stringOkay := [] }

example : WellRanked demoGrammar [false] := checkGrammar_sound _ _ (by decide +kernel)
/-- a syntax error at the start of the text: line 1, column 1 of `"b"` -/
example : parse demoGrammar ['b'] = .syntaxError ⟨1, 1, [.lit ['a']]⟩ := by
  simp [parse, skipFiller, skipFillerAux, demoGrammar, eval, evalLeaf, Grammar.top, errAt, litTok]
example : parse demoGrammar ['a', ' ', 'a'] = .accepted (.node 0 [.node 0 []]) ⟨[], 3, 1, 4⟩ := by
  simp [parse, skipFiller, skipFillerAux, demoGrammar, eval, evalLeaf, Grammar.top, errAt, litTok, take, advance, catchErr]
example : Inv ['a', ' ', 'a'] ⟨['a'], 2, 1, 3⟩ := ⟨by decide, rfl, rfl, rfl⟩
/-- the static check is not trivially true: a left-recursive rule `S ::= S? 'a'` has no valid ranking -/
example : checkGrammar { demoGrammar with rules := [some (.allCons (.opt (.ref 0)) (.allCons (.filler ['a'] false) .allNil))] } [false] = false := by
  decide +kernel
/-- … and a dangling reference is rejected -/
example : allRefsDefined { demoGrammar with rules := [some (.ref 1)] } = false := by decide +kernel

end PGA.Ring
