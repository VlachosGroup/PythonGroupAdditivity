import PGA.Proofs.PipelineCompose
import PGA.Props.C07
import PGA.Props.C19
import PGA.Props.C20
/-!
# The pipeline `lib.Estimate(lib.GetDescriptors(x), 'thermochem').get_X(T)` — composition theorems

What a user of pgradd relies on is the *composition* of the layers that C01–C04, C07, C19, C20 decide one by one.
`PGA.Pipeline.pipeline reg S lib m set` (`PGA/Model/Pipeline.lean`) is that composition — `decompose S m`, then
`estimate` over the resulting dictionary with string keys — and the theorems below are about it, for every scheme,
library, molecule graph and temperature:

* `PIPE_value_depends_on_counts_only` — an estimate sees a dictionary only through the count of each name;
* `PIPE_relabel_invariant` (C03 ∘ C01) — renumbering the atoms changes nothing of the outcome;
* `PIPE_mixture_additive`, `PIPE_mixture_failure`, `PIPE_mixture_estimate_iff`, `PIPE_mixture_quadratic` (C04 ∘ C01/C20) —
  `A ⊔ B`: values add up, failures propagate stage by stage, the range is the intersection, `xᵀMx` gets a cross term;
* `PIPE_spelling_*` (C19 ∘ C14/C01) — how a library file spells a group does not matter, how a *string key* spells it does;
* `PIPE_dimensional_*` (∘ C07) — all of the above for `H`, `G`, `S`, `Cp` in units.

Vocabulary (`SameVal`, `SumVal`, `Agree`, `NDSame`, `NDSum`, `SameOutcome`, `UnionHyps`, `SeparatedMol`, `PKind`, `mixP`, `mixRange`,
`EstKind`, `outcomeKind`, `mixKind`, `specBilin`, `SameSpelling`) in `PGA/Spec/Pipeline.lean`; helper lemmas in
`PGA/Proofs/Pipeline.lean`, `PipelineKeys.lean`, `PipelineCompose.lean`.
-/
namespace PGA.Pipeline
open PGA PGA.Spec PGA.Scheme PGA.Decompose PGA.Match PGA.Estimate

/-- `pipeline` is `estimateOf` on the molecule's decomposition and the library that has the molecule on record (the two forms
agree by unfolding).  `PGA/Drv/Pipeline.lean` calls `decompose` once per molecule and `estimateOf` in the form on the left once per
temperature; the tie to the driver is only that it calls these definitions. -/
theorem PIPE_driver_computes_pipeline (reg : List String) (S : SchemeDef) (lib : Lib) (m : Mol) (set : String) :
    estimateOf reg set (remember lib m, decompose S m) = pipeline reg S lib m set := rfl

/-! ### an estimate sees a dictionary through its counts only -/

/-- **Counts only, any datum.** Two dictionaries (distinct keys) giving every name the same count — the entries may come
in any order, and a name may be listed with the count 0 in one and be absent from the other: if `Estimate` succeeds for
both, no datum of the two estimates can differ.  If moreover the same names are listed, each datum exists for one exactly
when it exists for the other. -/
theorem PIPE_wsum_depends_on_counts_only (get : Corr → Val) (reg : List String) (lib : Lib) (c c' : Counts) (s : String)
    (e e' : Estimator) (hc : (Counts.keys c).Nodup) (hc' : (Counts.keys c').Nodup) (hget : ∀ k, c.get k = c'.get k)
    (he : estimate reg lib c s = .ok e) (he' : estimate reg lib c' s = .ok e') :
    Agree (wsum get e.correlations) (wsum get e'.correlations) ∧
    ((∀ k, k ∈ Counts.keys c ↔ k ∈ Counts.keys c') → SameVal (wsum get e.correlations) (wsum get e'.correlations)) := by
  constructor
  · intro v v' hv hv'
    rw [C01_value_iff get reg lib c s e he] at hv
    rw [C01_value_iff get reg lib c' s e' he'] at hv'
    rw [hv.2, hv'.2]
    exact specEstimate_congr lib s get c c' hc hc' hget
  · intro hk v
    have hp := counts_perm hc hc' hk hget
    exact (wsum_perm _ (perm_terms reg lib s e e' hp he he').1 v).symm

/-- **Counts only: `H/RT`, `Cp/R`, `S/R` (entropy not taken relative to the elements) at every temperature.**
Same hypotheses as above.  `C01_perm_*` (order), `C01_merge_counts`, `C01_zero_count` are instances. -/
theorem PIPE_value_depends_on_counts_only (reg : List String) (lib : Lib) (c c' : Counts) (s : String)
    (e e' : Estimator) (hc : (Counts.keys c).Nodup) (hc' : (Counts.keys c').Nodup) (hget : ∀ k, c.get k = c'.get k)
    (he : estimate reg lib c s = .ok e) (he' : estimate reg lib c' s = .ok e') (T : Rat) :
    Agree (e.HoRT T) (e'.HoRT T) ∧ Agree (e.CpoR T) (e'.CpoR T) ∧
    (∀ sel flag, flag.truthy = false → Agree (e.SoR sel T flag) (e'.SoR sel T flag)) ∧
    ((∀ k, k ∈ Counts.keys c ↔ k ∈ Counts.keys c') →
      SameVal (e.HoRT T) (e'.HoRT T) ∧ SameVal (e.CpoR T) (e'.CpoR T) ∧
      ∀ sel flag, SameVal (e.SoR sel T flag) (e'.SoR sel T flag)) := by
  have W := fun get => (PIPE_wsum_depends_on_counts_only get reg lib c c' s e e' hc hc' hget he he').1
  refine ⟨W (·.hort T), W (·.cp T), ?_, ?_⟩
  · intro sel flag hf
    rw [SoR_plain sel e T flag hf, SoR_plain sel e' T flag hf]
    exact W (·.sor T)
  · intro hk
    have hp := counts_perm hc hc' hk hget
    exact ⟨fun v => C01_perm_H reg lib s e e' T v hp he he', fun v => C01_perm_Cp reg lib s e e' T v hp he he',
      fun sel flag v => C01_perm_S reg lib s e e' T v sel flag hp he he'⟩

/-- **Counts only: whether there is an estimate at all.** With the same names listed (and the same counts), `Estimate`
succeeds for one dictionary exactly when it does for the other, fails at the same stage, and a missing-data error names
the same descriptors. -/
theorem PIPE_outcome_depends_on_counts_only (reg : List String) (lib : Lib) (c c' : Counts) (s : String)
    (hc : (Counts.keys c).Nodup) (hc' : (Counts.keys c').Nodup) (hget : ∀ k, c.get k = c'.get k)
    (hk : ∀ k, k ∈ Counts.keys c ↔ k ∈ Counts.keys c') :
    kindOf (estimate reg lib c' s) = kindOf (estimate reg lib c s) ∧
    ∀ ds, estimate reg lib c s = .error (.missing ds) → ∃ ds', estimate reg lib c' s = .error (.missing ds') ∧ ds'.Perm ds :=
  estimate_perm_kind reg lib s (counts_perm hc hc' hk hget)

/-! #### non-vacuity: one name listed with the count 0 / absent, two names in either order -/
namespace ExCounts
def cA : Corr := ⟨fun _ => .ok 2, fun T => .ok (T / 100), fun _ => .ok (1/2), some (100, 1000)⟩
def cB : Corr := ⟨fun _ => .ok 1, fun _ => .ok (-3), fun _ => .ok 4, some (200, 1500)⟩
def lib : Lib := ⟨[("a", [("thermochem", cA)]), ("b", [("thermochem", cB)]), ("z", [("thermochem", cA)])], none, none⟩
def c₁ : Counts := [("a", 2), ("z", 0), ("b", 1/2)]
def c₂ : Counts := [("b", 1/2), ("a", 2)]
example : (Counts.keys c₁).Nodup ∧ (Counts.keys c₂).Nodup := by decide
example : ∀ k, c₁.get k = c₂.get k := by
  intro k
  by_cases ha : "a" = k
  · subst ha; rfl
  by_cases hz : "z" = k
  · subst hz; rfl
  by_cases hb : "b" = k
  · subst hb; rfl
  simp [c₁, c₂, Counts.get, ha, hz, hb]
def hAt (c : Counts) (T : Rat) : Option Rat :=
  match estimate ["thermochem"] lib c "thermochem" with
  | .ok e => (match e.HoRT T with | .ok v => some v | .error _ => none)
  | .error _ => none
example : hAt c₁ 300 = some (9/2) ∧ hAt c₂ 300 = some (9/2) := by decide +kernel
end ExCounts

/-- **Full statement — "same counts ⇒ the same values, failures included", with no condition on which names are listed — is
false of the code**: a descriptor listed with the count 0 contributes nothing to any value, but it is a term of the estimate — its
datum is asked for (`sum(count*correlation.get_X(T) …)` evaluates every term), its range is intersected, and it must have data. -/
def PIPE_value_depends_on_counts_only_full : Prop :=
  ∀ (reg : List String) (lib : Lib) (c c' : Counts) (s : String) (e e' : Estimator),
    (Counts.keys c).Nodup → (Counts.keys c').Nodup → (∀ k, c.get k = c'.get k) →
    estimate reg lib c s = .ok e → estimate reg lib c' s = .ok e' → ∀ T, SameVal (e.CpoR T) (e'.CpoR T)

/-- the witness: `{a: 1}` and `{a: 1, z: 0}` where `z` has no heat-capacity datum (on the real code: BensonGA, ethane's
`{'C(C)(H)3': 2}` with `'C[d](C[B])2(C[d])': 0` added — `Cp/R(300)` raises `IncompleteDataError`, the range shrinks from
`(298, 1500)` to `(298, 300)`, `H/RT` is unchanged: `notes/Pipeline.md`) -/
theorem PIPE_value_depends_on_counts_only_full_fails : ¬ PIPE_value_depends_on_counts_only_full := by
  intro h
  let cA : Corr := ⟨fun _ => .ok 2, fun _ => .ok 1, fun _ => .ok 1, none⟩
  let cZ : Corr := ⟨fun _ => .error .incomplete, fun _ => .ok 5, fun _ => .ok 1, none⟩
  let lib : Lib := ⟨[("a", [("t", cA)]), ("z", [("t", cZ)])], none, none⟩
  have find : ∀ (c : Counts) (p : Val → Bool), (match estimate ["t"] lib c "t" with | .ok e => p (e.CpoR 300) | .error _ => false) = true →
      ∃ e, estimate ["t"] lib c "t" = .ok e ∧ p (e.CpoR 300) = true := by
    intro c p hp
    cases he : estimate ["t"] lib c "t" with
    | error err => rw [he] at hp; cases hp
    | ok e => rw [he] at hp; exact ⟨e, rfl, hp⟩
  obtain ⟨e, he, hp⟩ := find [("a", 1)] (·.toBool) (by decide +kernel)
  obtain ⟨e', he', hp'⟩ := find [("a", 1), ("z", 0)] (!·.toBool) (by decide +kernel)
  have hg : ∀ k, Counts.get [("a", 1)] k = Counts.get [("a", 1), ("z", 0)] k := fun k => by simp [Counts.get]
  cases hv : e.CpoR 300 with
  | error err => rw [hv] at hp; cases hp
  | ok w =>
    rw [(h ["t"] lib _ _ "t" e e' (by decide) (by decide) hg he he' 300 w).mp hv] at hp'
    cases hp'

/-! ### C03 ∘ C01 — renumbering the atoms -/

/-- **C03 ∘ C01: the pipeline does not see how the atoms are numbered.**  Under the hypotheses of `C03_decompose_relabel`
— `m'` is `m` with its atoms renumbered by any bijection `π` (`MolIso π m m'`: atoms renamed; bonds renamed, in any order;
rings renamed, in the same order), the graph well-formed, the scheme's queries well-formed (reader), no `*` suffix, every
pattern's candidate count below the cap on both aromatised graphs, chain-free remap table — and for **every** library,
registry and property-set name: `lib.Estimate(lib.GetDescriptors(m'), set)` has the same outcome as for `m` —
`PatternMatchError` for one iff for the other; an `Estimate` error of the same stage for one iff for the other, a
missing-data error naming the same descriptors; or two estimates with the same range and, at **every** temperature and for
every `S_elements` flag, the same `Cp/R`, `H/RT`, `S/R` (a getter fails for one iff it fails for the other). -/
theorem PIPE_relabel_invariant (sel : Nat → Option Rat) (reg : List String) (S : SchemeDef) (lib : Lib) (set : String)
    {π : Nat → Nat} {m m' : Mol} (iso : MolIso π m m')
    (hm : m.wf = true) (hq : S.wf = true) (hs : S.noStar = true)
    (hcap : maxRaw S (aromatizeBenson m) < maxMatches) (hcap' : maxRaw S (aromatizeBenson m') < maxMatches)
    (hcf : ChainFree S.remaps) :
    SameOutcome sel (pipeline reg S lib m set) (pipeline reg S lib m' set) := by
  have R := PGA.C03.C03_decompose_relabel S iso hm hq hs hcap hcap' hcf
  exact sameOutcome_of_counts R.1 (decompose_relabel_keys S iso hm hq hs hcap hcap' hcf) R.2
    (iso.atoms_perm'.map _).symm

/-- **C03 ∘ C01, presentation of the rings (proved part).**  Under the hypotheses of `C03_decompose_ring_presentation_partial` —
`rs'` presents the same rings as `m.rings` (each ring's atom list rotated/reflected at will, the list reordered at will) and no two
rings that pass Benson's check share a bond (`EligibleRingsBondDisjoint`; without it the decomposition itself depends on the ring
order: finding F3, `C03_decompose_ring_presentation_full_fails`) — the pipeline has the same outcome on the graph with either
ring list. -/
theorem PIPE_ring_presentation_invariant_partial (sel : Nat → Option Rat) (reg : List String) (S : SchemeDef) (lib : Lib)
    (set : String) (m : Mol) (rs' : List (List Nat)) (h : RingsSame m.rings rs') (hd : EligibleRingsBondDisjoint m)
    (hm : m.wf = true) (hq : S.wf = true) (hs : S.noStar = true)
    (hcap : maxRaw S (aromatizeBenson m) < maxMatches)
    (hcap' : maxRaw S { aromatizeBenson m with rings := rs' } < maxMatches) (hcf : ChainFree S.remaps) :
    SameOutcome sel (pipeline reg S lib m set) (pipeline reg S lib { m with rings := rs' } set) := by
  have R := PGA.C03.C03_decompose_ring_presentation_partial S m rs' h hd hm hq hs hcap hcap' hcf
  exact sameOutcome_of_counts R.1
    (decompose_ring_presentation_keys S m rs' h hd hm hq hs hcap hcap' hcf) R.2 (.refl _)

/-- **C03 ∘ C20: the quadratic form does not see the numbering either.**  Under the hypotheses of `PIPE_relabel_invariant`, for a
library with uncertainty data (distinct basis entries): the two estimates carry the same `q = xᵀMx`, RMSE correlation and degrees
of freedom — hence the same standard errors (C20). -/
theorem PIPE_relabel_quadratic (reg : List String) (S : SchemeDef) (lib : Lib) (set : String)
    {π : Nat → Nat} {m m' : Mol} (iso : MolIso π m m')
    (hm : m.wf = true) (hq : S.wf = true) (hs : S.noStar = true)
    (hcap : maxRaw S (aromatizeBenson m) < maxMatches) (hcap' : maxRaw S (aromatizeBenson m') < maxMatches)
    (hcf : ChainFree S.remaps) (u : UQ String) (hu : lib.uq = some u) (hb : u.basis.Nodup)
    (e e' : Estimator) (he : pipeline reg S lib m set = .ok e) (he' : pipeline reg S lib m' set = .ok e') :
    ∃ q q', e.uq = some q ∧ e'.uq = some q' ∧ q'.q = q.q ∧ q'.rmse = q.rmse ∧ q'.dof = q.dof := by
  obtain ⟨c, q, hc, a1, a2, a3, a4, _⟩ := pipeline_q he hu hb
  obtain ⟨c', q', hc', b1, b2, b3, b4, _⟩ := pipeline_q he' hu hb
  refine ⟨q, q', a1, b1, ?_, by rw [a2, b2], by rw [a3, b3]⟩
  -- the count vector reads the dictionary through `get` only, and C03 says the counts are the same
  rw [a4, b4, specX_counts, specX_counts]
  exact congrArg _ (List.map_congr_left fun k _ => (PGA.C03.C03_decompose_relabel S iso hm hq hs hcap hcap' hcf).2 c c' hc hc' k)

/-! #### non-vacuity: the C–H fragment of `Props/C03.lean` and the same fragment with its two atoms swapped -/
namespace ExRelabel
open PGA.C03

theorem iso : MolIso swap01 chMol hcMol :=
  ⟨Function.Involutive.injective swap01_invol, Function.Involutive.surjective swap01_invol,
    swap01_cases (P := fun i j => j < 2 ↔ i < 2) (by decide) (by decide) fun _ _ => Iff.rfl, rfl,
    swap01_cases (P := fun i j => hcMol.atoms[j]? = chMol.atoms[i]?) rfl rfl fun i h => by
      rw [List.getElem?_eq_none_iff.2 h, List.getElem?_eq_none_iff.2 h],
    .refl _, rfl⟩

example : chMol.wf = true ∧ PGA.C04.exScheme.wf = true ∧ PGA.C04.exScheme.noStar = true ∧
    maxRaw PGA.C04.exScheme (aromatizeBenson chMol) < maxMatches ∧ maxRaw PGA.C04.exScheme (aromatizeBenson hcMol) < maxMatches := by
  decide

def cC : Corr := ⟨fun _ => .ok 2, fun T => .ok (T / 100), fun _ => .ok 3, some (100, 1000)⟩
def cH : Corr := ⟨fun _ => .ok 1, fun _ => .ok (-1), fun _ => .ok (1/2), some (200, 1500)⟩
def cD : Corr := ⟨fun _ => .ok 0, fun _ => .ok (1/4), fun _ => .error .incomplete, none⟩
def lib : Lib := ⟨[("C(H)", [("thermochem", cC)]), ("H(C)", [("thermochem", cH)]), ("CH", [("thermochem", cD)])], none, none⟩
def hAt (r : Except Err Estimator) (T : Rat) : Option Rat :=
  match r with | .ok e => (match e.HoRT T with | .ok v => some v | .error _ => none) | .error _ => none
def order (S : SchemeDef) (m : Mol) : Option (List String) :=
  match decompose S m with | .ok c => some (c.map (·.1)) | .error _ => none

/-- the two numberings list the descriptors in different orders (the hydrogen's group first when the hydrogen is atom 0) and give
the same `H/RT(300) = 9/4` -/
example : order PGA.C04.exScheme chMol = some ["C(H)", "H(C)", "CH"] ∧ order PGA.C04.exScheme hcMol = some ["H(C)", "C(H)", "CH"] ∧
    hAt (pipeline ["thermochem"] PGA.C04.exScheme lib chMol "thermochem") 300 = some (9/4) ∧
    hAt (pipeline ["thermochem"] PGA.C04.exScheme lib hcMol "thermochem") 300 = some (9/4) := by decide +kernel
end ExRelabel

/-! ### C04 ∘ C01 — a mixture `A ⊔ B` -/

/-- **C04 ∘ C01: the estimate of a mixture is the sum of the estimates of its components.**  Under the hypotheses of
`C04_decompose_union` (`UnionHyps`, and `SeparatedMol`: descriptor-side names carry no group count) and for every
library, registry and property-set name: if `lib.Estimate(lib.GetDescriptors(x), set)` returns an estimate for `A ⊔ B`,
for `A` and for `B`, then at **every** temperature `Cp/R`, `H/RT` and `S/R` of `A ⊔ B` are the sums of those of `A` and
`B` — precisely: the mixture's getter returns a value exactly when both components' getters do, and then the sum — for
`S/R` both without and with the elemental reference (the elemental term is additive too); and the mixture's validity range
is the intersection of the components'. -/
theorem PIPE_mixture_additive (sel : Nat → Option Rat) (reg : List String) (S : SchemeDef) (lib : Lib) (set : String)
    (A B : Mol) (H : UnionHyps S A B) (hsep : SeparatedMol S A B) (eU eA eB : Estimator)
    (hU : pipeline reg S lib (A.union B) set = .ok eU) (hA : pipeline reg S lib A set = .ok eA)
    (hB : pipeline reg S lib B set = .ok eB) :
    NDSum (eU.toND sel) (eA.toND sel) (eB.toND sel) ∧ eU.range = interRange eA.range eB.range := by
  obtain ⟨rU, eU0, hdU, heU, rfl⟩ := pipeline_ok_iff.mp hU
  obtain ⟨rA, eA0, hdA, heA, rfl⟩ := pipeline_ok_iff.mp hA
  obtain ⟨rB, eB0, hdB, heB, rfl⟩ := pipeline_ok_iff.mp hB
  obtain ⟨nU, nA, nB, hk, hg⟩ := union_counts H hdU hdA hdB
  have hg := hg hsep
  have W := fun get => wsum_union get nU nA nB hg hk heU heA heB
  refine ⟨⟨fun T => W (·.cp T), fun T => W (·.hort T), fun T flag => ?_⟩, ?_⟩
  · have hs : SumVal (if flag.truthy then selements sel (some (atomsOf (A.union B))) else .ok 0)
        (if flag.truthy then selements sel (some (atomsOf A)) else .ok 0)
        (if flag.truthy then selements sel (some (atomsOf B)) else .ok 0) := by
      cases flag.truthy
      exacts [fun v => by simp only [Bool.false_eq_true, if_false, Except.ok.injEq, exists_and_left, exists_eq_left', add_zero]; exact eq_comm,
        selements_union sel A B]
    exact hs.map₂ (W (·.sor T)) (fun σ s => s - σ) (by intros; ring)
  · show eU0.range = interRange eA0.range eB0.range
    rw [estimate_range heU, estimate_range heA, estimate_range heB]
    exact commonRange_termsOf_union hk

/-! #### the failure clause -/

/-- **C04 ∘ C01, failure clause: exactly when — and how — the pipeline of a mixture fails, given the outcomes of the
parts.**  Under the hypotheses of `C04_decompose_union` (no separation hypothesis is needed here: failures depend on the
*names* listed, not on their counts), for every library, registry and set name: the stage at which
`lib.Estimate(lib.GetDescriptors(A ⊔ B), set)` stops is `mixP` of the stages at which it stops for `A` and for `B` — in
particular it raises `PatternMatchError` iff one part does; otherwise the missing-data error iff one part does — and the
descriptors a missing-data error of the mixture names are exactly those named for `A` or for `B`. -/
theorem PIPE_mixture_failure (reg : List String) (S : SchemeDef) (lib : Lib) (set : String) (A B : Mol)
    (H : UnionHyps S A B) :
    pkindOf (pipeline reg S lib (A.union B) set) =
      mixP (pkindOf (pipeline reg S lib A set)) (pkindOf (pipeline reg S lib B set)) (mixRange S lib set A B) ∧
    ∀ dsU, pipeline reg S lib (A.union B) set = .error (.estimate (.missing dsU)) →
      ∀ g, g ∈ dsU ↔ (∃ dsA, pipeline reg S lib A set = .error (.estimate (.missing dsA)) ∧ g ∈ dsA) ∨
                     (∃ dsB, pipeline reg S lib B set = .error (.estimate (.missing dsB)) ∧ g ∈ dsB) := by
  have C := (PGA.C04.C04_decompose_union S A B H.hA H.hB H.hq H.hs H.hmp H.hcn H.capa H.capb H.capu H.hcf).1
  constructor
  · rw [pkindOf_pipeline, pkindOf_pipeline, pkindOf_pipeline]
    unfold mixRange
    cases hA : decompose S A with
    | error e =>
      cases e
      rw [C.mpr (Or.inl hA)]
      exact (mixP_patternMatch_left _ _).symm
    | ok rA =>
      cases hB : decompose S B with
      | error e =>
        cases e
        rw [C.mpr (Or.inr hB)]
        exact (mixP_patternMatch_right _ _).symm
      | ok rB =>
        obtain ⟨rU, hU⟩ := union_decomposes H hA hB
        obtain ⟨_, _, _, hk, _⟩ := union_counts H hU hA hB
        simp only [hU, mixP_estimate, outcomeKind_union hk reg]
  · intro dsU hU g
    obtain ⟨rU, hdU, heU⟩ := pipeline_esterr_iff.mp hU
    obtain ⟨hr, rfl, _⟩ := (C01_missing_iff reg lib rU set dsU).mp heU
    obtain ⟨⟨rA, hA⟩, rB, hB⟩ := parts_decompose H hdU
    obtain ⟨_, _, _, hk, _⟩ := union_counts H hdU hA hB
    rw [specMissing_union hk g, mem_missing_iff hA hr, mem_missing_iff hB hr]

/-- **Corollary: when both components are estimated**, the mixture is estimated exactly when the intersection of the two
validity ranges is not empty (or neither has a range); otherwise it fails with the range `AssertionError` — never in any
other way. -/
theorem PIPE_mixture_estimate_iff (reg : List String) (S : SchemeDef) (lib : Lib) (set : String) (A B : Mol)
    (H : UnionHyps S A B) (eA eB : Estimator) (hA : pipeline reg S lib A set = .ok eA) (hB : pipeline reg S lib B set = .ok eB) :
    pkindOf (pipeline reg S lib (A.union B) set) = (rangeKindOf (interRange eA.range eB.range)).map PKind.estimate := by
  rw [(PIPE_mixture_failure reg S lib set A B H).1, hA, hB]
  obtain ⟨rA, eA0, hdA, heA, rfl⟩ := pipeline_ok_iff.mp hA
  obtain ⟨rB, eB0, hdB, heB, rfl⟩ := pipeline_ok_iff.mp hB
  unfold mixRange
  simp only [hdA, hdB]
  show mixP none none _ = (rangeKindOf (interRange eA0.range eB0.range)).map PKind.estimate
  rw [estimate_range heA, estimate_range heB]
  simp [mixP, mixKind, estPart]

/-- **A mixture as RDKit numbers it.**  RDKit's graph `M` of `'A.B'` is `A ⊔ B` renumbered (`MolIso π (A ⊔ B) M`, re-checked
by the harness on every mixture with the explicit permutation): the pipeline on `M` has the same outcome as on `A ⊔ B`, so
`PIPE_mixture_additive` / `PIPE_mixture_failure` speak about `lib.Estimate(lib.GetDescriptors('A.B'), set)`.
(`PIPE_relabel_invariant` at `m := A ⊔ B`.) -/
theorem PIPE_mixture_as_numbered_by_rdkit (sel : Nat → Option Rat) (reg : List String) (S : SchemeDef) (lib : Lib) (set : String)
    (A B M : Mol) {π : Nat → Nat} (iso : MolIso π (A.union B) M) (H : UnionHyps S A B)
    (capm : maxRaw S (aromatizeBenson M) < maxMatches) :
    SameOutcome sel (pipeline reg S lib (A.union B) set) (pipeline reg S lib M set) := by
  have capu' : maxRaw S (aromatizeBenson (A.union B)) < maxMatches := by
    rw [aromatizeBenson_union A B H.hA H.hB]; exact H.capu
  exact PIPE_relabel_invariant sel reg S lib set iso (wf_union A B H.hA H.hB) H.hq H.hs capu' capm H.hcf

/-! #### the uncertainty block: `xᵀMx` is quadratic, not additive -/

/-- **C04 ∘ C20: the quadratic form of a mixture.**  Under the hypotheses of `PIPE_mixture_additive`, for a library with
uncertainty data `u` (distinct basis entries): the count vectors add up, `x(A ⊔ B) = x(A) + x(B)` (in basis order), and
therefore `q = xᵀMx` of the mixture is `q_A + q_B + x_AᵀM x_B + x_BᵀM x_A` (`= q_A + q_B + 2·x_AᵀM x_B` for a symmetric `M`) —
with the library's RMSE correlation and degrees of freedom unchanged.  The standard error `|RMSE|·√q` (C20) of a mixture is
therefore **not** the sum of the components' (`PIPE_mixture_quadratic_additive_full_fails`). -/
theorem PIPE_mixture_quadratic (reg : List String) (S : SchemeDef) (lib : Lib) (set : String)
    (A B : Mol) (H : UnionHyps S A B) (hsep : SeparatedMol S A B) (eU eA eB : Estimator)
    (hU : pipeline reg S lib (A.union B) set = .ok eU) (hA : pipeline reg S lib A set = .ok eA)
    (hB : pipeline reg S lib B set = .ok eB) (u : UQ String) (hu : lib.uq = some u) (hb : u.basis.Nodup) :
    ∃ rU rA rB qU qA qB, decompose S (A.union B) = .ok rU ∧ decompose S A = .ok rA ∧ decompose S B = .ok rB ∧
      eU.uq = some qU ∧ eA.uq = some qA ∧ eB.uq = some qB ∧
      specX u.basis rU = vplus (specX u.basis rA) (specX u.basis rB) ∧
      qU.q = qA.q + qB.q + specBilin u.mat (specX u.basis rA) (specX u.basis rB)
                         + specBilin u.mat (specX u.basis rB) (specX u.basis rA) ∧
      qU.rmse = u.rmse ∧ qA.rmse = u.rmse ∧ qB.rmse = u.rmse ∧ qU.dof = u.dof ∧ qA.dof = u.dof ∧ qB.dof = u.dof := by
  obtain ⟨rU, qU, hdU, u1, u2, u3, u4, hsq⟩ := pipeline_q hU hu hb
  obtain ⟨rA, qA, hdA, a1, a2, a3, a4, _⟩ := pipeline_q hA hu hb
  obtain ⟨rB, qB, hdB, b1, b2, b3, b4, _⟩ := pipeline_q hB hu hb
  have hx := specX_add u.basis rU rA rB ((union_counts H hdU hdA hdB).2.2.2.2 hsep)
  refine ⟨rU, rA, rB, qU, qA, qB, hdU, hdA, hdB, u1, a1, b1, hx, ?_, u2, a2, b2, u3, a3, b3⟩
  rw [u4, a4, b4, hx]
  exact specQuad_vplus _ u.mat _ _ hsq (specX_length _ _) (specX_length _ _)

/-- **… for a symmetric matrix**: `q(A ⊔ B) = q_A + q_B + 2·x_AᵀM x_B`.  Symmetry of the library's matrix `u.mat` is a hypothesis
(`hsym`).  C14's table obligations (`PGA/Gen/UqObl_*`) check `LibTable.symmetric` of the integer rows `Gen.Uq_<lib>`; no theorem
relates those rows to the rational rows of a loaded `Lib`, so `hsym` is not discharged for the shipped libraries here. -/
theorem PIPE_mixture_quadratic_symmetric (reg : List String) (S : SchemeDef) (lib : Lib) (set : String)
    (A B : Mol) (H : UnionHyps S A B) (hsep : SeparatedMol S A B) (eU eA eB : Estimator)
    (hU : pipeline reg S lib (A.union B) set = .ok eU) (hA : pipeline reg S lib A set = .ok eA)
    (hB : pipeline reg S lib B set = .ok eB) (u : UQ String) (hu : lib.uq = some u) (hb : u.basis.Nodup)
    (hsym : ∀ i j, entry u.mat i j = entry u.mat j i) :
    ∃ rA rB qU qA qB, decompose S A = .ok rA ∧ decompose S B = .ok rB ∧
      eU.uq = some qU ∧ eA.uq = some qA ∧ eB.uq = some qB ∧
      qU.q = qA.q + qB.q + 2 * specBilin u.mat (specX u.basis rA) (specX u.basis rB) := by
  obtain ⟨rU, rA, rB, qU, qA, qB, hdU, hdA, hdB, u1, a1, b1, _, hq, _⟩ :=
    PIPE_mixture_quadratic reg S lib set A B H hsep eU eA eB hU hA hB u hu hb
  refine ⟨rA, rB, qU, qA, qB, hdA, hdB, u1, a1, b1, ?_⟩
  obtain ⟨_, _, _, _, _, _, _, hsq⟩ := pipeline_q hU hu hb
  rw [hq, specBilin_symm u.basis.length u.mat (specX u.basis rB) (specX u.basis rA) hsq (specX_length _ _) (specX_length _ _) hsym]
  ring

/-- **The full statement — standard errors of a mixture from additive quadratic forms — is false of the code (and of any
quadratic form).** -/
def PIPE_mixture_quadratic_additive_full : Prop :=
  ∀ (reg : List String) (S : SchemeDef) (lib : Lib) (set : String) (A B : Mol), UnionHyps S A B → SeparatedMol S A B →
    ∀ eU eA eB qU qA qB, pipeline reg S lib (A.union B) set = .ok eU → pipeline reg S lib A set = .ok eA →
      pipeline reg S lib B set = .ok eB → eU.uq = some qU → eA.uq = some qA → eB.uq = some qB → qU.q = qA.q + qB.q

/-! #### non-vacuity and the witness: two copies of a C–H fragment under the two-entry scheme of `Props/C04.lean` -/
namespace ExMix
open PGA.C04

def cC : Corr := ⟨fun _ => .ok 2, fun T => .ok (T / 100), fun _ => .ok 3, some (100, 1000)⟩
def cH : Corr := ⟨fun _ => .ok 1, fun _ => .ok (-1), fun _ => .ok (1/2), some (200, 1500)⟩
def cD : Corr := ⟨fun _ => .ok 0, fun _ => .ok (1/4), fun _ => .error .incomplete, none⟩
def rm : Corr := ⟨fun _ => .ok 1, fun _ => .ok 1, fun _ => .ok 1, none⟩
/-- the three names the scheme produces on the fragment, with an uncertainty block whose matrix has off-diagonal entries -/
def lib : Lib :=
  ⟨[("C(H)", [("thermochem", cC)]), ("H(C)", [("thermochem", cH)]), ("CH", [("thermochem", cD)])],
   some ⟨rm, ["CH", "C(H)", "H(C)"], [[1, 0, 0], [0, 2, 1], [0, 1, 3]], 5⟩, none⟩
/-- the same without the entry for the correction descriptor -/
def libNoCH : Lib := ⟨[("C(H)", [("thermochem", cC)]), ("H(C)", [("thermochem", cH)])], none, none⟩

theorem hyps : UnionHyps exScheme exMol exMol :=
  ⟨by decide, by decide, by decide, by decide, by decide, by decide, by decide, by decide, by decide,
   by intro k ts h; simp [exScheme, lookupRemap] at h⟩

theorem separated : SeparatedMol exScheme exMol exMol := by
  intro a b ha hb
  have hd : descsOf (toInput exScheme (aromatizeBenson exMol)) = [("CH", 1)] := by decide +kernel
  have hasg : assignCentres (toInput exScheme (aromatizeBenson exMol)) = .ok [(1, ("H", "H")), (0, ("C", "C"))] := by
    decide +kernel
  rw [hasg] at ha hb
  cases ha; cases hb
  have hgr : groupsOf (toInput exScheme (aromatizeBenson exMol)) [(1, ("H", "H")), (0, ("C", "C"))]
      = [("C(H)", 1), ("H(C)", 1)] := by decide +kernel
  intro t ht
  rw [hd] at ht
  have : t = "CH" := by simpa [Counts.keys] using ht
  subst this
  rw [hgr]
  decide +kernel

def hOf (r : Except Err Estimator) (T : Rat) : Option Rat :=
  match r with | .ok e => (match e.HoRT T with | .ok v => some v | .error _ => none) | .error _ => none
def qOf (r : Except Err Estimator) : Option Rat :=
  match r with | .ok e => e.uq.map (·.q) | .error _ => none
def rangeOf (r : Except Err Estimator) : Option (Option (Rat × Rat)) :=
  match r with | .ok e => some e.range | .error _ => none

/-- the dictionaries of the fragment and of the pair, evaluated once: the examples below run `Estimate` on them -/
theorem dec : decompose exScheme exMol = .ok [("C(H)", 1), ("H(C)", 1), ("CH", 1)] ∧
    decompose exScheme (exMol.union exMol) = .ok [("C(H)", 2), ("H(C)", 2), ("CH", 2)] := by decide +kernel

/-- the three pipelines return estimates; `H/RT(300)`: 3 − 1 + 1/4 = 9/4 for the fragment, 9/2 for the pair -/
example : hOf (pipeline ["thermochem"] exScheme lib exMol "thermochem") 300 = some (9/4) ∧
    hOf (pipeline ["thermochem"] exScheme lib (exMol.union exMol) "thermochem") 300 = some (9/2) := by
  simp only [pipeline, getDescriptors, dec]
  decide +kernel
/-- the range of the pair is the intersection `[200, 1000]` of `[100, 1000]` and `[200, 1500]` -/
example : rangeOf (pipeline ["thermochem"] exScheme lib (exMol.union exMol) "thermochem") = some (some (200, 1000)) := by
  simp only [pipeline, getDescriptors, dec]
  decide +kernel
theorem q_values : qOf (pipeline ["thermochem"] exScheme lib exMol "thermochem") = some 8 ∧
    qOf (pipeline ["thermochem"] exScheme lib (exMol.union exMol) "thermochem") = some 32 := by
  simp only [pipeline, getDescriptors, dec]
  decide +kernel
/-- `x = (1,1,1)` gives `q = 8`; the pair has `x = (2,2,2)` and `q = 32 = 8 + 8 + 8 + 8` -/
example : qOf (pipeline ["thermochem"] exScheme lib exMol "thermochem") = some 8 ∧
    qOf (pipeline ["thermochem"] exScheme lib (exMol.union exMol) "thermochem") = some 32 := q_values
/-- failure clause: without data for the correction descriptor each part and the pair raise the missing-data error naming it -/
example : pkindOf (pipeline ["thermochem"] exScheme libNoCH exMol "thermochem") = some (.estimate .missing) ∧
    pkindOf (pipeline ["thermochem"] exScheme libNoCH (exMol.union exMol) "thermochem") = some (.estimate .missing) := by
  simp only [pipeline, getDescriptors, dec]
  decide +kernel

/-- the matrix of the example library is symmetric (hypothesis of `PIPE_mixture_quadratic_symmetric`), its basis has distinct
entries, and the cross term is `2·x_AᵀMx_A = 16` -/
example : ∀ i j, entry ([[1, 0, 0], [0, 2, 1], [0, 1, 3]] : List (List Rat)) i j = entry [[1, 0, 0], [0, 2, 1], [0, 1, 3]] j i := by
  intro i j
  rcases i with _ | _ | _ | i <;> rcases j with _ | _ | _ | j <;> rfl
example : (["CH", "C(H)", "H(C)"] : List String).Nodup ∧
    2 * specBilin [[1, 0, 0], [0, 2, 1], [0, 1, 3]] [1, 1, 1] [1, 1, 1] = 16 := by decide +kernel
end ExMix

/-- the witness: `q(A ⊔ A) = 32 ≠ 8 + 8` -/
theorem PIPE_mixture_quadratic_additive_full_fails : ¬ PIPE_mixture_quadratic_additive_full := by
  intro h
  have get : ∀ r q, ExMix.qOf r = some q → ∃ e u, r = .ok e ∧ e.uq = some u ∧ u.q = q := by
    rintro (_ | e) q hq
    · cases hq
    · cases hu : e.uq with
      | none => simp [ExMix.qOf, hu] at hq
      | some u => exact ⟨e, u, rfl, hu, by simpa [ExMix.qOf, hu] using hq⟩
  obtain ⟨eA, qA, hA, hqA, h8⟩ := get _ _ ExMix.q_values.1
  obtain ⟨eU, qU, hU, hqU, h32⟩ := get _ _ ExMix.q_values.2
  have := h _ _ _ _ _ _ ExMix.hyps ExMix.separated eU eA eA qU qA qA hU hA hA hqU hqA hqA
  rw [h8, h32] at this
  exact absurd this (by decide +kernel)

/-! ### C19 ∘ C14/C01 — the spelling of group names -/

section
open PGA.GroupName

/-- **The spelling of a group name in a library file does not matter.**  Two `groups:` sections that differ only in how the
entries' names are written — the peripherals in any order, split into runs at will, repeat counts written or not
(`SameSpelling`: well-formed spellings of the same centre and the same multiset, C19) — are keyed identically by
`GroupLibrary._do_load` (same dict, same insertion order, or the same error), whatever the `other_descriptors:` section.
Hence the loaded libraries are equal and every pipeline outcome — for every scheme, molecule, property set, temperature — is
the same. -/
theorem PIPE_spelling_independent (groups groups' : List (Name × List (String × Corr))) (descs : List (String × List (String × Corr)))
    (h : SameSpelling groups groups') :
    loadContents groups' descs = loadContents groups descs ∧
    ∀ c c', loadContents groups descs = .ok c → loadContents groups' descs = .ok c' →
      ∀ (uq : Option (UQ String)) (nm : Option (List Nat)) (reg : List String) (S : SchemeDef) (m : Mol) (set : String),
        pipeline reg S ⟨c', uq, nm⟩ m set = pipeline reg S ⟨c, uq, nm⟩ m set := by
  have e : loadContents groups' descs = loadContents groups descs := by
    unfold loadContents
    rw [loadGroups_sameSpelling groups groups' h]
  refine ⟨e, ?_⟩
  intro c c' hc hc' uq nm reg S m set
  rw [e, hc] at hc'
  cases hc'
  rfl

/-- **Looking a group up by `Group` object does not depend on the order of its peripherals**, and finds the entry however the
library file spelled it: if the library loaded and its `groups:` section has an entry written `spell c r` (well-formed),
then `lib[Group(scheme, c, psgs)]` is that entry's data for every list `psgs` that is a reordering of the peripherals `r`
denotes.  This is the look-up the decomposition performs for the groups it finds: the name it hands over for an atom is
the canonical name of `Group(centre, neighbours' peripherals)` (`PIPE_group_keys_canonical`). -/
theorem PIPE_spelling_lookup (groups : List (Name × List (String × Corr))) (descs : List (String × List (String × Corr)))
    (cont : List (String × List (String × Corr))) (hl : loadContents groups descs = .ok cont)
    (c : Name) (r : List Run) (ps : List (String × Corr)) (hm : (spell c r, ps) ∈ groups) (hw : WFRuns c r)
    (psgs : List Name) (hp : (expandRuns r).Perm psgs) (uq : Option (UQ String)) (nm : Option (List Nat)) :
    getItemGroup ⟨cont, uq, nm⟩ c psgs = ps := by
  unfold loadContents at hl
  cases hg : loadGroups groups [] with
  | error e => simp [hg] at hl
  | ok acc =>
    simp only [hg] at hl
    have h1 := (loadGroups_lookup groups [] acc hg).2 (spell c r) ps ⟨c, expandRuns r⟩ hm (C19_parse_spell c r hw)
    have h2 := loadDescs_lookup descs acc cont hl _ _ h1
    unfold getItemGroup Library.getItem
    have : canon c psgs = Group.name ⟨c, expandRuns r⟩ := (canon_perm c hp).symm
    rw [this]
    simp only [h2]

/-- the same entry through two `Group` objects with the peripherals in different orders (`Group.__eq__`/`__hash__` go by
canonical name: C19) -/
theorem PIPE_spelling_group_order (lib : Lib) (c : Name) (ps ps' : List Name) (h : ps.Perm ps') :
    getItemGroup lib c ps = getItemGroup lib c ps' := by
  unfold getItemGroup; rw [canon_perm c h]

/-- **The names the decomposition produces for groups are canonical names**: every name the group loop lists is
`Group(centre, peripherals).name` for the centre name of an atom and the peripheral names of its neighbours — so the string
key handed to `Estimate` is the one the library's `Group` keys compare equal to.  (Remap targets and correction-descriptor
names, by contrast, reach `Estimate` exactly as the scheme file spells them.) -/
theorem PIPE_group_keys_canonical (a : Assign) (nbrs : List (List Nat)) (is : List Nat) (t : String)
    (h : t ∈ Counts.keys (countGroups a nbrs is [])) :
    ∃ csg psgs, t = String.ofList (canon csg psgs) := by
  rcases (mem_keys_countGroups a nbrs is [] t).mp h with h | ⟨i, _, hi⟩
  · exact absurd h List.not_mem_nil
  · unfold groupName at hi
    cases hg : a.get? i with
    | none => rw [hg] at hi; cases hi
    | some p =>
      rw [hg] at hi
      dsimp only at hi
      split at hi
      · cases hi
      · exact ⟨_, _, (Option.some.inj hi).symm⟩

/-- **Where the string keys handed to `Estimate` come from**: every name the decomposition of a molecule lists is (i) the
canonical name of a `Group` (from the group loop), or (ii) the name of a correction descriptor of the scheme, or (iii) a remap
target — (ii) and (iii) exactly as the scheme file spells them.  So the only strings whose *spelling* decides whether data are
found are descriptor names and remap targets: they must be written as the library keys them (`PIPE_spelling_raw_string_*`). -/
theorem PIPE_keys_origin (S : SchemeDef) (m : Mol) (res : Counts) (hcf : ChainFree S.remaps)
    (h : decompose S m = .ok res) (t : String) (ht : t ∈ Counts.keys res) :
    (∃ csg psgs, t = String.ofList (canon csg psgs)) ∨ (∃ d ∈ S.descs, t = d.name) ∨
    (∃ k ts, lookupRemap S.remaps k = some ts ∧ ∃ p ∈ ts, p.2 = t) := by
  obtain ⟨a, _, hk⟩ := getDescriptors_keys _ res h
  rcases (hk t).mp ht with hg | hd
  · unfold groupsOf at hg
    rcases (mem_keys_remapAll _ hcf _ (countGroups_nodup _ _ _ _ nodup_keys_nil) t).mp hg with ⟨h1, _⟩ | ⟨k, _, ts, hts, hp⟩
    · exact Or.inl (PIPE_group_keys_canonical _ _ _ t h1)
    · exact Or.inr (Or.inr ⟨k, ts, hts, hp⟩)
  · unfold descsOf at hd
    rcases (mem_keys_remapAll _ hcf _ (countDescs_nodup _ [] nodup_keys_nil) t).mp hd with ⟨h1, _⟩ | ⟨k, _, ts, hts, hp⟩
    · rcases mem_keys_countDescs _ [] t h1 with h' | ⟨d, hd', e⟩
      · simp [Counts.keys] at h'
      · obtain ⟨d0, hd0, rfl⟩ := List.mem_map.mp hd'
        exact Or.inr (Or.inl ⟨d0, hd0, e.symm⟩)
    · exact Or.inr (Or.inr ⟨k, ts, hts, hp⟩)

/-- **Full statement for string keys — false of the code.**  A *string* key is compared with the stored `Group`'s canonical
name (`Descriptor.__eq__` against `str`), so a string that spells the group differently finds nothing: the look-up returns
`{}` and `Estimate` raises `GroupMissingDataError`. -/
def PIPE_spelling_raw_string_full : Prop :=
  ∀ (groups : List (Name × List (String × Corr))) (descs : List (String × List (String × Corr)))
    (cont : List (String × List (String × Corr))), loadContents groups descs = .ok cont →
    ∀ (c : Name) (r : List Run) (ps : List (String × Corr)), (spell c r, ps) ∈ groups → WFRuns c r →
    ∀ uq nm, (⟨cont, uq, nm⟩ : Lib).getItem (String.ofList (spell c r)) = ps

/-- **… proved part**: a string key finds the entry when it *is* the canonical name. -/
theorem PIPE_spelling_raw_string_partial (groups : List (Name × List (String × Corr))) (descs : List (String × List (String × Corr)))
    (cont : List (String × List (String × Corr))) (hl : loadContents groups descs = .ok cont)
    (c : Name) (r : List Run) (ps : List (String × Corr)) (hm : (spell c r, ps) ∈ groups) (hw : WFRuns c r)
    (t : String) (ht : t = String.ofList (canon c (expandRuns r))) (uq : Option (UQ String)) (nm : Option (List Nat)) :
    (⟨cont, uq, nm⟩ : Lib).getItem t = ps := by
  rw [ht]
  exact PIPE_spelling_lookup groups descs cont hl c r ps hm hw (expandRuns r) (List.Perm.refl _) uq nm

namespace ExSpell
def corr : Corr := ⟨fun _ => .ok 1, fun _ => .ok (3/2), fun _ => .ok 2, none⟩
/-- `C(H)(C)` and `C(C)1(H)`: two spellings of the group whose canonical name is `C(C)(H)` -/
def r₁ : List Run := [⟨['H'], none⟩, ⟨['C'], none⟩]
def r₂ : List Run := [⟨['C'], some 1⟩, ⟨['H'], none⟩]
def groups₁ : List (Name × List (String × Corr)) := [(spell ['C'] r₁, [("thermochem", corr)])]
def groups₂ : List (Name × List (String × Corr)) := [(spell ['C'] r₂, [("thermochem", corr)])]

theorem small (n : Nat) (h : n < 10) : n < PGA.Chars.intLimit := by
  show n < 10 ^ PGA.Gen.Chars.intMaxStrDigits
  exact Nat.lt_of_lt_of_le h (Nat.le_self_pow (Nat.pos_iff_ne_zero.mp C19_tab_limit_pos) 10)

theorem wf₁ : WFRuns ['C'] r₁ := by
  refine ⟨by decide +kernel, ?_⟩
  intro r hr
  simp only [r₁, List.mem_cons, List.not_mem_nil, or_false] at hr
  rcases hr with rfl | rfl
  · exact ⟨by decide +kernel, small 1 (by decide)⟩
  · exact ⟨by decide +kernel, small 1 (by decide)⟩

theorem wf₂ : WFRuns ['C'] r₂ := by
  refine ⟨by decide +kernel, ?_⟩
  intro r hr
  simp only [r₂, List.mem_cons, List.not_mem_nil, or_false] at hr
  rcases hr with rfl | rfl
  · exact ⟨by decide +kernel, small 1 (by decide)⟩
  · exact ⟨by decide +kernel, small 1 (by decide)⟩

/-- non-vacuity of `PIPE_spelling_independent` -/
theorem same : SameSpelling groups₁ groups₂ :=
  List.Forall₂.cons ⟨rfl, ['C'], r₁, r₂, rfl, rfl, wf₁, wf₂, by decide⟩ List.Forall₂.nil

/-- the sorted distinct peripherals (`List.mergeSort` is unfolded by `simp`: the kernel does not reduce it) -/
theorem keys_HC : keys [['H'], ['C']] = [['C'], ['H']] := by
  unfold keys
  have : GroupName.uniq [['H'], ['C']] = [['H'], ['C']] := by decide +kernel
  rw [this]
  simp [List.mergeSort, List.MergeSort.Internal.splitInTwo, List.merge, nameLe]
  decide

theorem canon_HC : String.ofList (canon ['C'] [['H'], ['C']]) = "C(C)(H)" := by
  unfold canon
  rw [keys_HC]
  decide +kernel

/-- the library loaded from the first file is keyed by the canonical name … -/
theorem loaded : loadContents groups₁ [] = .ok [("C(C)(H)", [("thermochem", corr)])] := by
  have hp : parse (spell ['C'] r₁) = .ok ⟨['C'], expandRuns r₁⟩ := C19_parse_spell ['C'] r₁ wf₁
  have hk : String.ofList (Group.name ⟨['C'], expandRuns r₁⟩) = "C(C)(H)" := canon_HC
  unfold loadContents groups₁
  rw [loadGroups_cons_ok _ _ _ _ _ hp, hk]
  rfl

/-- … and so is the one loaded from the second -/
example : loadContents groups₂ [] = .ok [("C(C)(H)", [("thermochem", corr)])] := by
  rw [(PIPE_spelling_independent groups₁ groups₂ [] same).1]; exact loaded

/-- `lib[Group('C', ['C', 'H'])]` and `lib[Group('C', ['H', 'C'])]` both find the entry written `C(H)(C)` -/
example : getItemGroup ⟨[("C(C)(H)", [("thermochem", corr)])], none, none⟩ ['C'] [['C'], ['H']] = [("thermochem", corr)] :=
  PIPE_spelling_lookup groups₁ [] _ loaded ['C'] r₁ _ (by simp [groups₁]) wf₁ [['C'], ['H']] (by decide) none none
end ExSpell

/-- the witness: a library whose only entry is written `C(H)(C)` is keyed `C(C)(H)`; the string `'C(H)(C)'` finds nothing
(on the real code: `lib.Estimate({'C(H)3(C)': 2}, 'thermochem')` raises `GroupMissingDataError` where the same library
answers for `'C(C)(H)3'` and for `Group.parse(scheme, 'C(H)3(C)')` — `notes/Pipeline.md`) -/
theorem PIPE_spelling_raw_string_full_fails : ¬ PIPE_spelling_raw_string_full := by
  intro h
  have := h ExSpell.groups₁ [] _ ExSpell.loaded ['C'] ExSpell.r₁ [("thermochem", ExSpell.corr)] (by simp [ExSpell.groups₁])
    ExSpell.wf₁ none none
  have hne : ((⟨[("C(C)(H)", [("thermochem", ExSpell.corr)])], none, none⟩ : Lib).getItem
      (String.ofList (spell ['C'] ExSpell.r₁))).length = 0 := by decide +kernel
  rw [this] at hne
  cases hne

end

/-! ### ∘ C07 — the dimensional getters -/

/-- **Same non-dimensional values ⇒ same `G/RT`, `H`, `G`, `S`, `Cp` in every unit** (each getter returns a value for one
object exactly when it does for the other, and the same value; `KeyError` for an unknown unit string on both sides). -/
theorem PIPE_dimensional_same (R : RTable) (o o' : ND) (h : NDSame o o') (T : Rat) (u : UnitStr) (flag : PyFlag) :
    SameVal (o.GoRT T flag) (o'.GoRT T flag) ∧ SameVal (o.H R T u) (o'.H R T u) ∧
    SameVal (o.G R T u flag) (o'.G R T u flag) ∧ SameVal (o.Sdim R T u flag) (o'.Sdim R T u flag) ∧
    SameVal (o.Cp R T u) (o'.Cp R T u) := by
  refine ⟨fun v => ?_, fun v => ?_, fun v => ?_, fun v => ?_, fun v => ?_⟩
  · simp only [GoRT_ok_iff, h.hort T _, h.sor T flag _]
  · simp only [C07_H, h.hort T _]
  · simp only [C07_G, h.hort T _, h.sor T flag _]
  · simp only [C07_S, h.sor T flag _]
  · simp only [C07_Cp, h.cp T _]

/-- **Additive non-dimensional values ⇒ additive `G/RT`, `H`, `G`, `S`, `Cp` in every unit**: `H(T,u) = (H/RT)·T·R(u/K)` etc. are
linear in the non-dimensional value (C07), so `X_U = X_A + X_B` lifts: the mixture's getter returns a value exactly when both
components' do, and then their sum. -/
theorem PIPE_dimensional_sum (R : RTable) (oU oA oB : ND) (h : NDSum oU oA oB) (T : Rat) (u : UnitStr) (flag : PyFlag) :
    SumVal (oU.GoRT T flag) (oA.GoRT T flag) (oB.GoRT T flag) ∧ SumVal (oU.H R T u) (oA.H R T u) (oB.H R T u) ∧
    SumVal (oU.G R T u flag) (oA.G R T u flag) (oB.G R T u flag) ∧
    SumVal (oU.Sdim R T u flag) (oA.Sdim R T u flag) (oB.Sdim R T u flag) ∧
    SumVal (oU.Cp R T u) (oA.Cp R T u) (oB.Cp R T u) := by
  have g : SumVal (oU.GoRT T flag) (oA.GoRT T flag) (oB.GoRT T flag) :=
    (h.hort T).map₂ (h.sor T flag) (· - ·) (by intros; ring)
  exact ⟨g, (h.hort T).scale (lookupR R (perK u)) (· * T * ·) (by intros; ring),
    g.scale (lookupR R (perK u)) (· * T * ·) (by intros; ring), (h.sor T flag).scale (lookupR R u) (· * ·) (by intros; ring),
    (h.cp T).scale (lookupR R u) (· * ·) (by intros; ring)⟩

/-- **∘ C07: mixture additivity in units.**  Under the hypotheses of `PIPE_mixture_additive`, for every gas-constant table,
temperature, unit string and `S_elements` flag: `G/RT`, `H`, `G`, `S`, `Cp` of `lib.Estimate(lib.GetDescriptors(A ⊔ B), set)`
are the sums of those for `A` and `B` (a value exactly when both components give one; an unknown unit string is `KeyError` for
all three). -/
theorem PIPE_dimensional (R : RTable) (sel : Nat → Option Rat) (reg : List String) (S : SchemeDef) (lib : Lib) (set : String)
    (A B : Mol) (H : UnionHyps S A B) (hsep : SeparatedMol S A B) (eU eA eB : Estimator)
    (hU : pipeline reg S lib (A.union B) set = .ok eU) (hA : pipeline reg S lib A set = .ok eA)
    (hB : pipeline reg S lib B set = .ok eB) (T : Rat) (u : UnitStr) (flag : PyFlag) :
    SumVal ((eU.toND sel).GoRT T flag) ((eA.toND sel).GoRT T flag) ((eB.toND sel).GoRT T flag) ∧
    SumVal ((eU.toND sel).H R T u) ((eA.toND sel).H R T u) ((eB.toND sel).H R T u) ∧
    SumVal ((eU.toND sel).G R T u flag) ((eA.toND sel).G R T u flag) ((eB.toND sel).G R T u flag) ∧
    SumVal ((eU.toND sel).Sdim R T u flag) ((eA.toND sel).Sdim R T u flag) ((eB.toND sel).Sdim R T u flag) ∧
    SumVal ((eU.toND sel).Cp R T u) ((eA.toND sel).Cp R T u) ((eB.toND sel).Cp R T u) :=
  PIPE_dimensional_sum R _ _ _ (PIPE_mixture_additive sel reg S lib set A B H hsep eU eA eB hU hA hB).1 T u flag

/-- **∘ C07: renumbering invariance in units.**  Under the hypotheses of `PIPE_relabel_invariant`, when the pipeline returns an
estimate for `m` it returns one for `m'` with the same `G/RT`, `H`, `G`, `S`, `Cp` in every unit at every temperature. -/
theorem PIPE_dimensional_relabel (R : RTable) (sel : Nat → Option Rat) (reg : List String) (S : SchemeDef) (lib : Lib) (set : String)
    {π : Nat → Nat} {m m' : Mol} (iso : MolIso π m m')
    (hm : m.wf = true) (hq : S.wf = true) (hs : S.noStar = true)
    (hcap : maxRaw S (aromatizeBenson m) < maxMatches) (hcap' : maxRaw S (aromatizeBenson m') < maxMatches)
    (hcf : ChainFree S.remaps) (e : Estimator) (he : pipeline reg S lib m set = .ok e) :
    ∃ e', pipeline reg S lib m' set = .ok e' ∧ ∀ T u flag,
      SameVal ((e.toND sel).GoRT T flag) ((e'.toND sel).GoRT T flag) ∧ SameVal ((e.toND sel).H R T u) ((e'.toND sel).H R T u) ∧
      SameVal ((e.toND sel).G R T u flag) ((e'.toND sel).G R T u flag) ∧
      SameVal ((e.toND sel).Sdim R T u flag) ((e'.toND sel).Sdim R T u flag) ∧
      SameVal ((e.toND sel).Cp R T u) ((e'.toND sel).Cp R T u) := by
  obtain ⟨e', he', _, hnd⟩ := (PIPE_relabel_invariant sel reg S lib set iso hm hq hs hcap hcap' hcf).estimate e he
  exact ⟨e', he', fun T u flag => PIPE_dimensional_same R _ _ hnd T u flag⟩

/-! #### non-vacuity: the pair of C–H fragments in J/mol with a one-entry gas-constant table -/
namespace ExMix
open PGA.C04
def Rtab : RTable := [(['J', '/', 'm', 'o', 'l', '/', 'K'], 8)]
def HOf (r : Except Err Estimator) (T : Rat) : Option Rat :=
  match r with
  | .ok e => (match (e.toND (fun _ => none)).H Rtab T ['J', '/', 'm', 'o', 'l'] with | .ok v => some v | .error _ => none)
  | .error _ => none
/-- `H(300 K) = (9/4)·300·8 = 5400` for the fragment and `10800` for the pair -/
example : HOf (pipeline ["thermochem"] exScheme lib exMol "thermochem") 300 = some 5400 ∧
    HOf (pipeline ["thermochem"] exScheme lib (exMol.union exMol) "thermochem") 300 = some 10800 := by
  simp only [pipeline, getDescriptors, dec]
  decide +kernel
end ExMix

end PGA.Pipeline
