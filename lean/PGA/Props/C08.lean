import PGA.Proofs.Match
import PGA.Proofs.Read
/-!
# C08 — RING fragment matching returns exactly the embeddings it denotes

Property theorems about the model of `pgradd/RINGParser/MolQueryRead.py` (`PGA/Model/Query.lean`)
and `pgradd/RDkitWrapper/MolQuery.py` (`PGA/Model/Match.lean`).  The denotation `Embeds` and the
reference tables are in `PGA/Spec/Embeds.lean`; helper lemmas in `PGA/Proofs/{Enum,Cand,Tables,
Neighbours,Match,Read}.lean`.  All quantifiers are unbounded: every query (any number of atoms, bonds,
constraints), every molecule graph, every assignment.  T1, T3 are the theorem numbers of DESIGN.md section 3 (C08).
-/
namespace PGA.C08
open PGA PGA.Spec PGA.Match

/-! ## Table obligations (regenerated from the live objects on every run) -/

/-- Table obligation: `MolQuery.ops` has exactly the five operators of the reference table and,
probed on the grid `[-2, 11]²` (14² = 196 points, all required), each computes what the reference table
says. -/
theorem C08_tab_ops :
    PGA.Gen.MolQuery.opNames = ["<", "<=", "=", ">", ">="] ∧
    PGA.Gen.MolQuery.opsGrid.map (·.1) = PGA.Gen.MolQuery.opNames ∧
    (PGA.Gen.MolQuery.opsGrid.all fun row =>
      match opOfText row.1 with
      | some op => row.2.length == 196 && row.2.all fun r => decide (Cmp op r.1 r.2.1) == r.2.2
      | none => false) = true := by
  decide +kernel

/-- bond kind of a name used in the generated probe table -/
def kindOfName : String → Option BondKind
  | "single" => some .single | "double" => some .double | "triple" => some .triple
  | "quadruple" => some .quadruple | "aromatic" => some .aromatic | "zero" => some .zero
  | "dative" => some .dative | "other" => some .other | "misc" => some .misc
  | _ => none

/-- Table obligation: `BondQuery` accepts exactly the ten RING bond words and, probed on real RDKit
bonds of every bond type in and out of a ring, each word holds exactly when the reference table
says so.  `18 ≤`: at least the nine kinds `kindOfName` names, each in and out of a ring; a lower bound
because the probe table has a row for every bond type the installed RDKit has. -/
theorem C08_tab_bondwords :
    PGA.Gen.MolQuery.bondWords =
      ["single", "double", "triple", "quadruple", "ring", "nonring", "aromatic", "any", "strong", "partial"] ∧
    PGA.Gen.MolQuery.bondGrid.map (·.1) = PGA.Gen.MolQuery.bondWords ∧
    (PGA.Gen.MolQuery.bondGrid.all fun row =>
      match bondOfText row.1 with
      | some s => decide (18 ≤ row.2.length) && row.2.all fun r =>
          match kindOfName r.1 with
          | some k => decide (BondHolds s ⟨0, 1, k, r.2.1, .none, []⟩) == r.2.2
          | none => false
      | none => false) = true := by
  decide +kernel

/-- Table obligation: `ConstraintNumber` reads the literal strings the reader hands it
(`'>=1'` default count, `'=0'…'=3'` radical counts, `'=-1'` charge) as the operator and number
the model uses for them. -/
theorem C08_tab_cn :
    PGA.Gen.MolQuery.cnLiterals =
      [(">=1", ">=", 1), ("=0", "=", 0), ("=1", "=", 1), ("=2", "=", 2), ("=3", "=", 3), ("=-1", "=", -1)] := by
  decide +kernel

/-- the model reads operator and bond words as the reference tables do -/
theorem C08_words_as_reference :
    (∀ s, Read.cmpOpOf s = opOfText s) ∧
    (∀ s, Read.bondSpec s = match bondOfText s with | some b => .ok b | none => .error .notImplemented) := by
  refine ⟨fun _ => rfl, fun s => ?_⟩
  unfold Read.bondSpec bondOfText; split <;> simp only [*] <;> rfl

/-! ## T1: matches = embeddings -/

/-- **T1, full statement**: for every well-formed query and graph the matcher returns exactly the
embeddings.  False of the code as it is because of the `*` suffix (finding FM1): see
`C08_matches_iff_full_fails`. -/
def C08_matches_iff_full : Prop :=
  ∀ (q : Query) (m : Mol) (f : List Nat), q.wf = true → m.wf = true →
    (f ∈ queryMatches q m ↔ Embeds q m f)

/-- **T1 (proved part)**: for every query whose bonds and stereo statements refer to declared atoms
(`q.wf`, guaranteed by the reader: `C08_read_wf`), every well-formed molecule graph (`m.wf`: no
loops, no parallel bonds, rings without repeated atoms) and every assignment `f`: the matcher
returns `f` exactly when `f` embeds the fragment in the molecule — nothing satisfying the pattern
is omitted and nothing violating it is returned.  Guard: the fragment does not use the `*`
suffix. -/
theorem C08_matches_iff_partial (q : Query) (m : Mol) (f : List Nat)
    (hq : q.wf = true) (hm : m.wf = true) (hstar : NoStar q = true) :
    f ∈ queryMatches q m ↔ Embeds q m f :=
  mem_queryMatches q m f hq hm hstar

/-- **T1, duplicates**: no assignment is returned twice — for every query and graph, no guard. -/
theorem C08_matches_nodup (q : Query) (m : Mol) : (queryMatches q m).Nodup :=
  queryMatches_nodup q m

/-- example graph: propene's carbon skeleton `C=C-C` with one hydrogen on the last carbon -/
def exMol : Mol :=
  { atoms := [⟨6, 0, 0, false, some 4⟩, ⟨6, 0, 0, false, some 4⟩, ⟨6, 0, 0, false, some 4⟩, ⟨1, 0, 0, false, some 1⟩]
    bonds := [⟨0, 1, .double, false, .none, []⟩, ⟨1, 2, .single, false, .none, []⟩, ⟨2, 3, .single, false, .none, []⟩]
    rings := [] }

/-- example query: `C labeled a {connected to >=1 H}  allylic C labeled b single bond to a` under `olefinic` -/
def exQuery : Query :=
  { name := "ex", molPre := [.olefinic]
    atoms := [⟨"a", ⟨none, .elem 6, .none⟩, [.conn false ⟨.ge, 1⟩ ⟨none, .elem 1, .none⟩ .single]⟩,
              ⟨"b", ⟨some .allylic, .elem 6, .none⟩, []⟩]
    bonds := [⟨1, 0, .single⟩], stereo := [] }

/-- non-vacuity of T1: a concrete query and graph meet the hypotheses and have exactly one match -/
example : exQuery.wf = true ∧ exMol.wf = true ∧ NoStar exQuery = true ∧
    queryMatches exQuery exMol = [[2, 1]] := by decide

example : Embeds exQuery exMol [2, 1] :=
  (C08_matches_iff_partial exQuery exMol [2, 1] (by decide) (by decide) (by decide)).1 (by decide)

/-- witness of FM1: `C* labeled a` on a neutral carbon -/
def starQuery : Query :=
  { name := "s", molPre := [], atoms := [⟨"a", ⟨none, .elem 6, .star⟩, []⟩], bonds := [], stereo := [] }

/-- The full statement fails on the code as it is: `C*` matches a neutral carbon, which is not an
embedding (the `*` suffix asks for formal charge +1). -/
theorem C08_matches_iff_full_fails : ¬ C08_matches_iff_full := by
  intro h
  have hm : [0] ∈ queryMatches starQuery exMol := by decide
  have he := (h starQuery exMol [0] (by decide) (by decide)).1 hm
  have ha := he.atoms 0 _ 0 rfl rfl
  have : TypeHolds exMol ⟨none, .elem 6, .star⟩ 0 := ha.1
  revert this
  decide

/-! ## The reader: well-formed queries, label names do not matter -/

/-- **Reader, well-formedness**: every query the reader returns — for every parse tree — has its
bonds and stereo statements between declared atoms, i.e. meets the hypothesis `q.wf` of T1. -/
theorem C08_read_wf (t : Ast) (q : Query) (h : readFragment t = .ok q) : q.wf = true :=
  let ⟨f, hf⟩ := Read.readFragment_ok h
  Read.frag_wf f q hf

/-- **Reader, outcome classes**: whatever tree it is given, the reader model ends with a query, a
`RINGReaderError`, a `NotImplementedError`, or — only on a tree the parser cannot produce — `shape`.
There is no other outcome: `ReadErr` has no constructor for a non-RING exception, so this holds by
construction of the outcome type; the correspondence check holds the implementation to it (an
implementation exception of any other class on a generated fragment is a disagreement and a
violation). -/
theorem C08_read_only_ring_errors (t : Ast) (e : ReadErr) (_h : readFragment t = .error e) :
    e = .reader ∨ e = .notImplemented ∨ e = .shape := by
  cases e <;> simp

/-- **T1 from the parse tree on**: for every parse tree the reader accepts, every well-formed
molecule graph and every assignment, the matches of the query read from the tree are exactly the
embeddings of that query (guard: no `*` suffix). -/
theorem C08_fragment_matches_iff_partial (t : Ast) (q : Query) (m : Mol) (f : List Nat)
    (hread : readFragment t = .ok q) (hm : m.wf = true) (hstar : NoStar q = true) :
    f ∈ queryMatches q m ↔ Embeds q m f :=
  C08_matches_iff_partial q m f (C08_read_wf t q hread) hm hstar

/-- **T3, reading, full statement**: renaming the labels by any injective renaming changes nothing
but the label names in what the reader returns, with no guard on the label words: a label may be any
string, a rule name such as `AtomLabel` included (`corpus/C08/FM2.json` is such an input and must be
read).  It holds: `C08_alpha_read_full_holds`. -/
def C08_alpha_read_full : Prop :=
  ∀ (σ : String → String), Function.Injective σ → ∀ f : Frag,
    Read.frag (f.rename σ) = (Read.frag f).map (Query.relabel σ)

/-- **T3, reading**: renaming the atom labels of a fragment by *any* injective renaming `σ` changes
nothing but the label names in what the reader returns — same outcome class, same atoms, bonds,
constraints and stereo statements.  Every fragment, every length, no guard on the label words.
(Stated on the typed fragment `Frag` the tree is first decoded into; layout and white space are
consumed by the parser and do not reach the tree — see `PGA/Props/C08Text.lean`.) -/
theorem C08_alpha_read (σ : String → String) (hσ : Function.Injective σ) (f : Frag) :
    Read.frag (f.rename σ) = (Read.frag f).map (Query.relabel σ) :=
  Read.frag_rename σ hσ f

theorem C08_alpha_read_full_holds : C08_alpha_read_full := C08_alpha_read

/-- **T3, label names are not part of a query's meaning**: relabelling a query leaves its matches
on every molecule unchanged. -/
theorem C08_labels_irrelevant (σ : String → String) (q : Query) (m : Mol) :
    queryMatches (q.relabel σ) m = queryMatches q m :=
  queryMatches_relabel σ q m

/-- **T3**: the matches of a fragment do not depend on the choice of label names: for every
fragment, every injective renaming and every molecule, reading the renamed fragment and matching
gives the same outcome (same error, or the same list of matches).  No guard. -/
theorem C08_alpha_matches (σ : String → String) (hσ : Function.Injective σ) (f : Frag) (m : Mol) :
    (Read.frag (f.rename σ)).map (queryMatches · m) = (Read.frag f).map (queryMatches · m) := by
  rw [C08_alpha_read σ hσ f]
  cases Read.frag f with
  | error e => rfl
  | ok q => simp only [Except.map]; rw [C08_labels_irrelevant]

/-- a typed fragment for the examples: `C labeled a  C labeled b double bond to a` -/
def exFrag : Frag :=
  { pre := [], name := "x", ty0 := ⟨none, "C", none⟩, label0 := "a", chain0 := [],
    items := [.bonded ⟨none, "C", none⟩ "b" "double" "a" []] }

/-- exchanging two strings is an involution -/
theorem swap_injective (a b : String) :
    Function.Injective fun s => if s = a then b else if s = b then a else s := by
  refine Function.Involutive.injective fun s => ?_
  by_cases h1 : s = a
  · by_cases h : b = a <;> simp [h1, h]
  · by_cases h2 : s = b <;> simp [h1, h2]

/-- a renaming for the examples: swap the labels `a` and `b` -/
def swapAB (s : String) : String := if s = "a" then "b" else if s = "b" then "a" else s

theorem swapAB_injective : Function.Injective swapAB := swap_injective "a" "b"

/-- non-vacuity of T3: an injective renaming that really moves the labels of the example -/
example : (exFrag.rename swapAB).label0 = "b" := by decide

example (m : Mol) : (Read.frag (exFrag.rename swapAB)).map (queryMatches · m) =
    (Read.frag exFrag).map (queryMatches · m) :=
  C08_alpha_matches swapAB swapAB_injective exFrag m

/-- a renaming that introduces a grammar rule name as a label: swap `a` and `AtomLabel` -/
def swapAL (s : String) : String := if s = "a" then "AtomLabel" else if s = "AtomLabel" then "a" else s

theorem swapAL_injective : Function.Injective swapAL := swap_injective "a" "AtomLabel"

/-- a label that is a grammar rule name: the first atom of the example is called `AtomLabel`, a bonded atom follows,
and reading and matching are unchanged -/
example : (exFrag.rename swapAL).label0 = "AtomLabel" := by decide

example (m : Mol) : (Read.frag (exFrag.rename swapAL)).map (queryMatches · m) =
    (Read.frag exFrag).map (queryMatches · m) :=
  C08_alpha_matches swapAL swapAL_injective exFrag m

/-! ## The cap of 10 000 candidates (F30) -/

/-- **T1 with the cap, full statement**: the capped matcher returns exactly the embeddings.  False of
the code as it is (F30): beyond 10 000 candidates embeddings are omitted — refuted in
`PGA/Props/C08Cap.lean` (`C08_capped_iff_full_fails`); the failing input on the real code is
`corpus/C08/F30.json` (10 728 embeddings, 10 000 returned). -/
def C08_capped_iff_full : Prop :=
  ∀ (q : Query) (m : Mol) (f : List Nat), q.wf = true → m.wf = true → NoStar q = true →
    (f ∈ queryMatchesCapped q m ↔ Embeds q m f)

/-- **Cap, completeness under the guard**: when the candidate enumeration stays below RDKit's
`maxMatches` the capped matcher is the uncapped one. -/
theorem C08_cap_inactive (q : Query) (m : Mol) (h : (rawMatches q m).length < maxMatches) :
    queryMatchesCapped q m = queryMatches q m := by
  unfold queryMatchesCapped queryMatches
  rw [List.take_of_length_le (Nat.le_of_lt h)]

/-- **T1 with the cap explicit**: below 10 000 candidates the capped matcher returns exactly the
embeddings. -/
theorem C08_capped_iff_partial (q : Query) (m : Mol) (f : List Nat)
    (hq : q.wf = true) (hm : m.wf = true) (hstar : NoStar q = true)
    (hcap : (rawMatches q m).length < maxMatches) :
    f ∈ queryMatchesCapped q m ↔ Embeds q m f := by
  rw [C08_cap_inactive q m hcap]; exact C08_matches_iff_partial q m f hq hm hstar

/-- **Cap, soundness without the guard**: whichever candidates a truncated enumeration keeps
(any sub-collection of the candidates), everything the pipeline then returns is an embedding.
Only completeness is lost at the cap. -/
theorem C08_truncated_sound (q : Query) (m : Mol) (kept : List (List Nat)) (f : List Nat)
    (hq : q.wf = true) (hm : m.wf = true) (hstar : NoStar q = true)
    (hkept : ∀ g ∈ kept, g ∈ rawMatches q m) (hf : f ∈ pipeline kept q m) : Embeds q m f :=
  have ⟨hk, h⟩ := (mem_pipeline kept q m f).1 hf
  (embeds_iff q m f hm hstar).2 ⟨(mem_rawMatches q m f hq).1 (hkept f hk), h⟩

example : (rawMatches exQuery exMol).length < maxMatches := by decide

end PGA.C08
