import PGA.Proofs.ThermoRange
import PGA.Props.C05
import PGA.Spec.LibThermo
import PGA.Spec.LibTable
/-!
# C14-T1 — every well-formed group record evaluates for every temperature of its range

The connection between the C14 tables (`wfGroup` on every record of every shipped library,
`PGA/Gen/LibObl_<lib>.groups_wf`) and the thermo model of C05/C06: a record that passes the Boolean
check `wfGroup` *can be constructed* in the thermo model (every guard of `ThermochemIncomplete.__init__`,
`ThermochemRawData.__init__` and `ThermochemBase.__init__` passes) and the constructed object returns a
value — never an error outcome, in particular no division by zero — for `Cp/R`, `H/RT`, `S/R`, `G/RT`
at every rational `T` of its range, for each property it has data for; this for **every** interpolant
(the SciPy spline, QUADPACK and `log` are parameters: no hypothesis on them is needed for this part).
For an interpolant that passes through the table and has additive integrals (`Hits`, `Good`) the object
moreover reproduces its reference values at `T_ref` and its table.  The generated modules instantiate
both per library from `groups_wf` (`groups_evaluate`, `groups_reproduce`).
-/
namespace PGA.LibTable
open PGA PGA.Thermo

/-! ## decimal literals -/

/-- the conversion between the two decimal-literal types keeps the value -/
theorem Dec.toThermo_toRat (d : PGA.Dec) : d.toThermo.toRat = d.toRat := by
  unfold PGA.Dec.toThermo PGA.Thermo.Dec.toRat PGA.Dec.toRat
  simp only [ge_iff_le]

/-! ## the table of a record in the two vocabularies -/

theorem temps_filterMap (l : List (Dec × Val)) (h : ∀ p ∈ l, p.2.isNum = true) :
    (l.filterMap fun p => p.2.rat?.map fun v => (p.1.toRat, v)).map (·.1) = l.map (·.1.toRat) := by
  induction l with
  | nil => rfl
  | cons p ps ih =>
    obtain ⟨t, v⟩ := p
    cases v with
    | num d => exact congrArg (t.toRat :: ·) (ih fun q hq => h q (.tail _ hq))
    | absent => cases h _ (.head _)
    | notNumber w => cases h _ (.head _)

/-- a table of plain numbers has the record's temperatures, in the record's order -/
theorem pts_temps (g : GroupRec) (h : ∀ p ∈ g.cp, p.2.isNum = true) : g.pts.map (·.1) = g.cp.map (·.1.toRat) :=
  temps_filterMap g.cp h

theorem pts_ne_nil (g : GroupRec) (hnum : ∀ p ∈ g.cp, p.2.isNum = true) : g.pts ≠ [] ↔ g.cp ≠ [] := by
  rw [Ne, Ne, ← List.map_eq_nil_iff (f := (·.1)), pts_temps g hnum, List.map_eq_nil_iff]

theorem forall_pts (g : GroupRec) (hnum : ∀ p ∈ g.cp, p.2.isNum = true) {P : Rat → Prop}
    (h : ∀ p ∈ g.cp, P p.1.toRat) : ∀ q ∈ g.pts, P q.1 := by
  have := pts_temps g hnum ▸ List.forall_mem_map.mpr h
  exact List.forall_mem_map.mp this

theorem exists_pt (g : GroupRec) (hnum : ∀ p ∈ g.cp, p.2.isNum = true) {t : Rat}
    (ht : t ∈ g.cp.map (·.1.toRat)) : ∃ q ∈ g.pts, q.1 = t :=
  List.mem_map.mp (pts_temps g hnum ▸ ht)

theorem strictInc_eq (l : List Pt) : strictInc l = strictlyIncreasing (l.map (·.1)) := by
  induction l with
  | nil => rfl
  | cons p ps ih =>
    cases ps with
    | nil => rfl
    | cons q qs =>
      simp only [strictInc, List.map_cons, strictlyIncreasing]
      rw [ih]; rfl

/-! ## what `wfGroup` says -/

theorem Val.rat?_ne_none {v : Val} (h : v.isNum = true) : v.rat? ≠ none := by
  cases v with
  | num d => exact Option.some_ne_none _
  | _ => cases h

/-- the Boolean check `wfGroup`, unpacked -/
theorem wfGroup_facts (g : GroupRec) (h : wfGroup g = true) :
    PlainValues g ∧ ∃ tr, g.tref.rat? = some tr ∧ 0 < tr ∧
      strictlyIncreasing (g.cp.map fun p => p.1.toRat) = true ∧
      (g.cp ≠ [] → ∃ lo hi, effRange g = some (lo, hi) ∧ 0 < lo ∧ lo ≤ hi ∧ lo ≤ tr ∧ tr ≤ hi ∧
        ∀ p ∈ g.cp, lo ≤ p.1.toRat ∧ p.1.toRat ≤ hi) ∧
      (∀ r, effRange g = some r → 0 < r.1 ∧ r.1 ≤ r.2) := by
  simp only [wfGroup, Bool.and_eq_true] at h
  obtain ⟨⟨⟨⟨⟨_, h1⟩, h2⟩, h3⟩, h4⟩, h5⟩ := h
  refine ⟨⟨h1, h2, h3, fun p hp => (List.all_eq_true.mp h4) p hp⟩, ?_⟩
  cases htr : g.tref.rat? with
  | none => simp [htr] at h5
  | some tr =>
    simp only [htr, Bool.and_eq_true, decide_eq_true_eq] at h5
    obtain ⟨⟨hpos, hinc⟩, hr⟩ := h5
    refine ⟨tr, rfl, hpos, hinc, ?_, ?_⟩
    · intro hne
      have hcpne : g.cp.isEmpty = false := by
        cases hcp : g.cp with
        | nil => exact absurd hcp hne
        | cons a b => rfl
      cases he : effRange g with
      | none => simp [he, hcpne] at hr
      | some r =>
        obtain ⟨lo, hi⟩ := r
        simp only [he, Bool.and_eq_true, decide_eq_true_eq, Bool.or_eq_true, hcpne, Bool.false_eq_true, false_or] at hr
        obtain ⟨⟨⟨hlo, hlh⟩, htr'⟩, hall⟩ := hr
        refine ⟨lo, hi, rfl, hlo, hlh, htr'.1, htr'.2, fun p hp => ?_⟩
        have := (List.all_eq_true.mp hall) p hp
        simpa using this
    · intro r he
      simp only [he, Bool.and_eq_true, decide_eq_true_eq] at hr
      exact ⟨hr.1.1.1, hr.1.1.2⟩

/-! ## the effective range of a record -/

/-- a fold with an operation that returns one of its arguments returns the start value or an element -/
theorem foldl_mem_of_choice {f : Rat → Rat → Rat} (hf : ∀ a b, f a b = a ∨ f a b = b) (a : Rat) (l : List Rat) :
    l.foldl f a ∈ a :: l := by
  induction l generalizing a with
  | nil => exact .head _
  | cons x xs ih =>
    rcases List.mem_cons.mp (ih (f a x)) with h | h
    · rw [List.foldl_cons, h]
      rcases hf a x with e | e <;> rw [e]
      · exact .head _
      · exact .tail _ (.head _)
    · exact .tail _ (.tail _ h)

theorem effRange_of_decl {g : GroupRec} {r : Range} (h : g.declRange = some r) : effRange g = some r := by
  unfold GroupRec.declRange at h
  unfold effRange
  cases hr : g.range with
  | none => rw [hr] at h; cases h
  | some ab => rw [hr] at h; exact h

/-- the effective range is the declared one, or — when none is declared — runs from a tabulated temperature to a
tabulated temperature -/
theorem effRange_cases (g : GroupRec) {lo hi : Rat} (he : effRange g = some (lo, hi)) :
    g.declRange = some (lo, hi) ∨
      (g.declRange = none ∧ lo ∈ g.cp.map (·.1.toRat) ∧ hi ∈ g.cp.map (·.1.toRat)) := by
  cases hr : g.declRange with
  | some r => exact .inl (effRange_of_decl hr ▸ he)
  | none =>
    refine .inr ⟨rfl, ?_⟩
    unfold effRange at he
    rw [Option.map_eq_none_iff.mp hr] at he
    cases hm : g.cp.map (fun p => p.1.toRat) with
    | nil => rw [hm] at he; cases he
    | cons t ts =>
      rw [hm] at he
      cases he
      have mem : ∀ {x}, x ∈ t :: t :: ts → x ∈ t :: ts := fun h => (List.mem_cons.mp h).elim (· ▸ .head _) id
      exact ⟨mem (foldl_mem_of_choice min_choice t _), mem (foldl_mem_of_choice max_choice t _)⟩

/-- the table correlation of a well-formed record is valid on the record's effective range -/
theorem wf_built_range (g : GroupRec) (h : wfGroup g = true) (hne : g.pts ≠ []) {ip : Interp} {H S tr : Rat}
    {d : RawData} (hd : RawData.mk ip H S g.pts tr g.declRange = .ok d) : effRange g = some d.range := by
  obtain ⟨⟨_, _, _, hnum⟩, _, _, _, _, hcp, _⟩ := wfGroup_facts g h
  have hb := RawData.mk_built hd
  obtain ⟨lo, hi, he, _, _, _, _, hall⟩ := hcp ((pts_ne_nil g hnum).mp hne)
  have bnd := forall_pts g hnum (P := fun t => lo ≤ t ∧ t ≤ hi) hall
  rcases effRange_cases g he with k | ⟨k, mlo, mhi⟩
  · rw [he, hb.range_some _ k]
  · obtain ⟨p, hp, rfl⟩ := exists_pt g hnum mlo
    obtain ⟨q, hq, rfl⟩ := exists_pt g hnum mhi
    rw [he, hb.range_none k, le_antisymm (bnd _ hb.min_mem).1 (hb.min_le p hp),
      le_antisymm (hb.le_max q hq) (bnd _ hb.max_mem).2]

/-! ## C14-T1 -/

/-- **C14-T1a (construction)**: a record that passes `wfGroup` can be constructed in the thermo model: every
guard of `ThermochemBase.__init__` (`range[1] >= range[0]`), of `ThermochemIncomplete.__init__` and of
`ThermochemRawData.__init__` (non-empty sorted table inside the range, `T_ref` inside the range, strictly
increasing temperatures for the spline) passes — for every interpolant.  The object carries the record's data. -/
theorem C14_wf_group_constructs (ip : Interp) (g : GroupRec) (h : wfGroup g = true) :
    ∃ c tr, g.correlation ip = .ok c ∧ g.tref.rat? = some tr ∧
      Incomplete.mk ip g.href.rat? g.sref.rat? g.pts tr g.declRange = .ok c := by
  obtain ⟨⟨_, _, _, hnum⟩, tr, htr, _, hinc, hcp, hrng⟩ := wfGroup_facts g h
  suffices hs : ∃ c, Incomplete.mk ip g.href.rat? g.sref.rat? g.pts tr g.declRange = .ok c by
    obtain ⟨c, hc⟩ := hs
    exact ⟨c, tr, by unfold GroupRec.correlation; rw [htr]; exact hc, htr, hc⟩
  refine Incomplete.mk_ok_of ?_ fun hne => ?_
  · cases hr : g.declRange with
    | none => rfl
    | some r => exact decide_eq_true (hrng r (effRange_of_decl hr)).2
  · obtain ⟨lo, hi, he, _, hlh, h1, h2, hall⟩ := hcp ((pts_ne_nil g hnum).mp hne)
    refine RawData.mk_ok_of hne (by rw [strictInc_eq, pts_temps g hnum]; exact hinc) (fun r hr => ?_) (fun hn => ?_)
    · rcases effRange_cases g he with k | ⟨k, _⟩
      · rw [k] at hr
        cases hr
        exact ⟨hlh, forall_pts g hnum (P := fun t => lo ≤ t ∧ t ≤ hi) hall, h1, h2⟩
      · rw [k] at hr
        cases hr
    · rcases effRange_cases g he with k | ⟨_, mlo, mhi⟩
      · rw [k] at hn
        cases hn
      · obtain ⟨p, hp, rfl⟩ := exists_pt g hnum mlo
        obtain ⟨q, hq, rfl⟩ := exists_pt g hnum mhi
        exact ⟨p, hp, q, hq, h1, h2⟩

/-- **C14-T1 (evaluation)**: for a record `g` that passes `wfGroup`, the correlation the thermo model builds from
`g`'s data — for every interpolant — is constructed, and at every rational temperature `T` of `g`'s range
(`lo ≤ T ≤ hi` of the declared range, or of the span of the table when none is declared; every `T` when the record
has neither) it returns a value, not an error outcome, for `Cp/R`, `H/RT`, `S/R` and `G/RT`, each whenever the
record has the data for it; `Cp/R` of a record with a table comes without the incomplete-data warning. -/
theorem C14_wf_group_evaluates (ip : Interp) (g : GroupRec) (h : wfGroup g = true) :
    ∃ c, g.correlation ip = .ok c ∧ ∀ T, inRange T (effRange g) → EvaluatesAt g c T := by
  obtain ⟨c, tr, hc, htr, hmk⟩ := C14_wf_group_constructs ip g h
  obtain ⟨⟨_, _, _, hnum⟩, _, _, _, _, _, hrng⟩ := wfGroup_facts g h
  obtain ⟨hw, eH, eS, eCp, _, eR, _⟩ := Incomplete.mk_wf hmk
  refine ⟨c, hc, fun T hT => ?_⟩
  have key := Incomplete.inside_ok hw (T := T) fun d hd => by
    obtain ⟨hcne, ip', hd'⟩ := hw.corr_built hd
    rw [eCp, eR] at hd'
    have er := wf_built_range g h (eCp ▸ hcne) hd'
    exact ⟨(hrng _ er).1, er ▸ hT⟩
  have hH : g.href.isNum = true → c.Href ≠ none := fun hn => eH ▸ Val.rat?_ne_none hn
  have hS : g.sref.isNum = true → c.Sref ≠ none := fun hn => eS ▸ Val.rat?_ne_none hn
  exact ⟨fun hne => key.1 (by rw [eCp]; exact (pts_ne_nil g hnum).mpr hne), fun hn => key.2.1 (hH hn),
    fun hn => key.2.2 (hS hn),
    fun hn1 hn2 => gibbs_value (s := fun _ => c.SoR T) (key.2.1 (hH hn1)) (key.2.2 (hS hn2))⟩

/-- **C14-T1 (the data are reproduced)**: for an interpolant that passes through the table (`Hits`) and whose
integrals are additive (`Good`: what A-spline asserts of the SciPy spline, QUADPACK and `log`), the object of a
well-formed record returns every tabulated `Cp/R` at its temperature and, when it has a table, the reference
`H/RT` and `S/R` at `T_ref` — C05-T1/T4 instantiated on the record. -/
theorem C14_wf_group_reproduces (ip : Interp) (hg : ip.Good) (g : GroupRec) (h : wfGroup g = true)
    (hh : ip.Hits g.pts) :
    ∃ c, g.correlation ip = .ok c ∧ ReproducesData g c := by
  obtain ⟨c, tr, hc, htr, hmk⟩ := C14_wf_group_constructs ip g h
  obtain ⟨⟨_, _, _, hnum⟩, _, _, _, _, _, hrng⟩ := wfGroup_facts g h
  refine ⟨c, hc, ?_⟩
  by_cases hne : g.pts = []
  · exact ⟨(fun p hp => by rw [hne] at hp; cases hp),
      (fun hcne => absurd hne ((pts_ne_nil g hnum).mpr hcne)),
      (fun hcne => absurd hne ((pts_ne_nil g hnum).mpr hcne))⟩
  · obtain ⟨_, eH, eS, eCp, _, _, hd⟩ := Incomplete.mk_wf hmk
    obtain ⟨d, hd, hcorr⟩ := hd hne
    have ev := Incomplete.eval_cp (eCp ▸ hne) hcorr
    have hpos : 0 < d.range.1 := (hrng _ (wf_built_range g h hne hd)).1
    refine ⟨fun p hp => ?_, fun _ tr' hv e1 e2 => ?_, fun _ tr' sv e1 e2 => ?_⟩
    · rw [(ev p.1).1, C05_cp_at_data_points hd hh p hp]; rfl
    · rw [htr] at e1; cases e1
      rw [(ev tr).2.1, eH, e2, C05_ref_enthalpy hd hg hpos, e2]; rfl
    · rw [htr] at e1; cases e1
      rw [(ev tr).2.2, eS, e2, C05_ref_entropy hd hg hpos, e2]; rfl

/-! ## the same record in the C06 table -/

theorem strictlyIncreasing_head_lt : ∀ (a : Rat) (l : List Rat), strictlyIncreasing (a :: l) = true → ∀ x ∈ l, a < x
  | _, [], _, x, hx => by cases hx
  | a, b :: rest, h, x, hx => by
    simp only [strictlyIncreasing, Bool.and_eq_true, decide_eq_true_eq] at h
    rcases List.mem_cons.mp hx with rfl | hx
    · exact h.1
    · exact lt_trans h.1 (strictlyIncreasing_head_lt b rest h.2 x hx)

/-- **C14 ↔ C06 tables**: the row the C06 translator writes for a group (`PGA.Gen.ThermoRanges`, decimal type
`PGA.Thermo.Dec`) passes the C06 table check `RangeRow.ok` whenever the C14 record of the group passes `wfGroup`,
declares a range and has a heat-capacity table — for such groups the C14 obligation `groups_wf` implies, record by
record, what `C06_tab_shipped_ranges` checks.  (For a group *without* a table `RangeRow.ok` additionally asks that
`T_ref` lies inside the declared range — the F27 class —, which `wfGroup` does not: there the C06 obligation is the
stronger one.) -/
theorem C14_wf_group_range_row (lib : String) (g : GroupRec) (h : wfGroup g = true) (lo hi : Dec)
    (hr : g.range = some (lo, hi)) (hne : g.cp ≠ []) :
    ∃ row, g.rangeRow lib = some row ∧ row.ok = true := by
  obtain ⟨_, tr, htr, _, hinc, hcp, _⟩ := wfGroup_facts g h
  have he : effRange g = some (lo.toRat, hi.toRat) := by unfold effRange; rw [hr]
  obtain ⟨lo', hi', he', hlo, hlh, h1, h2, hall⟩ := hcp hne
  rw [he] at he'
  simp only [Option.some.injEq, Prod.mk.injEq] at he'
  obtain ⟨e1, e2⟩ := he'
  subst e1 e2
  cases ht : g.tref with
  | absent => simp [ht, Val.rat?] at htr
  | notNumber w => simp [ht, Val.rat?] at htr
  | num trd =>
    have htr' : trd.toRat = tr := by simpa [ht, Val.rat?] using htr
    unfold GroupRec.rangeRow
    rw [ht]
    refine ⟨_, rfl, ?_⟩
    unfold RangeRow.ok
    simp only [hr, Option.map_some, Dec.toThermo_toRat, Bool.and_eq_true, decide_eq_true_eq, htr']
    obtain ⟨p, ps, hc⟩ := List.exists_cons_of_ne_nil hne
    simp only [hc]
    have hlast : (p :: ps).getLast (List.cons_ne_nil _ _) ∈ g.cp := by rw [hc]; exact List.getLast_mem _
    have hp : p ∈ g.cp := by rw [hc]; exact List.mem_cons_self ..
    refine ⟨⟨⟨⟨hlo, hlh⟩, h1⟩, h2⟩, ?_⟩
    simp only [Dec.toThermo_toRat, Bool.and_eq_true, decide_eq_true_eq]
    refine ⟨⟨(hall p hp).1, ?_⟩, (hall _ hlast).2⟩
    rw [hc, List.map_cons] at hinc
    cases ps with
    | nil => simp
    | cons q qs =>
      apply le_of_lt
      apply strictlyIncreasing_head_lt _ _ hinc
      have e : (p :: q :: qs).getLast (List.cons_ne_nil _ _) = (q :: qs).getLast (List.cons_ne_nil _ _) :=
        List.getLast_cons (List.cons_ne_nil _ _)
      rw [e]
      exact List.mem_map.mpr ⟨_, List.getLast_mem (List.cons_ne_nil q qs), rfl⟩

/-! ## the table obligation `groups_wf`, evaluated on integers

`wfGroupDec` is `wfGroup` with every comparison of two decimal literals made by `Dec.le`; the generated
`groups_wf` of each library evaluates it and concludes by `all_wfGroup`. -/

def incDec : List (Dec × Val) → Bool
  | a :: b :: rest => !b.1.le a.1 && incDec (b :: rest)
  | _ => true

theorem incDec_eq : ∀ l : List (Dec × Val), incDec l = strictlyIncreasing (l.map fun p => p.1.toRat)
  | [] => rfl
  | [_] => rfl
  | a :: b :: rest => by
    simp only [incDec, List.map_cons, strictlyIncreasing, Dec.le_eq, ← decide_not, not_le]
    rw [incDec_eq (b :: rest)]
    rfl

def wfGroupDec (g : GroupRec) : Bool :=
  match g.tref, g.range with
  | .num tr, some (lo, hi) =>
    g.hasThermo && g.href.okOrAbsent && g.sref.okOrAbsent && g.cp.all (fun p => p.2.isNum) &&
      (!tr.le ⟨0, 0⟩ && incDec g.cp &&
        (!lo.le ⟨0, 0⟩ && lo.le hi && (g.cp.isEmpty || (lo.le tr && tr.le hi)) &&
          g.cp.all fun p => lo.le p.1 && p.1.le hi))
  | _, _ => wfGroup g

theorem wfGroupDec_eq (g : GroupRec) : wfGroupDec g = wfGroup g := by
  unfold wfGroupDec
  split
  · rename_i tr lo hi ht hr
    simp only [wfGroup, effRange, ht, hr, Val.isNum, Val.rat?, Bool.and_true, Dec.le_eq, incDec_eq, Dec.toRat_zero,
      ← decide_not, not_le]
  · rfl

theorem all_wfGroup {gs : List GroupRec} (h : gs.all wfGroupDec = true) : gs.all wfGroup = true :=
  (funext wfGroupDec_eq : wfGroupDec = wfGroup) ▸ h

/-! ## non-vacuity -/

/-- a record with a three-point table and a declared range (the shape of most shipped groups) -/
def exRec : GroupRec :=
  { name := "ex", hasThermo := true, tref := .num ⟨29815, -2⟩, href := .num ⟨-1, 0⟩, sref := .num ⟨2, 0⟩,
    cp := [(⟨300, 0⟩, .num ⟨3, 0⟩), (⟨400, 0⟩, .num ⟨35, -1⟩), (⟨500, 0⟩, .num ⟨4, 0⟩)], range := some (⟨298, 0⟩, ⟨1, 3⟩) }
/-- the same without a declared range (valid on the span of its table), reference entropy missing -/
def exRecNoRange : GroupRec :=
  { exRec with tref := .num ⟨350, 0⟩, sref := .absent, range := none }
/-- a record without a table -/
def exRecNoCp : GroupRec := { exRec with cp := [] }

example : wfGroup exRec = true ∧ wfGroup exRecNoRange = true ∧ wfGroup exRecNoCp = true := by decide +kernel
example : effRange exRec = some (298, 1000) ∧ effRange exRecNoRange = some (300, 500) := by decide +kernel

example (ip : Interp) : ∃ c, exRec.correlation ip = .ok c ∧ ∀ T, inRange T (effRange exRec) → EvaluatesAt exRec c T :=
  C14_wf_group_evaluates ip exRec (by decide +kernel)
example (ip : Interp) : ∃ c, exRecNoRange.correlation ip = .ok c ∧
    ∀ T, inRange T (effRange exRecNoRange) → EvaluatesAt exRecNoRange c T :=
  C14_wf_group_evaluates ip exRecNoRange (by decide +kernel)
/-- a record that fails `wfGroup` (reference temperature outside the declared range) is *not* constructible:
the hypothesis of the theorem is not idle -/
example : wfGroup { exRec with tref := .num ⟨200, 0⟩ } = false := by decide +kernel
example : (match ({ exRec with tref := .num ⟨200, 0⟩ } : GroupRec).correlation exIp with
    | .ok _ => false | .error e => decide (e = .value)) = true := by decide +kernel
example : ∃ row, exRec.rangeRow "x" = some row ∧ row.ok = true :=
  C14_wf_group_range_row "x" exRec (by decide +kernel) _ _ rfl (by decide)

end PGA.LibTable
