import PGA.Proofs.Psd
import PGA.Props.C14Eval
import PGA.Spec.LibTable
import PGA.Model.Paths
import PGA.Gen.LibAll
/-!
# C14 — every shipped database loads, is self-consistent and relocatable

General theorems (any size) + table obligations.  The table obligations themselves are generated
next to the tables (`PGA/Gen/LibObl_<lib>.lean`, `PGA/Gen/UqObl_<lib>.lean`) from the live loaded
libraries on every run and are listed as obligations of C14 by the harness; this file holds the
general statements they instantiate.  **T1** (a well-formed record is constructed by the thermo model and evaluates
for every `T` of its range) is in `PGA/Props/C14Eval.lean` (`C14_wf_group_constructs`, `C14_wf_group_evaluates`,
`C14_wf_group_reproduces`, `C14_wf_group_range_row`), imported here and by every `LibObl_<lib>` module, whose
`groups_evaluate` / `groups_reproduce` are its instances from `groups_wf`.
-/
namespace PGA.LibTable
open PGA

/-- **T3 (soundness of the PSD certificate, any size).** A symmetric integer matrix whose scaled
difference from a Gram matrix `L·Lᵀ` is diagonally dominant with non-negative diagonal is positive
semi-definite.  The generated `UqObl_<lib>.psd` theorems are instances for the shipped matrices. -/
theorem C14_psd_of_certificate (n : Nat) (s : Int) (m l : List (List Int))
    (hl : squareSized n l = true) (hsym : symmetric n m = true) (hs : 0 < s)
    (hc : certOk n s m l = true) : PSD n m :=
  fun x => psd_of_cert n s m l x hl hsym hs hc

/-- the Boolean chain-freeness check means what the property says -/
theorem C14_chainFree_sound (rs : List Remap) (h : chainFree rs = true) : ChainFree rs := by
  intro r hr t ht r' hr' heq
  simp only [chainFree, List.all_eq_true, Bool.not_eq_true', List.any_eq_false, beq_iff_eq] at h
  exact h r hr t ht r' hr' heq

/-- a well-formed group record holds plain numbers only -/
theorem C14_wfGroup_plain (g : GroupRec) (h : wfGroup g = true) : PlainValues g :=
  (wfGroup_facts g h).1

/-- a well-formed group record has a positive reference temperature and, when it has a heat-capacity
table, a positive valid range containing the reference temperature and the whole table -/
theorem C14_wfGroup_range (g : GroupRec) (h : wfGroup g = true) :
    ∃ tr, g.tref.rat? = some tr ∧ 0 < tr ∧
      (g.cp ≠ [] → ∃ lo hi, effRange g = some (lo, hi) ∧ 0 < lo ∧ lo ≤ tr ∧ tr ≤ hi ∧
        ∀ p ∈ g.cp, lo ≤ p.1.toRat ∧ p.1.toRat ≤ hi) := by
  obtain ⟨_, tr, htr, hpos, _, hcp, _⟩ := wfGroup_facts g h
  refine ⟨tr, htr, hpos, fun hne => ?_⟩
  obtain ⟨lo, hi, he, hlo, _, h1, h2, hall⟩ := hcp hne
  exact ⟨lo, hi, he, hlo, h1, h2, hall⟩

end PGA.LibTable

namespace PGA.Paths

/-- **T4a** a successful data-directory lookup is cached: every later lookup returns the same
directory whatever the environment has become. -/
theorem C14_dataDir_cached (c : Cache) (env env' : Option String) (pkg pkg' : Option String)
    (isDir isDir' : String → Bool) (d : String)
    (h : (getDataDir c env pkg isDir).1 = .ok d) :
    getDataDir (getDataDir c env pkg isDir).2 env' pkg' isDir' = (.ok d, some d) := by
  unfold getDataDir at h ⊢
  cases c with
  | some d0 => simp at h; subst h; rfl
  | none =>
    simp only at h ⊢
    split at h
    · simp at h
    · rename_i b hb
      by_cases hd : isDir b = true
      · simp only [hd, if_true, Except.ok.injEq] at h ⊢
        subst h; rfl
      · simp [hd] at h

/-- **T4b** with no cached value, a non-empty override that is a directory is the data directory. -/
theorem C14_dataDir_override (d : String) (pkg : Option String) (isDir : String → Bool)
    (hne : d.isEmpty = false) (hd : isDir d = true) :
    getDataDir none (some d) pkg isDir = (.ok d, some d) := by
  simp [getDataDir, hne, hd]

/-- **T4c** a builtin name resolves, under data directory `D`, to `D/name/library.yaml` with scheme
`D/name/scheme.yaml`. -/
theorem C14_resolve_builtin (ex : String → Bool) (D name : String) (h : isBuiltinName ex name = true) :
    resolveLibrary ex D name =
      ⟨join (join D name) "library.yaml", join D name, join (join D name) "scheme.yaml"⟩ := by
  simp [resolveLibrary, h]

/-- **T4d** an explicit path is used as given, with the scheme taken from its directory. -/
theorem C14_resolve_explicit (ex : String → Bool) (D path : String) (h : isBuiltinName ex path = false) :
    resolveLibrary ex D path = ⟨path, dirname path, join (dirname path) "scheme.yaml"⟩ := by
  simp [resolveLibrary, h]

end PGA.Paths
