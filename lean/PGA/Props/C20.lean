import PGA.Proofs.EstimateUQ
import PGA.Proofs.DiagDominant
import Mathlib.Analysis.Real.Sqrt
import PGA.Gen.Uq
/-!
# C20 — standard errors are the scaled quadratic form of the descriptors

Property theorems about the model (`PGA.Model.Estimate`) of the uncertainty block of
`ThermochemGroupAdditive.__init__` and of `get_CpoR_SE/get_HoRT_SE/get_SoR_SE` (`pgradd/ThermoChem/group_data.py`),
and of `GroupLibrary.Estimate` as far as it reaches them.  The model keeps the radicand
`SE² = RMSE_X(T)²·xᵀMx` exactly (`Estimator.SE2`); the square root `np.sqrt` applies is not modelled
numerically: it enters as an abstract function with the properties `SqrtLike`, and — stronger — as
Mathlib's real square root (`C20_SE_real*`).  A mapping is a list with distinct keys (`Nodup`), as a Python
`dict` is; the basis of a well-formed library has distinct entries (checked for the shipped ones by
`C20_tab_shipped`).
-/
namespace PGA.Estimate

section
variable {N S : Type} [DecidableEq N] [DecidableEq S]

/-- **T1 (the quadratic form)** For a library with uncertainty data, a successful estimate stores
`q = xᵀMx` where `x` holds the mapping's counts in the order of the uncertainty basis (0 for basis entries the
mapping does not mention) and `M` is the stored matrix (necessarily `n × n`, `n` the basis length), together
with the library's RMSE correlation and degrees of freedom. -/
theorem C20_q (reg : List S) (lib : Library N S) (gs : List (N × Rat)) (s : S) (e : Estimator) (u : UQ N)
    (he : estimate reg lib gs s = .ok e) (hu : lib.uq = some u)
    (hk : (gs.map (·.1)).Nodup) (hb : u.basis.Nodup) :
    ∃ q, e.uq = some q ∧ q.rmse = u.rmse ∧ q.dof = u.dof ∧
      q.q = specQuad u.mat (specX u.basis gs) ∧ Square u.basis.length u.mat := by
  obtain ⟨q, hq, heq⟩ := estimate_uq reg lib gs s e u he hu
  obtain ⟨x, hx, hs, rfl⟩ := (buildUQ_eq_ok_iff u gs q).1 hq
  have hxs : x = specX u.basis gs := by
    rw [placeX_spec u.basis hb gs hk _ x (by simp [zeros]) hx, fillX_zeros]
  obtain ⟨_, hsq⟩ := (shapeOK_iff _ _).mp hs
  refine ⟨_, heq, rfl, rfl, ?_, hsq⟩
  show quad x u.mat = _
  rw [quad_eq_specQuad x u.mat (by intro row hr; rw [hxs, specX_length]; exact hsq.2 row hr), hxs]

/-- **T1 (the radicand)** `get_X_SE(T)² = RMSE_X(T)² · q` for `X` any of Cp/R, H/RT, S/R (`get` selects the datum of
the RMSE correlation); it fails exactly when the RMSE correlation fails at `T`. -/
theorem C20_SE2 (e : Estimator) (q : UQE) (hq : e.uq = some q) (get : Corr → Val) (v : Rat) :
    e.SE2 get = .ok v ↔ ∃ r, get q.rmse = .ok r ∧ v = r * r * q.q := by
  simp only [Estimator.SE2, hq]
  cases get q.rmse <;> simp [eq_comm]

/-- T1 for `get_HoRT_SE`; the next two are the same for `get_CpoR_SE`, `get_SoR_SE` -/
theorem C20_SE2_H (e : Estimator) (q : UQE) (hq : e.uq = some q) (T v : Rat) :
    e.HoRT_SE2 T = .ok v ↔ ∃ r, q.rmse.hort T = .ok r ∧ v = r * r * q.q := C20_SE2 e q hq (·.hort T) v
theorem C20_SE2_Cp (e : Estimator) (q : UQE) (hq : e.uq = some q) (T v : Rat) :
    e.CpoR_SE2 T = .ok v ↔ ∃ r, q.rmse.cp T = .ok r ∧ v = r * r * q.q := C20_SE2 e q hq (·.cp T) v
theorem C20_SE2_S (e : Estimator) (q : UQE) (hq : e.uq = some q) (T v : Rat) :
    e.SoR_SE2 T = .ok v ↔ ∃ r, q.rmse.sor T = .ok r ∧ v = r * r * q.q := C20_SE2 e q hq (·.sor T) v

/-- A library without uncertainty data gives estimates without standard errors: asking is an error. -/
theorem C20_no_uq (reg : List S) (lib : Library N S) (gs : List (N × Rat)) (s : S) (e : Estimator)
    (he : estimate reg lib gs s = .ok e) (hu : lib.uq = none) (get : Corr → Val) : e.SE2 get = .error .noUQ := by
  obtain ⟨_, _, hc⟩ := (estimate_ok_iff reg lib gs s e).mp he
  obtain ⟨cs, uq, _, huq, hf⟩ := (construct_ok_iff lib s gs e).mp hc
  obtain ⟨rfl, _⟩ := (finish_ok_iff _ _ _ _).mp hf
  simp only [uqPart, hu] at huq
  cases huq
  rfl

/-- **T2 (order)** The order of the mapping does not change the quadratic form (hence no standard error). -/
theorem C20_order (reg : List S) (lib : Library N S) (gs gs' : List (N × Rat)) (s : S) (e e' : Estimator) (u : UQ N)
    (q q' : UQE) (hp : gs.Perm gs') (he : estimate reg lib gs s = .ok e) (he' : estimate reg lib gs' s = .ok e')
    (hu : lib.uq = some u) (hk : (gs.map (·.1)).Nodup) (hb : u.basis.Nodup)
    (hq : e.uq = some q) (hq' : e'.uq = some q') : q'.q = q.q ∧ q'.rmse = q.rmse := by
  have hk' : (gs'.map (·.1)).Nodup := (hp.map _).nodup_iff.mp hk
  obtain ⟨q1, a1, a2, _, a4, _⟩ := C20_q reg lib gs s e u he hu hk hb
  obtain ⟨q2, b1, b2, _, b4, _⟩ := C20_q reg lib gs' s e' u he' hu hk' hb
  cases hq.symm.trans a1
  cases hq'.symm.trans b1
  rw [a4, b4, specX_perm u.basis gs gs' hp hk, a2, b2]
  exact ⟨rfl, rfl⟩

/-- **T3 (scaling, the quadratic form)** Multiplying every count by `c` multiplies `q` by `c²`. -/
theorem C20_scale_q (reg : List S) (lib : Library N S) (gs : List (N × Rat)) (s : S) (c : Rat) (e e' : Estimator) (u : UQ N)
    (q q' : UQE) (he : estimate reg lib gs s = .ok e)
    (he' : estimate reg lib (gs.map fun g => (g.1, c * g.2)) s = .ok e')
    (hu : lib.uq = some u) (hk : (gs.map (·.1)).Nodup) (hb : u.basis.Nodup)
    (hq : e.uq = some q) (hq' : e'.uq = some q') : q'.q = c * c * q.q ∧ q'.rmse = q.rmse := by
  have hk' : ((gs.map fun g => (g.1, c * g.2)).map (·.1)).Nodup := by
    rw [List.map_map]; exact hk
  obtain ⟨q1, a1, a2, _, a4, _⟩ := C20_q reg lib gs s e u he hu hk hb
  obtain ⟨q2, b1, b2, _, b4, _⟩ := C20_q reg lib _ s e' u he' hu hk' hb
  cases hq.symm.trans a1
  cases hq'.symm.trans b1
  rw [a4, b4, specX_scale, specQuad_smul, a2, b2]
  exact ⟨rfl, rfl⟩

/-- **T4 (out of basis → error)** If every descriptor has data but some descriptor of the mapping is not in the
uncertainty basis, `Estimate` fails (`ValueError` of `list.index`), naming the first such descriptor; the
descriptor is never silently dropped from `x`. -/
theorem C20_out_of_basis (reg : List S) (lib : Library N S) (s : S) (u : UQ N)
    (pre : List (N × Rat)) (g : N) (n : Rat) (post : List (N × Rat))
    (hr : reg.contains s = true) (hm : specMissing lib s (pre ++ (g, n) :: post) = []) (hu : lib.uq = some u)
    (hpre : ∀ p ∈ pre, p.1 ∈ u.basis) (hg : g ∉ u.basis) :
    estimate reg lib (pre ++ (g, n) :: post) s = .error (.notInBasis g) := by
  unfold estimate
  rw [missingGroups_eq_spec, hm]
  simp only [hr, if_true]
  unfold construct
  obtain ⟨cs, hcs⟩ := collect_of_noMissing lib s _ hm
  simp only [hcs, uqPart, hu, buildUQ, placeX_notInBasis u.basis pre g n post _ hpre hg]

/-- **T4 (converse)** A successful estimate of a library with uncertainty data has every descriptor of the
mapping in the basis. -/
theorem C20_all_in_basis (reg : List S) (lib : Library N S) (gs : List (N × Rat)) (s : S) (e : Estimator) (u : UQ N)
    (he : estimate reg lib gs s = .ok e) (hu : lib.uq = some u) : ∀ g ∈ gs, g.1 ∈ u.basis := by
  obtain ⟨q, hq, _⟩ := estimate_uq reg lib gs s e u he hu
  exact ((buildUQ_ok_iff u gs).mp ⟨q, hq⟩).1

/-- **T5 (sign)** Given that the stored matrix is positive semi-definite, `q ≥ 0` and every radicand `RMSE² · q ≥ 0`.
(`hpsd` is a hypothesis on the rational matrix `u.mat`.  C14 proves `PGA.LibTable.PSD` of the integer rows of
`PGA.Gen.Uq_<lib>`; no theorem carries that over to `PGA.Estimate.PSD` of the `Dec` rows of `PGA.Gen.UqLib_<lib>`.) -/
theorem C20_nonneg (reg : List S) (lib : Library N S) (gs : List (N × Rat)) (s : S) (e : Estimator) (u : UQ N) (q : UQE)
    (he : estimate reg lib gs s = .ok e) (hu : lib.uq = some u) (hk : (gs.map (·.1)).Nodup) (hb : u.basis.Nodup)
    (hpsd : PSD u.basis.length u.mat) (hq : e.uq = some q) :
    0 ≤ q.q ∧ ∀ get v, e.SE2 get = .ok v → 0 ≤ v := by
  obtain ⟨q1, a1, _, _, a4, _⟩ := C20_q reg lib gs s e u he hu hk hb
  rw [hq] at a1; cases a1
  have h0 : 0 ≤ q.q := by rw [a4]; exact hpsd _ (specX_length _ _)
  refine ⟨h0, ?_⟩
  intro get v hv
  obtain ⟨r, _, rfl⟩ := (C20_SE2 e q hq get v).mp hv
  exact mul_nonneg (mul_self_nonneg r) h0

end

/-! ### the square root -/

/-- **T1 (SE, abstract root)** `SE = |RMSE| · √q` for any function with the properties of a square root. -/
theorem C20_SE_abs (sqrt : Rat → Rat) (hs : SqrtLike sqrt) (r q : Rat) (hq : 0 ≤ q) :
    sqrt (r * r * q) = rabs r * sqrt q ∧ 0 ≤ sqrt (r * r * q) := ⟨hs.sq_mul r q hq, hs.nonneg _⟩

/-- **T3 (SE, abstract root)** scaling all counts by `c` scales the standard error by `|c|`. -/
theorem C20_SE_scale (sqrt : Rat → Rat) (hs : SqrtLike sqrt) (r q c : Rat) (hq : 0 ≤ q) :
    sqrt (r * r * (c * c * q)) = rabs c * sqrt (r * r * q) := by
  have h : r * r * (c * c * q) = c * c * (r * r * q) := by ring
  rw [h]
  exact hs.sq_mul c _ (mul_nonneg (mul_self_nonneg r) hq)

/-- **T1 (SE, real root)** With the real square root: `√(RMSE²·q) = |RMSE|·√q`, a non-negative real number. -/
theorem C20_SE_real (r q : Rat) (hq : 0 ≤ q) :
    Real.sqrt ((r * r * q : Rat) : ℝ) = |(r : ℝ)| * Real.sqrt (q : ℝ) ∧ 0 ≤ Real.sqrt ((r * r * q : Rat) : ℝ) := by
  refine ⟨?_, Real.sqrt_nonneg _⟩
  have hq' : (0 : ℝ) ≤ (q : ℝ) := by exact_mod_cast hq
  push_cast
  rw [Real.sqrt_mul (mul_self_nonneg _), Real.sqrt_mul_self_eq_abs]

/-- **T3 (SE, real root)** `SE` of the mapping scaled by `c` is `|c|` times the `SE` of the mapping. -/
theorem C20_SE_real_scale (r q c : Rat) :
    Real.sqrt ((r * r * (c * c * q) : Rat) : ℝ) = |(c : ℝ)| * Real.sqrt ((r * r * q : Rat) : ℝ) := by
  have h : ((r * r * (c * c * q) : Rat) : ℝ) = (c : ℝ) * (c : ℝ) * ((r * r * q : Rat) : ℝ) := by push_cast; ring
  rw [h, Real.sqrt_mul (mul_self_nonneg _), Real.sqrt_mul_self_eq_abs]

/-- the hypotheses `SqrtLike` are satisfiable, trivially by the zero function; `C20_SE_real` states the same facts of
Mathlib's real square root -/
example : SqrtLike (fun _ => 0) := ⟨rfl, fun _ => le_refl _, fun _ _ _ _ => le_refl _, fun _ _ _ => by simp⟩

/-! ### a general sufficient condition for the PSD hypothesis -/

/-- **General lemma, any size** A square matrix that is symmetric and diagonally dominant (for every row the
off-diagonal absolute values sum to at most the diagonal entry — so the diagonal is non-negative) is positive
semi-definite: `0 ≤ xᵀEx` for every `x`.  This is the form for a matrix given by rows (`diagDominant_PSD`), used for the
example matrix below; the PSD certificate of the shipped matrices under C14 — `M = LLᵀ + E` with `E` of this kind — rests on
the same fact over a `Finset` of indices (`diagDominant_psd`, `PGA/Proofs/DiagDominant.lean`). -/
theorem C20_diag_dominant_psd (n : ℕ) (E : List (List Rat)) (hsq : Square n E)
    (hsym : ∀ i j : Fin n, entry E i j = entry E j i)
    (hdd : ∀ i : Fin n, ∑ j ∈ Finset.univ.erase i, |entry E i j| ≤ entry E i i) : PSD n E :=
  diagDominant_PSD n E hsq hsym hdd

/-! ### table obligation over the regenerated uncertainty blocks (`PGA.Gen.Uq`) -/

open PGA.Gen.Uq in
/-- every shipped library with uncertainty data has a basis of distinct descriptors and an `n × n` matrix with
`n` the basis length (`n ≠ 0`): the hypotheses `Nodup basis` and the shape check of the theorems above hold for them -/
theorem C20_tab_shipped :
    libs.all (fun l => decide l.2.1.Nodup && shapeOK l.2.1.length (l.2.2.1.map (·.map Dec.toRat))) = true
    ∧ libs.length ≠ 0 := by
  -- each basis is listed in strictly increasing (lexicographic) order: a linear check, where `Nodup` compares all pairs
  have h : libs.all (fun l => decide (l.2.1.IsChain (· < ·)) &&
      (l.2.1.length != 0 && l.2.2.1.length == l.2.1.length && l.2.2.1.all fun row => row.length == l.2.1.length)) = true
      ∧ libs.length ≠ 0 := by decide +kernel
  refine ⟨List.all_eq_true.mpr fun l hl => ?_, h.2⟩
  have hl := List.all_eq_true.mp h.1 l hl
  rw [Bool.and_eq_true, decide_eq_true_eq] at hl ⊢
  exact ⟨hl.1.pairwise.nodup, (shapeOK_map _ _ _).trans hl.2⟩

/-! ### non-vacuity -/
namespace Ex20

def cA : Corr := ⟨fun _ => .ok 2, fun T => .ok (T / 100), fun _ => .ok (1/2), none⟩
def rm : Corr := ⟨fun _ => .error .incomplete, fun _ => .ok (-3/2), fun _ => .ok 2, none⟩
/-- basis order 4, 1, 2; M = AᵀA-like symmetric PSD matrix -/
def u : UQ Nat := ⟨rm, [4, 1, 2], [[2, 1, 0], [1, 2, 1], [0, 1, 2]], 98⟩
def lib : Library Nat Nat := ⟨[(1, [(0, cA)]), (2, [(0, cA)]), (4, [(0, cA)]), (7, [(0, cA)])], some u, none⟩

def qIs (gs : List (Nat × Rat)) (v : Rat) : Bool :=
  match estimate [0] lib gs 0 with
  | .ok e => (match e.uq with | some q => q.q == v | none => false)
  | .error _ => false
def se2Is (gs : List (Nat × Rat)) (v : Rat) : Bool :=
  match estimate [0] lib gs 0 with
  | .ok e => (match e.HoRT_SE2 300 with | .ok w => w == v | .error _ => false)
  | .error _ => false
def errIs (gs : List (Nat × Rat)) (err : EstErr Nat) : Bool :=
  match estimate [0] lib gs 0 with | .ok _ => false | .error e => e == err

/-- x = (0, 3, −1/2) in basis order (4, 1, 2): q = 2·9 + 2·3·(−1/2)·1 + 2·(1/4) = 31/2 -/
example : qIs [(2, -1/2), (1, 3)] (31/2) = true := by decide +kernel
example : qIs [(1, 3), (2, -1/2)] (31/2) = true := by decide +kernel
example : qIs [(1, 6), (2, -1)] (4 * (31/2)) = true := by decide +kernel
example : se2Is [(1, 3), (2, -1/2)] (9/4 * (31/2)) = true := by decide +kernel
/-- descriptor 7 has data but is outside the basis: error, never ignored -/
example : errIs [(1, 3), (7, 1), (2, 1)] (.notInBasis 7) = true := by decide +kernel
example : specX [4, 1, 2] [(2, -1/2), (1, 3)] = [0, 3, -1/2] := by decide +kernel

/-- the example matrix is symmetric and diagonally dominant, hence PSD: the hypothesis of `C20_nonneg` is satisfiable -/
example : PSD 3 u.mat :=
  C20_diag_dominant_psd 3 u.mat ((shapeOK_iff 3 u.mat).mp (by decide +kernel)).2 (by decide +kernel) (by decide +kernel)

end Ex20

end PGA.Estimate
