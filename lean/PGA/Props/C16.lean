import PGA.Proofs.Rxn
import PGA.Props.C08
import Mathlib.Data.Set.Card
/-!
# C16 — a RING reaction rule applies exactly its declared edit per match

Property theorems about the model of `pgradd/RINGParser/ReactionQueryRead.py` and
`pgradd/RDkitWrapper/ReactionQuery.py` (`PGA/Model/Rxn.lean`), on top of the C08 models of the fragment
reader and the matcher.  Vocabulary in `PGA/Spec/Rxn.lean`, helper lemmas in `PGA/Proofs/Rxn.lean`.
All quantifiers are unbounded: every rule tree, every edit list of any length, every molecule graph
(`Mol.wf`: no loops, no parallel bonds — checked by the driver on every generated graph), every index map.

Electron convention (the code's): `E x` = 2·(bond order sum + radical electrons + formal charge) at atom `x`,
with `aromatic` = 1.5 and `partial` (dative) = 0; lone pairs are not represented.
-/
namespace PGA.C16
open PGA PGA.Rxn PGA.Spec PGA.Match List

theorem mem_queryMatches_raw {q : Query} {m : Mol} {f : List Nat} (h : f ∈ queryMatches q m) : f ∈ rawMatches q m := by
  unfold queryMatches pipeline at h
  split at h
  · exact (List.mem_filter.1 (List.mem_filter.1 (List.mem_filter.1 h).1).1).1
  · simp at h

/-! ## T1 — atoms and elements are conserved; the product molecules partition the atoms -/

/-- **T1a**: for every edit list, index map and well-formed graph: a successful application has the same number of
atoms and the same element at every atom index — no edit adds, removes or transmutes an atom. -/
theorem C16_atoms_conserved (f : List Nat) (es : List Edit) (m p : WMol) (hw : m.wf = true)
    (h : applyEdits f m es = .ok p) : p.natoms = m.natoms ∧ p.elements = m.elements :=
  let s := applyEdits_spec hw h
  ⟨s.natoms, s.elements⟩

/-- **T1b**: for every molecule graph whatsoever, the product molecules `GetMolFrags` stands for (`components`)
list every atom index exactly once: their concatenation is a permutation of `0 … natoms−1`. -/
theorem C16_components_partition (p : WMol) : (components p).flatten.Perm (List.range p.natoms) :=
  components_perm p

/-- **T1**: for every rule, well-formed molecule and index map on which all edits succeed: the elements of the atoms
of the product molecules, taken together, are the elements of the reactant's atoms (as multisets, with
multiplicity) — the atoms of every element are conserved. -/
theorem C16_elements_conserved (r : Rule) (m : Mol) (f : List Nat) (ps : ProductSet) (hm : m.wf = true)
    (h : runMatch r m f = .ok ps) :
    (ps.comps.flatten.filterMap fun i => (ps.mol.atoms[i]?).map (·.Z)).Perm (m.atoms.map (·.Z)) := by
  unfold runMatch at h
  obtain ⟨p, hp, h2⟩ := bind_ok.1 h
  cases h2
  have he : p.atoms.map (·.Z) = (WMol.ofMol m).elements := (C16_atoms_conserved f r.edits _ p (ofMol_wf m hm) hp).2
  have := (C16_components_partition p).filterMap fun i => (p.atoms[i]?).map (·.Z)
  rw [WMol.natoms, filterMap_range_getElem?, he, WMol.elements, WMol.ofMol, List.map_map] at this
  exact this

/-- **T1c, every product molecule is connected**: for every molecule graph, any two atoms that `components` puts into
the same product molecule are joined by a path of bonds of that graph — no product "molecule" lumps separate pieces. -/
theorem C16_components_connected (p : WMol) : ∀ c ∈ components p, ∀ a ∈ c, ∀ b ∈ c, Conn p a b :=
  components_connected p

/-- **T1d, the product molecules are the connected components**: for every well-formed graph the two ends of every
bond are in the same product molecule; with `C16_components_connected` and `C16_components_partition`: two atoms are in
the same product molecule exactly when a path of bonds joins them.  (The labelling always reaches its fixed point:
every relaxation pass that changes something lowers the sum of the labels, which starts below `natoms²`.) -/
theorem C16_components_closed (p : WMol) (hw : p.wf = true) :
    ∀ e ∈ p.bonds, ∃ c ∈ components p, e.a ∈ c ∧ e.b ∈ c :=
  components_closed p hw

/-- **T1e**: two atoms are put into the same product molecule exactly when they are connected by bonds (for atoms of
the molecule). -/
theorem C16_same_molecule_iff_connected (p : WMol) (hw : p.wf = true) (a b : Nat) (ha : a < p.natoms) (hb : b < p.natoms) :
    (∃ c ∈ components p, a ∈ c ∧ b ∈ c) ↔ Conn p a b :=
  ⟨fun ⟨c, hc, hac, hbc⟩ => C16_components_connected p c hc a hac b hbc,
    fun h => (mem_components_iff p a b).2 ⟨ha, hb, compLabels_conn_eq hw h⟩⟩

/-! ## T2 — every edit does exactly what it declares, and nothing else -/

/-- **T2, per operator**: for every edit object, index map and well-formed graph: if the edit is applied
successfully, then (`Edit.Effect`) the named bond had the type the operator needs and has the declared type
afterwards (form: none → k; break: the balanced-for type → none; modify: old → new; increase / decrease: one step
on the ladder single-double-triple-quadruple-quintuple, a single bond decreased disappears), every other bond type
and every atom's element, charge and radical count are as before; respectively the named atom's radical count /
charge changed by exactly ±1 (or was set, from the declared count), every other atom and every bond are as before. -/
theorem C16_edit_exact (f : List Nat) (m m' : WMol) (e : Edit) (hw : m.wf = true)
    (h : applyEdit f m e = .ok m') : e.Effect f m m' :=
  (applyEdit_spec hw h).effect

/-- **T2, applicability**: for every edit object, index map and well-formed graph, the edit is applied successfully
exactly when its precondition `Edit.Pre` holds: the labels are mapped to atoms of the molecule and — form: the atoms are
distinct and not bonded; break / modify: they are bonded with the type the rule was balanced for; increase / decrease:
bonded with a type on the ladder; radical set: the atom carries the declared count; radical −1: at least one radical
electron; the remaining edits always apply. -/
theorem C16_edit_applicable_iff (f : List Nat) (m : WMol) (e : Edit) (hw : m.wf = true) :
    (∃ m', applyEdit f m e = .ok m') ↔ e.Pre f m :=
  applyEdit_ok_iff f m e hw

/-- **T2, frame for atoms**, edit lists of any length: an atom that no radical / charge edit of the rule names under
the index map keeps its element, formal charge and radical electrons. -/
theorem C16_frame_atoms (f : List Nat) (es : List Edit) (m p : WMol) (hw : m.wf = true)
    (h : applyEdits f m es = .ok p) (z : Nat) (hz : z ∉ namedAtoms f es) :
    (p.atoms[z]?).map WAtom.core = (m.atoms[z]?).map WAtom.core :=
  (applyEdits_spec hw h).frameAtoms z hz

/-- **T2, frame for bonds**, edit lists of any length: a pair of atoms that no bond edit of the rule names under the
index map is bonded (or not) exactly as before, with the same bond type. -/
theorem C16_frame_bonds (f : List Nat) (es : List Edit) (m p : WMol) (hw : m.wf = true)
    (h : applyEdits f m es = .ok p) (u v : Nat) (hp : ∀ q ∈ namedPairs f es, ¬ SamePair u v q.1 q.2) :
    p.kindBetween u v = m.kindBetween u v :=
  (applyEdits_spec hw h).frameBonds u v hp

/-- **T2**: a rule made of bond edits only changes no atom's element, charge or radical electrons. -/
theorem C16_bond_edits_leave_atoms (f : List Nat) (es : List Edit) (m p : WMol) (hw : m.wf = true)
    (h : applyEdits f m es = .ok p) (hb : ∀ e ∈ es, e.atomLabel = none) :
    p.atoms.map WAtom.core = m.atoms.map WAtom.core := by
  have hnil : namedAtoms f es = [] := List.filterMap_eq_nil_iff.2 fun e he => by rw [hb e he]; rfl
  apply List.ext_getElem?
  intro z
  rw [List.getElem?_map, List.getElem?_map]
  exact C16_frame_atoms f es m p hw h z (hnil ▸ List.not_mem_nil)

/-- **T2**: a rule made of radical / charge edits only changes no bond. -/
theorem C16_atom_edits_leave_bonds (f : List Nat) (es : List Edit) (m p : WMol) (hw : m.wf = true)
    (h : applyEdits f m es = .ok p) (ha : ∀ e ∈ es, e.bondLabels = none) (u v : Nat) :
    p.kindBetween u v = m.kindBetween u v := by
  have hnil : namedPairs f es = [] := List.filterMap_eq_nil_iff.2 fun e he => by rw [ha e he]
  exact C16_frame_bonds f es m p hw h u v (hnil ▸ List.forall_mem_nil _)

/-- well-formedness (no loops, no parallel bonds, endpoints in range) is preserved by every successful edit list -/
theorem C16_wf_preserved (f : List Nat) (es : List Edit) (m p : WMol) (hw : m.wf = true)
    (h : applyEdits f m es = .ok p) : p.wf = true :=
  (applyEdits_spec hw h).wf

/-! ## T3 — the electron balance -/

/-- **T3, per operator**: for every edit a rule text can produce, every index map without repetitions and every
well-formed graph: if the edit is applied successfully then, at the atom of every label `l`, the change of
2·(bond order sum + radical electrons + formal charge) is exactly minus the increment the reader books for that
edit at `l` (`Edit.inc`: form −order, break +order, modify −(new − old), increase −1, decrease +1, radical or charge
+1 ↦ −1 and −1 ↦ +1, radical set −(r − declared)). -/
theorem C16_edit_balance (f : List Nat) (hf : f.Nodup) (m m' : WMol) (e : Edit) (hw : m.wf = true)
    (ht : e.isText = true) (h : applyEdit f m e = .ok m') (l z : Nat) (hl : f[l]? = some z) :
    m'.E z = m.E z - e.inc l :=
  (applyEdit_spec hw h).balance hf ht l z hl

/-- **Reader**: every edit of a rule that was read is one a rule text can produce and names only declared atoms
of the reactant pattern; its declared increments cancel at every label. -/
theorem C16_read_edits_in_range (t : Ast) (r : Rule) (h : readRule t = .ok r) :
    (∀ e ∈ r.edits, e.isText = true) ∧ (∀ e ∈ r.edits, ∀ l ∈ e.labels, l < r.query.atoms.length) ∧
    ∀ l, incSum r.edits l = 0 := by
  obtain ⟨raw, _, hr⟩ := readRule_raw h
  obtain ⟨_, h1, h2, h3⟩ := readRaw_spec hr
  exact ⟨h1, h2, h3⟩

/-- **T3**: for every parse tree the rule reader accepts, every well-formed molecule and every index map without
repetitions (in particular every match of the rule's reactant pattern: `C16_matches_injective`) on which all edits
succeed: at every labelled atom, bond order sum + radical electrons + formal charge is the same after as before —
the electrons of every labelled atom are balanced. -/
theorem C16_balance (t : Ast) (r : Rule) (hread : readRule t = .ok r) (m : Mol) (hm : m.wf = true)
    (f : List Nat) (hf : f.Nodup) (p : WMol) (hrun : applyEdits f (WMol.ofMol m) r.edits = .ok p)
    (l z : Nat) (hl : f[l]? = some z) : p.E z = (WMol.ofMol m).E z := by
  obtain ⟨ht, _, hb⟩ := C16_read_edits_in_range t r hread
  have := (applyEdits_spec (ofMol_wf m hm) hrun).balance hf ht l z hl
  rw [this, hb l]; omega

/-- **T3, rejection**: once the reactant pattern is read (`q`), there is no `constraints` block and every edit
statement has a meaning (`steps … = ok s`): the rule is read exactly when the declared increments cancel at every
label, and if they do not cancel at some label the outcome is `RINGReaderError`. -/
theorem C16_unbalanced_rejected (raw : RawRule) (q : Query) (s : ReadRule.St)
    (hq : readFragment (.node "Fragment" raw.reactant) = .ok q) (hc : raw.hasConstraints = false)
    (hs : ReadRule.steps q ⟨List.replicate q.atoms.length 0, []⟩ raw.edits = .ok s) :
    (readRaw raw = .ok ⟨raw.name, q, s.edits⟩ ↔ ∀ l, incSum s.edits l = 0) ∧
    ((∃ l, incSum s.edits l ≠ 0) → readRaw raw = .error .reader) :=
  readRaw_unbalanced hq hc hs

/-! ### Why the edits verify what they were balanced for (finding FX4)

Before the repair `BondBreak` removed whatever bond it found (or none), while the reader had balanced it for the
bond type of the reactant pattern.  With that unchecked operator the balance theorem is false. -/

/-- the `BondBreak.__call__` of the unrepaired code: `RemoveBond`, unconditionally -/
def breakUnchecked (f : List Nat) (m : WMol) (i j : Nat) : Except RunErr WMol := do
  let x ← mapped f m i
  let y ← mapped f m j
  pure (m.removeBond x y)

/-- two carbons joined by a single bond -/
def cc : WMol := ⟨[⟨6, 0, 0, false⟩, ⟨6, 0, 0, false⟩], [⟨0, 1, .single⟩]⟩

/-- **FX4 in the model**: `increase bond order (c1, c2)  break bond (c1, c2)` on a declared single bond books −1 and +1
at both labels (balanced), but with the unchecked break the double bond made by the first edit is removed: each
carbon ends one bond order short (`E` drops by 2 half electrons).  With the repaired operator the second edit is
a `ReactionQueryError`. -/
theorem C16_static_balance_unsound_without_checks :
    incSum [.bondIncrease 0 1, .bondBreak 0 1 .single] 0 = 0 ∧ incSum [.bondIncrease 0 1, .bondBreak 0 1 .single] 1 = 0 ∧
    (∃ p, (applyEdit [0, 1] cc (.bondIncrease 0 1) >>= fun m1 => breakUnchecked [0, 1] m1 0 1) = .ok p ∧
      p.E 0 = cc.E 0 - 2 ∧ p.E 1 = cc.E 1 - 2) ∧
    applyEdits [0, 1] cc [.bondIncrease 0 1, .bondBreak 0 1 .single] = .error .queryError := by
  refine ⟨by decide, by decide, ⟨⟨cc.atoms, []⟩, by decide, by decide, by decide⟩, by decide⟩

/-! ## T4 — one product set per match -/

/-- **T4**: for every rule and molecule, if `RunReactants` returns, it returns exactly one product set per match of
the reactant query. -/
theorem C16_one_product_set_per_match (r : Rule) (m : Mol) (ps : List ProductSet)
    (h : runReactants r m = .ok ps) : ps.length = (queryMatches r.query m).length :=
  mapM_length h

/-- **T4, per match**: the k-th product set is the result of applying the rule at the k-th match. -/
theorem C16_run_per_match (r : Rule) (m : Mol) (ps : List ProductSet) (h : runReactants r m = .ok ps)
    (k : Nat) (f : List Nat) (hk : (queryMatches r.query m)[k]? = some f) :
    ∃ p, ps[k]? = some p ∧ runMatch r m f = .ok p :=
  mapM_getElem h hk

/-- every match of the reactant pattern of a rule that was read is an index map without repetitions, of the
pattern's length, into the molecule: the hypothesis of `C16_balance` holds for every match. -/
theorem C16_matches_injective (t : Ast) (r : Rule) (hread : readRule t = .ok r) (m : Mol) (f : List Nat)
    (hf : f ∈ queryMatches r.query m) :
    f.Nodup ∧ f.length = r.query.atoms.length ∧ ∀ x ∈ f, x < m.natoms := by
  obtain ⟨raw, _, hr⟩ := readRule_raw hread
  obtain ⟨hq, _, _, _⟩ := readRaw_spec hr
  have hwf := PGA.C08.C08_read_wf _ _ hq
  have hc := (mem_rawMatches r.query m f hwf).1 (mem_queryMatches_raw hf)
  exact ⟨hc.inj, hc.length, hc.range⟩

/-- **T3 for `RunReactants`**: for every parse tree the rule reader accepts and every well-formed molecule: if
`RunReactants` returns, then in the k-th product set every atom of the k-th match has the same bond order sum +
radical electrons + formal charge as in the reactant. -/
theorem C16_balance_run (t : Ast) (r : Rule) (hread : readRule t = .ok r) (m : Mol) (hm : m.wf = true)
    (ps : List ProductSet) (h : runReactants r m = .ok ps) (k : Nat) (f : List Nat) (p : ProductSet)
    (hk : (queryMatches r.query m)[k]? = some f) (hp : ps[k]? = some p) (z : Nat) (hz : z ∈ f) :
    p.mol.E z = (WMol.ofMol m).E z := by
  obtain ⟨p', hp', hrun⟩ := C16_run_per_match r m ps h k f hk
  rw [hp] at hp'
  have : p = p' := Option.some.inj hp'
  subst this
  have hf : f ∈ queryMatches r.query m := List.mem_of_getElem? hk
  obtain ⟨hnd, _, _⟩ := C16_matches_injective t r hread m f hf
  unfold runMatch at hrun
  obtain ⟨q, hq, h2⟩ := bind_ok.1 hrun
  simp only [pure, Except.pure, Except.ok.injEq] at h2
  subst h2
  obtain ⟨l, hl⟩ := List.getElem?_of_mem hz
  exact C16_balance t r hread m hm f hnd q hq l z hl

/-- **T4 with C08 (proved part)**: for every rule that was read whose reactant pattern does not use the `*` suffix
(C08's guard, finding FM1) and every well-formed molecule: if `RunReactants` returns, the number of product sets is
the number of embeddings of the reactant pattern in the molecule. -/
theorem C16_product_sets_eq_embeddings_partial (t : Ast) (r : Rule) (hread : readRule t = .ok r) (m : Mol)
    (hm : m.wf = true) (hstar : NoStar r.query = true) (ps : List ProductSet) (h : runReactants r m = .ok ps) :
    ps.length = Set.ncard {f | Embeds r.query m f} := by
  obtain ⟨raw, _, hr⟩ := readRule_raw hread
  obtain ⟨hq, _, _, _⟩ := readRaw_spec hr
  have hset : {f | Embeds r.query m f} = ↑(queryMatches r.query m).toFinset := by
    ext f
    simp only [Set.mem_ofPred_eq, Finset.mem_coe, List.mem_toFinset]
    exact (PGA.C08.C08_fragment_matches_iff_partial _ _ m f hq hm hstar).symm
  rw [hset, Set.ncard_coe_finset, List.toFinset_card_of_nodup (PGA.C08.C08_matches_nodup _ _)]
  exact C16_one_product_set_per_match r m ps h

/-! ## Non-vacuity: the reader's docstring example, C–H scission on ethane -/

/-- `C labeled c1  H labeled h1 single bond to c1` -/
def chQuery : Query :=
  { name := "r1", molPre := [],
    atoms := [⟨"c1", ⟨none, .elem 6, .none⟩, []⟩, ⟨"h1", ⟨none, .elem 1, .none⟩, []⟩],
    bonds := [⟨1, 0, .single⟩], stereo := [] }

/-- `increase number of radical (c1)  increase number of radical (h1)  break bond (c1, h1)` -/
def scission : Rule := ⟨"increaseBO", chQuery, [.radicalIncrease 0, .radicalIncrease 1, .bondBreak 0 1 .single]⟩

/-- ethane with explicit hydrogens (`Chem.AddHs(MolFromSmiles('CC'))`) -/
def ethane : Mol :=
  let c : Atom := ⟨6, 0, 0, false, some 4⟩
  let h : Atom := ⟨1, 0, 0, false, some 1⟩
  let b (x y : Nat) : Bond := ⟨x, y, .single, false, .none, []⟩
  { atoms := [c, c, h, h, h, h, h, h],
    bonds := [b 0 1, b 0 2, b 0 3, b 0 4, b 1 5, b 1 6, b 1 7], rings := [] }

/-- **The docstring example**: the C–H scission rule on ethane has six matches and six product sets; the first is
ethyl + H: the carbon and the hydrogen each carry one radical electron, the C–H bond is gone, the other six bonds
are untouched, and the product molecules are `{0,1,3,4,5,6,7}` and `{2}`.  The rule's declared increments cancel. -/
theorem C16_ethane_scission :
    ethane.wf = true ∧ (∀ l, l < 2 → incSum scission.edits l = 0) ∧
    queryMatches scission.query ethane = [[0, 2], [0, 3], [0, 4], [1, 5], [1, 6], [1, 7]] ∧
    (runReactants scission ethane).toOption.map (fun ps => ps.map (·.comps)) =
      some [[[0, 1, 3, 4, 5, 6, 7], [2]], [[0, 1, 2, 4, 5, 6, 7], [3]], [[0, 1, 2, 3, 5, 6, 7], [4]],
            [[0, 1, 2, 3, 4, 6, 7], [5]], [[0, 1, 2, 3, 4, 5, 7], [6]], [[0, 1, 2, 3, 4, 5, 6], [7]]] ∧
    (runMatch scission ethane [0, 2]).toOption.map (fun p => (p.mol.radAt 0, p.mol.radAt 2)) = some (1, 1) ∧
    (runMatch scission ethane [0, 2]).toOption.map (fun p => (p.mol.kindBetween 0 2, p.mol.kindBetween 0 1)) =
      some (none, some .single) ∧
    (runMatch scission ethane [0, 2]).toOption.map (fun p => p.mol.bonds.length) = some 6 := by
  refine ⟨by decide, by decide, by decide +kernel, by decide +kernel, by decide +kernel, by decide +kernel, by decide +kernel⟩

/-- **The docstring rule never fails**: on every well-formed molecule `RunReactants` of the C–H scission rule returns
(one product set per match, by `C16_one_product_set_per_match`): the hypothesis "all edits succeed" of the run theorems
is met by every match of this rule on every molecule. -/
theorem C16_scission_total (m : Mol) (hm : m.wf = true) : ∃ ps, runReactants scission m = .ok ps := by
  apply mapM_ok_of_forall
  intro f hf
  have hc := (mem_rawMatches chQuery m f (by decide)).1 (mem_queryMatches_raw hf)
  have hlen : f.length = 2 := hc.length
  obtain ⟨x, y, rfl⟩ : ∃ x y, f = [x, y] := by
    match f, hlen with
    | [x, y], _ => exact ⟨x, y, rfl⟩
  have hx : x < m.natoms := hc.range x (by simp)
  have hy : y < m.natoms := hc.range y (by simp)
  have hb := hc.bonds ⟨1, 0, .single⟩ (by simp [chQuery])
  simp only [bondAt, List.getElem?_cons_succ, List.getElem?_cons_zero] at hb
  have hkind : (WMol.ofMol m).kindBetween x y = some .single := by
    rw [kindBetween_ofMol]
    have : m.bondBetween x y = m.bondBetween y x := by
      simp only [Mol.bondBetween]
      congr 1; funext e; exact bond_joins_comm e x y
    rw [this]
    cases hbb : m.bondBetween y x with
    | none => simp [hbb] at hb
    | some e =>
      simp only [hbb, rdBondMatch, rdBondKind, beq_iff_eq] at hb
      simp [hb, BK.ofKind]
  -- the three edits in turn
  have hw0 := ofMol_wf m hm
  have hn0 : (WMol.ofMol m).natoms = m.natoms := by simp [WMol.natoms, WMol.ofMol, Mol.natoms]
  obtain ⟨m1, h1⟩ := (applyEdit_ok_iff [x, y] (WMol.ofMol m) (.radicalIncrease 0) hw0).2 ⟨x, rfl, by rw [hn0]; exact hx⟩
  have s1 := applyEdit_spec hw0 h1
  obtain ⟨m2, h2⟩ := (applyEdit_ok_iff [x, y] m1 (.radicalIncrease 1) s1.wf).2 ⟨y, rfl, by rw [s1.natoms, hn0]; exact hy⟩
  have s2 := applyEdit_spec s1.wf h2
  have hk2 : m2.kindBetween x y = some .single := by
    rw [effect_frame_bonds s2.effect x y (fun _ hp => nomatch hp), effect_frame_bonds s1.effect x y (fun _ hp => nomatch hp)]
    exact hkind
  obtain ⟨m3, h3⟩ := (applyEdit_ok_iff [x, y] m2 (.bondBreak 0 1 .single) s2.wf).2
    ⟨x, y, rfl, rfl, by rw [s2.natoms, s1.natoms, hn0]; exact hx, by rw [s2.natoms, s1.natoms, hn0]; exact hy, hk2⟩
  refine ⟨⟨m3, components m3⟩, ?_⟩
  simp only [runMatch, scission, applyEdits, h1, h2, h3, bind, Except.bind, pure, Except.pure]

/-- non-vacuity of `C16_balance`'s conclusion on the example: on the first match the sum is unchanged at both
labelled atoms (carbon: −1 bond, +1 radical; hydrogen likewise) -/
example : (applyEdits [0, 2] (WMol.ofMol ethane) scission.edits).toOption.map
      (fun p => (p.E 0 - (WMol.ofMol ethane).E 0, p.E 2 - (WMol.ofMol ethane).E 2, p.E 0)) = some (0, 0, 8) := by
  decide +kernel

/-- non-vacuity of the frame theorems' hypotheses: atom 1 and the pair (0, 1) are not named by the rule under the
first match, atom 0 and the pair (0, 2) are -/
example : 1 ∉ namedAtoms [0, 2] scission.edits ∧ 0 ∈ namedAtoms [0, 2] scission.edits ∧
    namedPairs [0, 2] scission.edits = [(0, 2)] := by decide

/-- non-vacuity of the error outcomes: removing a radical electron the atom does not have, forming a bond that
exists, increasing the order of a bond that is not there, breaking a bond that is not the declared one -/
example : applyEdit [0, 1] cc (.radicalDecrease 0) = .error .overflow ∧
    applyEdit [0, 1] cc (.bondForm 0 1 .single) = .error .rdkit ∧
    applyEdit [0, 0] cc (.bondIncrease 0 1) = .error .attribute ∧
    applyEdit [0, 1] cc (.bondBreak 0 1 .double) = .error .queryError ∧
    applyEdit [0] cc (.bondBreak 0 1 .single) = .error .index := by decide

end PGA.C16
