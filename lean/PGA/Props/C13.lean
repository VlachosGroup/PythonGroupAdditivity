import PGA.Proofs.MergeLib
import PGA.Props.C19
/-!
# C13 — merging library files is a conflict-checked, order-free union

Property theorems about the model `PGA.Model.Merge` of `ThermochemIncomplete.update` / `copy`,
`GroupLibrary.Update` and `GroupLibrary._do_load`.  Vocabulary (`Valid`, `PartOf`, `Covers`, `Same`, `fresh`, `mergeAll`,
`GroupsOK`, `TreeOK`, `treeEntries`, `LibInv`) in `PGA/Spec/Merge.lean`; helper lemmas in `PGA/Proofs/Merge.lean` and
`PGA/Proofs/MergeLib.lean`.  All quantifiers are unbounded: any number of files, groups, table points, any include
order and nesting, any history of calls.  `ev` (evaluation of a raw-data correlation away from its reference
temperature) is universally quantified: nothing is assumed about it.  Order: the theorems about one correlation (T3, T1,
T2), then the same properties one level up, for libraries and trees of files, then T4 (duplicate spellings).
-/
namespace PGA.Merge
open PGA.Yaml PGA.GroupName

/-! ### one correlation — T3: failure atomicity -/

/-- **T3.** Whenever `update` raises — `ReadOnlyDataError`, a constructor error of the temporary correlation, an
evaluation error, an inconsistent merged result — the target correlation (its five data fields and the presence of its
internal correlation) is exactly what it was.  For all pairs of correlations, with equal or different reference
temperatures, with or without `overwrite`. -/
theorem C13_update_atomic (ev : RawEval) (self : Obj) (d : Corr) (ow : Bool) (e : UErr)
    (h : (update ev self d ow).2 = some e) : (update ev self d ow).1 = self :=
  update_atomic ev self d ow e h

/-- the same statement about the method as it was before the repair (no validation before the commit) -/
def C13_update_atomic_old_full : Prop :=
  ∀ (ev : RawEval) (self : Obj) (d : Corr) (ow : Bool) (e : UErr),
    (updateOld ev self d ow).2 = some e → (updateOld ev self d ow).1 = self

def y3a : Corr := ⟨none, none, [(300, 1), (400, 2)], 350, none⟩
def y3b : Corr := ⟨none, none, [], 350, some (340, 360)⟩

/-- **Y3/F32.** The unrepaired method is not failure-atomic, already for equal reference temperatures: merging a range
that does not cover the target's table raises `ValueError` after the range was stored and the internal correlation
deleted.  The repaired method rejects the same merge and leaves the target unchanged. -/
theorem C13_update_atomic_old_fails : ¬ C13_update_atomic_old_full ∧
    update anyEval (fresh y3a) y3b false = (fresh y3a, some .value) := by
  constructor
  · intro h
    have := h anyEval (fresh y3a) y3b false .value (by decide +kernel)
    revert this
    decide +kernel
  · decide +kernel

/-! ### one correlation — T1: conflict-free merging is the pointwise union, in any order -/

/-- **T1 (two correlations).** Two consistent parts of one consistent whole (shared `T_ref ≠ 0`) merge without error;
the result is again a consistent part of the whole, freshly built, holding each reference value, each table point and
the range exactly when one of the two did. -/
theorem C13_update_parts (ev : RawEval) {a b W : Corr} (hW : Valid W) (hT : W.Tref ≠ 0)
    (pa : PartOf a W) (pb : PartOf b W) (va : Valid a) (vb : Valid b) :
    ∃ c, update ev (fresh a) b false = (fresh c, none) ∧ PartOf c W ∧ Valid c ∧ Covers [a, b] c :=
  update_parts ev hW hT pa pb va vb (covers_self a) (covers_self b)

/-- **Idempotence.** Merging a consistent correlation into itself — with or without `overwrite` — changes nothing,
not even the order of its table. -/
theorem C13_update_idempotent (ev : RawEval) {a : Corr} (va : Valid a) (hT : a.Tref ≠ 0) (ow : Bool) :
    update ev (fresh a) a ow = (fresh a, none) :=
  update_self ev va hT ow

/-- **T1 (any list).** Merging any list of consistent parts of a consistent whole, one after the other into the first,
never fails; the result is a consistent part of the whole that holds a datum exactly when some member of the list does:
the pointwise union. -/
theorem C13_merge_list_union (ev : RawEval) {W : Corr} (hW : Valid W) (hT : W.Tref ≠ 0) (p0 : Corr) (ps : List Corr)
    (h0 : PartOf p0 W ∧ Valid p0) (hps : ∀ p ∈ ps, PartOf p W ∧ Valid p) :
    ∃ c, mergeAll ev (fresh p0) ps = (fresh c, none) ∧ PartOf c W ∧ Valid c ∧ Covers (p0 :: ps) c :=
  mergeAll_parts ev hW hT ps p0 [p0] h0.1 h0.2 (covers_self p0) hps

/-- **T1 (order-free, repetition-free).** Two lists with the same members — in any order, with any repetitions
("merging the same data twice") — give the same correlation: same reference values, same value at every temperature
of the table, same range. -/
theorem C13_merge_order_free (ev : RawEval) {W : Corr} (hW : Valid W) (hT : W.Tref ≠ 0) (p0 q0 : Corr) (ps qs : List Corr)
    (hp : ∀ p ∈ p0 :: ps, PartOf p W ∧ Valid p) (hq : ∀ q ∈ q0 :: qs, PartOf q W ∧ Valid q)
    (hsame : ∀ x, x ∈ p0 :: ps ↔ x ∈ q0 :: qs) :
    ∃ c c', mergeAll ev (fresh p0) ps = (fresh c, none) ∧ mergeAll ev (fresh q0) qs = (fresh c', none) ∧ Same c c' := by
  obtain ⟨c, hc, pc, _, cc⟩ := C13_merge_list_union ev hW hT p0 ps (hp p0 List.mem_cons_self) fun p h =>
    hp p (List.mem_cons_of_mem _ h)
  obtain ⟨c', hc', pc', _, cc'⟩ := C13_merge_list_union ev hW hT q0 qs (hq q0 List.mem_cons_self) fun q h =>
    hq q (List.mem_cons_of_mem _ h)
  exact ⟨c, c', hc, hc', covers_unique pc pc' cc cc' hsame⟩

/-! ### one correlation — T2: conflicts -/

/-- **T2 (reference enthalpy).** When target and source both give a reference enthalpy and the two are not
`isclose(rel_tol=1e-15)`, the merge is rejected with `ReadOnlyDataError` and the target is unchanged.
(Hypotheses: shared `T_ref ≠ 0`; the tables merge; the union is consistent.) -/
theorem C13_conflict_rejected (ev : RawEval) {c d : Corr} {cp : List (Rat × Rat)} {x y : Rat} (built : Bool)
    (hT : c.Tref = d.Tref) (h0 : d.Tref ≠ 0) (hcp : mergeCp false c.cp c.cp d.cp = .ok cp)
    (hv : ValidP (keys cp) d.Tref (unionRange c.range d.range))
    (hc : c.H = some x) (hd : d.H = some y) (hne : isclose y x = false) :
    update ev ⟨c, built⟩ d false = (⟨c, built⟩, some .readOnly) := by
  have hH := newH_at_ref ev false hT h0 hv
  rw [hd] at hH
  have hr : mergeRefs ev false c d cp (unionRange c.range d.range) = .error .readOnly := by
    simp only [mergeRefs, hd, Option.isSome_some, Bool.true_or, if_true, (checkValid_iff _ _ _).mpr hv, hH, mergeRef, hc, hne]
    rfl
  rw [update_eq]
  simp only [mergeData, hcp, hr]

/-- **T2 (reference entropy).** Same for the reference entropy (the source giving no reference enthalpy, so that the
entropy is the first datum compared). -/
theorem C13_conflict_S_rejected (ev : RawEval) {c d : Corr} {cp : List (Rat × Rat)} {x y : Rat} (built : Bool)
    (hT : c.Tref = d.Tref) (h0 : d.Tref ≠ 0) (hcp : mergeCp false c.cp c.cp d.cp = .ok cp)
    (hv : ValidP (keys cp) d.Tref (unionRange c.range d.range))
    (hH : d.H = none) (hc : c.S = some x) (hd : d.S = some y) (hne : isclose y x = false) :
    update ev ⟨c, built⟩ d false = (⟨c, built⟩, some .readOnly) := by
  have hHn := newH_at_ref ev false hT h0 hv
  have hS := newS_at_ref ev false hT h0 hv
  rw [hH, hd] at hHn hS
  have hr : mergeRefs ev false c d cp (unionRange c.range d.range) = .error .readOnly := by
    simp only [mergeRefs, hH, hd, Option.isSome_some, Bool.or_true, if_true, (checkValid_iff _ _ _).mpr hv, hHn, hS, mergeRef,
      hc, hne]
    rfl
  rw [update_eq]
  simp only [mergeData, hcp, hr]

/-- **T2 (heat capacity).** When the source gives, for a temperature of the target's table, a different value, the
merge is rejected with `ReadOnlyDataError` and the target is unchanged — whatever else the two correlations hold. -/
theorem C13_conflict_cp_rejected (ev : RawEval) (self : Obj) (d : Corr) {T x y : Rat} (hnd : (keys d.cp).Nodup)
    (hs : dlookup T self.c.cp = some x) (hd : dlookup T d.cp = some y) (hxy : x ≠ y) :
    update ev self d false = (self, some .readOnly) := by
  rw [update_eq]
  simp only [mergeData, mergeCp_conflict self.c.cp hs hxy d.cp self.c.cp hnd hd hs]

/-- **T2 (overwrite).** With `overwrite` nothing is read-only: provided the union is consistent the merge succeeds, and
every datum of the source — reference values, table points — replaces the target's ("the later value wins"); data only
the target has are kept. -/
theorem C13_overwrite_later_wins (ev : RawEval) {c d : Corr} (hT : c.Tref = d.Tref) (h0 : c.Tref ≠ 0)
    (hnd : (keys d.cp).Nodup) (hv : ValidP (keys d.cp ++ keys c.cp) c.Tref (unionRange c.range d.range)) (built : Bool) :
    ∃ r, update ev ⟨c, built⟩ d true = (fresh r, none) ∧
      r.H = (if d.H.isSome then d.H else c.H) ∧ r.S = (if d.S.isSome then d.S else c.S) ∧
      (∀ T, dlookup T r.cp = match dlookup T d.cp with | some v => some v | none => dlookup T c.cp) ∧
      r.Tref = c.Tref ∧ r.range = unionRange c.range d.range :=
  update_overwrite ev hT h0 hnd hv built

/-- the union of two ranges is their hull; an absent range contributes nothing -/
theorem C13_range_union_hull (a b c d : Rat) :
    unionRange (some (a, b)) (some (c, d)) = some (min a c, max b d) ∧
      unionRange (some (a, b)) none = some (a, b) ∧ unionRange none (some (c, d)) = some (c, d) ∧
      unionRange none none = none := by
  refine ⟨?_, rfl, rfl, rfl⟩
  rw [unionRange, min_def, max_def]

/-! ### libraries and trees of files — T1 and T3 again, for `GroupLibrary.Update` and `_do_load` -/

/-- **T1 (libraries).** `Update` of a library of parts with a library of parts never fails, and every group ends up
holding exactly the data of the entries of both. -/
theorem C13_libUpdate_union (ev : RawEval) {Wg : Name → Corr} (hWg : WgOK Wg) {E1 E2 : Name → List Corr} {self other : Lib}
    (h1 : LibInv Wg E1 self) (h2 : LibInv Wg E2 other) :
    ∃ r, libUpdate ev false self other = (r, none) ∧ LibInv Wg (fun g => E1 g ++ E2 g) r :=
  libUpdate_libInv ev hWg h1 h2

/-! #### `GroupLibrary.Update` is all-or-nothing (finding FA1, repaired) -/

/-- **T3 (libraries).** Whenever `GroupLibrary.Update` raises — a conflict in any group, a property set that cannot be
copied or merged — the target library is exactly what it was: no group added, no group changed.  For all libraries (any
number of groups, any data, valid or not), with or without `overwrite`; the groups of the source are pairwise different
(it is a Python mapping). -/
theorem C13_libUpdate_atomic (ev : RawEval) (ow : Bool) (self other : Lib) (hnd : (other.map Prod.fst).Nodup) (e : UErr)
    (h : (libUpdate ev ow self other).2 = some e) : (libUpdate ev ow self other).1 = self := by
  unfold libUpdate at h ⊢
  cases ht : libTrial ev ow self other with
  | some e' => rfl
  | none =>
    -- the first pass went through, so the storing pass raises nothing
    rw [ht, ← libTrial_eq ev ow self other self hnd (fun _ _ => rfl) (Or.inr ht), ht] at h
    cases h

/-- **The repair changes nothing else (success).** A merge that goes through yields exactly what the method yielded
before the repair (`libUpdateOld`: the in-place loop): same groups in the same order, same states.  No hypothesis. -/
theorem C13_libUpdate_ok_eq_old (ev : RawEval) (ow : Bool) (self other r : Lib)
    (h : libUpdate ev ow self other = (r, none)) : libUpdateOld ev ow self other = (r, none) := by
  unfold libUpdate at h
  cases ht : libTrial ev ow self other with
  | some e' => rw [ht] at h; cases h
  | none => rw [ht] at h; exact h

/-- **The repair changes nothing else (outcome).** When the target's property sets are objects the constructor accepts
(`Copyable`: every library that was loaded or merged), the repaired method raises exactly when, and exactly what, the old
loop raised; and a merge the old loop completed is completed now with the same result. -/
theorem C13_libUpdate_same_outcome (ev : RawEval) (ow : Bool) (self other : Lib) (hnd : (other.map Prod.fst).Nodup)
    (hc : Copyable self) :
    (libUpdate ev ow self other).2 = (libUpdateOld ev ow self other).2 ∧
      ∀ r, libUpdateOld ev ow self other = (r, none) → libUpdate ev ow self other = (r, none) := by
  unfold libUpdate
  rw [libTrial_eq ev ow self other self hnd (fun _ _ => rfl) (Or.inl hc)]
  constructor
  · cases h : (libUpdateOld ev ow self other).2 with
    | none => exact h
    | some e => rfl
  · intro r h
    rw [h]

/-- the all-or-nothing statement about the method as it was before the repair -/
def C13_libUpdate_atomic_old_full : Prop :=
  ∀ (ev : RawEval) (ow : Bool) (self other : Lib), (other.map Prod.fst).Nodup → ∀ e : UErr,
    (libUpdateOld ev ow self other).2 = some e → (libUpdateOld ev ow self other).1 = self

def fa1H (h : Rat) : Obj := fresh ⟨some h, none, [], 29815 / 100, none⟩
/-- the target holds group `b`; the source offers a new group `a` and a conflicting reference enthalpy for `b` -/
def fa1Self : Lib := [(['b'], some (fa1H (-10)))]
def fa1Other : Lib := [(['a'], some (fa1H 1)), (['b'], some (fa1H (-11)))]

/-- **FA1.** The unrepaired method was not all-or-nothing: the conflict in the second group is raised after the first
group was stored (the target holds two groups instead of one).  The repaired method refuses the same merge with the same
error and leaves the target as it was. -/
theorem C13_libUpdate_atomic_old_fails : ¬ C13_libUpdate_atomic_old_full ∧
    libUpdateOld anyEval false fa1Self fa1Other = (fa1Self ++ [(['a'], some (fa1H 1))], some .readOnly) ∧
    libUpdate anyEval false fa1Self fa1Other = (fa1Self, some .readOnly) := by
  refine ⟨?_, by decide +kernel, by decide +kernel⟩
  intro h
  have := h anyEval false fa1Self fa1Other (by decide +kernel) .readOnly (by decide +kernel)
  revert this
  decide +kernel

/-- **T1 (files).** A library file with any tree of includes, every file well formed (its group names parse, its entries
load to consistent parts of their group's whole, no group twice in one file): loading never fails, and the library
holds for every group — keyed by canonical name — a consistent part of the whole with exactly the data given for that
group anywhere in the tree, and nothing for groups no file mentions. -/
theorem C13_load_tree_union (ev : RawEval) {Wg : Name → Corr} (hWg : WgOK Wg) {groups : GroupsD} {incs : Incs}
    (hg : GroupsOK Wg groups) (ht : TreeOK Wg incs) :
    ∃ r, loadFile ev groups incs = .ok r ∧ LibInv Wg (fun g => ownEntries groups g ++ treeEntries incs g) r :=
  loadFile_inv ev hWg hg ht

/-- what two libraries hold for a group is observably the same -/
def SameEntry : Option (Option Obj) → Option (Option Obj) → Prop
  | none, none => True
  | some (some o₁), some (some o₂) => Same o₁.c o₂.c ∧ o₁.built = o₂.built
  | _, _ => False

/-- **T1 (any order, any nesting).** Two trees of files that give, for every group, the same set of entries — the
files included in another order, nested differently, data repeated — load to libraries that hold observably the same
correlation for every group. -/
theorem C13_load_order_nesting_free (ev : RawEval) {Wg : Name → Corr} (hWg : WgOK Wg) {g₁ g₂ : GroupsD} {t₁ t₂ : Incs}
    (hg₁ : GroupsOK Wg g₁) (ht₁ : TreeOK Wg t₁) (hg₂ : GroupsOK Wg g₂) (ht₂ : TreeOK Wg t₂)
    (hsame : ∀ g c, c ∈ ownEntries g₁ g ++ treeEntries t₁ g ↔ c ∈ ownEntries g₂ g ++ treeEntries t₂ g) :
    ∃ r₁ r₂, loadFile ev g₁ t₁ = .ok r₁ ∧ loadFile ev g₂ t₂ = .ok r₂ ∧
      ∀ g, SameEntry (libLookup g r₁) (libLookup g r₂) := by
  obtain ⟨r₁, h₁, i₁⟩ := loadFile_inv ev hWg hg₁ ht₁
  obtain ⟨r₂, h₂, i₂⟩ := loadFile_inv ev hWg hg₂ ht₂
  refine ⟨r₁, r₂, h₁, h₂, fun g => ?_⟩
  have hnil : (ownEntries g₁ g ++ treeEntries t₁ g = []) ↔ (ownEntries g₂ g ++ treeEntries t₂ g = []) := by
    simp only [List.eq_nil_iff_forall_not_mem, hsame g]
  rcases i₁.cases g with ⟨l₁, e₁⟩ | ⟨o₁, l₁, f₁, p₁, -, c₁, n₁⟩ <;>
    rcases i₂.cases g with ⟨l₂, e₂⟩ | ⟨o₂, l₂, f₂, p₂, -, c₂, n₂⟩ <;> rw [l₁, l₂]
  · trivial
  · exact absurd (hnil.mp e₁) n₂
  · exact absurd (hnil.mpr e₂) n₁
  · -- both hold a part of the whole with the data of the same entries; freshly built, so `_correlation` exists alike
    have hs := covers_unique p₁ p₂ c₁ c₂ (hsame g)
    refine ⟨hs, ?_⟩
    rw [f₁, f₂, fresh, fresh, Bool.eq_iff_iff, Bool.not_eq_true', Bool.not_eq_true', ← Bool.not_eq_true, ← Bool.not_eq_true,
      List.isEmpty_iff, List.isEmpty_iff, eq_nil_iff_of_dlookup hs.cp]

/-! ### T4: two spellings of one group in one file -/

/-- **T4.** A file that names the same group twice — under any two well-formed spellings: peripherals in another order,
another split into runs, repeat counts written or not — is rejected with the duplicate-definition `KeyError` when the
second spelling is reached (everything before it having loaded).  Uses the C19 theorems on `Group.parse`. -/
theorem C13_duplicate_spelling_rejected (c : Name) (r₁ r₂ : List Run) (h₁ : WFRuns c r₁) (h₂ : WFRuns c r₂)
    (hp : (expandRuns r₁).Perm (expandRuns r₂)) (pre mid post : GroupsD)
    (e₁ e₂ : Except LoadErr (Option Loaded)) (lib' : Lib)
    (hpre : loadOwn [] (pre ++ (spell c r₁, e₁) :: mid) = .ok lib') :
    loadOwn [] ((pre ++ (spell c r₁, e₁) :: mid) ++ (spell c r₂, e₂) :: post) = .error .key := by
  have p₁ := C19_parse_spell c r₁ h₁
  have p₂ := C19_parse_spell c r₂ h₂
  have hname : (⟨c, expandRuns r₂⟩ : PGA.GroupName.Group).name = (⟨c, expandRuns r₁⟩ : PGA.GroupName.Group).name := by
    simp only [PGA.GroupName.Group.name]; exact (canon_perm c hp).symm
  rw [loadOwn_append, hpre]
  simp only
  apply loadOwn_duplicate p₂
  rw [hname]
  rw [loadOwn_append] at hpre
  cases h0 : loadOwn [] pre with
  | error e => rw [h0] at hpre; cases hpre
  | ok l0 =>
    rw [h0] at hpre
    exact loadOwn_adds p₁ hpre

/-! ### non-vacuity: concrete inputs meeting the hypotheses -/

section examples

def exW : Corr := ⟨some (-10), some 0, [(300, 1), (400, 2)], 29815 / 100, some (200, 1000)⟩
def exA : Corr := ⟨some (-10), none, [(400, 2)], 29815 / 100, some (200, 1000)⟩
def exB : Corr := ⟨none, some 0, [(300, 1)], 29815 / 100, none⟩

/-- `exB` has a table but no range: its `T_ref` must lie in the span of the table — it does not, so it is *not* valid
(the class of the known finding Y1); with the range it is. -/
def exB' : Corr := ⟨none, some 0, [(300, 1)], 29815 / 100, some (200, 1000)⟩

/-- the executable check decides `ValidP`; with distinct temperatures that is `Valid` (used to meet hypotheses by evaluation) -/
theorem validP_dec (c : Corr) (h : checkValid c.cp c.Tref c.range = .ok ()) (hn : (keys c.cp).Nodup) : Valid c :=
  ⟨(checkValid_iff _ _ _).mp h, hn⟩

example : Valid exW := validP_dec exW (by decide +kernel) (by decide +kernel)
example : Valid exA := validP_dec exA (by decide +kernel) (by decide +kernel)
example : Valid exB' := validP_dec exB' (by decide +kernel) (by decide +kernel)
example : checkValid exB.cp exB.Tref exB.range = .error .value := by decide +kernel

example : PartOf exA exW := by
  refine ⟨rfl, Or.inr rfl, Or.inl rfl, ?_, Or.inr rfl⟩
  intro T v h
  simp only [exA, dlookup] at h
  split at h
  · rename_i e; cases h; subst e; decide +kernel
  · cases h

/-- the merge of the two parts is the whole (zero entropy kept), computed by the model -/
example : (update anyEval (fresh exA) exB' false) =
    (fresh ⟨some (-10), some 0, [(400, 2), (300, 1)], 29815 / 100, some (200, 1000)⟩, none) := by decide +kernel

/-- a conflicting reference enthalpy is rejected, the target unchanged -/
example : update anyEval (fresh exA) ⟨some (-11), none, [], 29815 / 100, none⟩ false = (fresh exA, some .readOnly) := by
  decide +kernel

/-- … unless `overwrite`: then the later value wins -/
example : (update anyEval (fresh exA) ⟨some (-11), none, [], 29815 / 100, none⟩ true).1.c.H = some (-11) := by
  decide +kernel

/-- hypotheses of `C13_libUpdate_atomic` / `C13_libUpdate_same_outcome` at the FA1 witness: distinct groups, a copyable
target, and the merge is indeed refused -/
example : (fa1Other.map Prod.fst).Nodup := by decide +kernel
example : Copyable fa1Self := by
  intro g m h
  simp only [fa1Self, libLookup] at h
  split at h
  · cases h; exact ⟨fa1H (-10), by decide +kernel⟩
  · cases h
example : (libUpdate anyEval false fa1Self fa1Other).2 = some .readOnly := by decide +kernel
/-- … and a merge that goes through (with `overwrite`): the later value wins in `b`, `a` is adopted -/
example : libUpdate anyEval true fa1Self fa1Other = ([(['b'], some (fa1H (-11))), (['a'], some (fa1H 1))], none) := by
  decide +kernel

end examples

end PGA.Merge
