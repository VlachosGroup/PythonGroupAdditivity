import PGA.Proofs.GroupName
/-!
# C19 — group identity is the centre plus the multiset of peripherals

Property theorems about the model `PGA.Model.GroupName` of `pgradd/GroupAdd/Group.py`.
Helper lemmas are in `PGA/Proofs/GroupName.lean`; the vocabulary (`spell`, `WFGroup`, …) in
`PGA/Spec/GroupName.lean`.  The quantifiers are unbounded: every centre name, every list of
peripheral names of any length, every order and run-length spelling.
The labels **T1**–**T4** are those of the C19 paragraph of DESIGN.md, section 3; **T5** (indexing a library) and the primed
labels are companions of the statement whose number they carry.
-/
namespace PGA.GroupName
open PGA.Chars

/-- Table obligation: the interpreter's digit limit (regenerated from CPython) is positive. -/
theorem C19_tab_limit_pos : 0 < PGA.Gen.Chars.intMaxStrDigits := by decide

/-- Table obligation: ASCII digits are digits whose `int()` value is the digit (regenerated table). -/
theorem C19_tab_ascii_digits : ∀ d : Fin 10,
    isDigitChar (digitChar d.val) = true ∧ decimalVal (digitChar d.val) = some d.val := ascii_digits_ok

/-- **T2** A group's canonical name parses back to the same group: same centre, a permutation of the
peripherals, hence the same canonical name. -/
theorem C19_parse_canon (csg : Name) (psgs : List Name) (h : WFGroup csg psgs) :
    ∃ ps', parse (canon csg psgs) = .ok ⟨csg, ps'⟩ ∧ ps'.Perm psgs ∧ canon csg ps' = canon csg psgs := by
  refine ⟨expandRuns (canonRuns psgs), ?_, expand_canonRuns_perm psgs, canon_perm csg (expand_canonRuns_perm psgs)⟩
  rw [canon_eq_spell]
  exact parse_spell csg _ (wfRuns_canonRuns h) C19_tab_limit_pos

/-- **T1** Two groups have the same canonical name (are equal, hash alike, index the same entry)
exactly when they have the same centre and the same multiset of peripherals. -/
theorem C19_canon_eq_iff (c c' : Name) (ps ps' : List Name) (h : WFGroup c ps) (h' : WFGroup c' ps') :
    canon c ps = canon c' ps' ↔ c = c' ∧ ps.Perm ps' := by
  constructor
  · intro e
    obtain ⟨q, hq, hperm, _⟩ := C19_parse_canon c ps h
    obtain ⟨q', hq', hperm', _⟩ := C19_parse_canon c' ps' h'
    rw [e, hq'] at hq
    injection hq with hq
    injection hq with hc hp
    exact ⟨hc.symm, hperm.symm.trans (hp ▸ hperm')⟩
  · rintro ⟨rfl, hp⟩
    exact canon_perm c hp

/-- **T3** Any two well-formed spellings (any order of the entries, any split into runs, counts
written or not) that denote the same multiset parse to groups with the same canonical name. -/
theorem C19_spelling_independent (c : Name) (r₁ r₂ : List Run) (h₁ : WFRuns c r₁) (h₂ : WFRuns c r₂)
    (hp : (expandRuns r₁).Perm (expandRuns r₂)) :
    ∃ g₁ g₂, parse (spell c r₁) = .ok g₁ ∧ parse (spell c r₂) = .ok g₂ ∧ groupEq g₁ g₂ = true := by
  refine ⟨_, _, parse_spell c r₁ h₁ C19_tab_limit_pos, parse_spell c r₂ h₂ C19_tab_limit_pos, ?_⟩
  simp [groupEq, Group.name, canon_perm c hp]

/-- **T3'** parsing a well-formed spelling returns exactly the peripherals it denotes, in order. -/
theorem C19_parse_spell (c : Name) (r : List Run) (h : WFRuns c r) :
    parse (spell c r) = .ok ⟨c, expandRuns r⟩ := parse_spell c r h C19_tab_limit_pos

/-- **T4** equality between groups is equality of canonical names, and a group equals a plain
string exactly when the string is its canonical name. -/
theorem C19_eq_is_name_eq (g h : Group) : groupEq g h = true ↔ g.name = h.name := by
  simp [groupEq]
theorem C19_eq_str (g : Group) (s : Name) : groupEqStr g s = true ↔ g.name = s := by
  simp [groupEqStr]

/-- A library entry table as Python's `dict` sees it: a group's hash and equality go through its canonical name, so a
lookup with a group is a lookup with that name (`Library.py` indexes `self.contents` this way). -/
def libGet {α : Type} (lib : List (Name × α)) (g : Group) : Option α := lib.lookup g.name

/-- **T5** two well-formed groups index the same entry of *every* library exactly when they have the same centre and the
same multiset of peripherals. -/
theorem C19_index_same_entry (c c' : Name) (ps ps' : List Name) (h : WFGroup c ps) (h' : WFGroup c' ps') :
    (∀ lib : List (Name × Unit), libGet lib ⟨c, ps⟩ = libGet lib ⟨c', ps'⟩) ↔ c = c' ∧ ps.Perm ps' := by
  rw [← C19_canon_eq_iff c c' ps ps' h h']
  constructor
  · intro H
    have h1 := H [(canon c ps, ())]
    by_cases e : canon c ps = canon c' ps'
    · exact e
    · have e' : (canon c' ps' == canon c ps) = false := by
        simp only [beq_eq_false_iff_ne, ne_eq]; exact fun x => e x.symm
      simp [libGet, Group.name, List.lookup, e'] at h1
  · intro e lib
    simp [libGet, Group.name, e]

/-- **T5'** looking a group up is looking its canonical name up (the definition of `libGet`, recorded as a statement). -/
theorem C19_index_by_string {α : Type} (lib : List (Name × α)) (g : Group) :
    libGet lib g = lib.lookup g.name := rfl

/-- **T4'** group equality is an equivalence relation (it is equality of names). -/
theorem C19_eq_equivalence (g h k : Group) :
    groupEq g g = true ∧ (groupEq g h = groupEq h g) ∧ (groupEq g h = true → groupEq h k = true → groupEq g k = true) := by
  refine ⟨by simp [groupEq], ?_, ?_⟩
  · simp only [groupEq]; exact BEq.comm
  · simp only [groupEq, beq_iff_eq]; exact fun a b => a.trans b

/-- Error clause, on the parts after the split at parentheses: when the parse loop meets a non-empty digit string while no
peripheral is pending (`next = none`), it stops with the group syntax error. -/
theorem C19_count_without_name (part : Name) (rest : List Name) (acc : List Name)
    (h : part.isEmpty = false) (hd : isDigitStr part = true) :
    parseLoop (part :: rest) none acc = .error .syntax := parseLoop_cons_count_none part rest acc h hd

/-! ### non-vacuity: concrete inputs meeting the hypotheses
(character lists are written out, so that evaluation does not go through `String.toList`) -/

def isOk (r : Except ParseErr Group) (g : Group) : Bool := match r with | .ok g' => g' == g | _ => false
def isErr (r : Except ParseErr Group) (e : ParseErr) : Bool := match r with | .error e' => e' == e | _ => false

example : WFGroup ['C'] [['H'], ['C','[','d',']'], ['H']] := by
  refine ⟨by decide +kernel, ?_, ?_⟩
  · decide +kernel
  · show 3 < 10 ^ PGA.Gen.Chars.intMaxStrDigits
    exact Nat.lt_of_lt_of_le (by decide) (Nat.pow_le_pow_right (by decide) C19_tab_limit_pos)
example : isOk (parse ['C','(','H',')','3','(','C','[','d',']',')']) ⟨['C'], [['H'], ['H'], ['H'], ['C','[','d',']']]⟩ = true := by decide +kernel
/-- the escaping `ValueError` of the implementation is an outcome of the model too -/
example : isErr (parse ['C','(','H',')','(','²',')']) .value = true := by decide +kernel
example : isErr (parse ['C','(','3',')']) .syntax = true := by decide +kernel

end PGA.GroupName
