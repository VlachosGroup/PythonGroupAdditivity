import PGA.Proofs.CorrHistory
/-!
# The correlation object as a state machine: every history of its public API leaves it fresh

Model: `PGA/Model/CorrHistory.lean` (`step`, `run`, `trace` over the state `Thermo.Incomplete`; `update` is `Merge.update`
of C13, the getters are those of C05/C06).  Vocabulary: `PGA/Spec/CorrHistory.lean` (`Fresh`, `FreshS`, `SameValues`,
`SameData`).  Lemmas: `PGA/Proofs/CorrHistory.lean`.

All quantifiers are unbounded: histories of any length over any operands, tables of any size, every temperature, every
interpolant family `S` (nothing is assumed about SciPy: the statements are about which data the answers are computed *from*,
not about their numerical value).  They extend C05/C06 from one evaluation to histories: a memo, an interpolant or a formatted
text that outlived the data it was computed from would make `HIST_invariant` and `HIST_history_independent` false.
-/
namespace PGA.CorrHistory
open PGA.Thermo PGA.Yaml PGA.Merge

/-! ### HIST_invariant -/

/-- **The constructor builds a fresh object**: structurally (`FreshS`), hence observationally (`Fresh`), holding the data
it was given. -/
theorem HIST_constructed_fresh {S : Spl} {c : Corr} {o : Incomplete} (h : construct S c = .ok o) :
    FreshS S o ∧ Fresh S o ∧ held o = c :=
  ⟨(construct_ok h).1, fresh_of_freshS (construct_ok h).1, (construct_ok h).2.1⟩

/-- **Every call preserves freshness** — `update` with any operand and either `overwrite`, `del_ND_Cp(T)` / `del_ND_Cp()`,
`del_ND_H_ref()`, `del_ND_S_ref()`, `set_range(r)` with any `r`, `copy()`, every getter — *whether it returns or raises*. -/
theorem HIST_step_preserves {S : Spl} {o : Incomplete} (hf : FreshS S o) (op : Op) :
    FreshS S (step S o op).1 ∧ Fresh S (step S o op).1 :=
  ⟨freshS_step hf op, fresh_of_freshS (freshS_step hf op)⟩

/-- **HIST_invariant.** After ANY history of calls on a constructed object — any length, any operands, no call excluded:
a call that raises is caught by the caller and the history goes on with the object as the call left it (`run`) — the
object is `Fresh`: the constructor accepts the data it holds, and the object it builds from them holds the same data and
gives the same outcome (value, exception class, warning flag) for `get_CpoR`, `get_HoRT`, `get_SoR`, `get_GoRT` at every
temperature.  Taking prefixes of `ops`, this holds after every single call of the history. -/
theorem HIST_invariant {S : Spl} {c : Corr} {o : Incomplete} (h : construct S c = .ok o) (ops : List Op) :
    Fresh S (run S o ops) ∧ FreshS S (run S o ops) :=
  ⟨fresh_of_freshS (freshS_run ops (construct_ok h).1), freshS_run ops (construct_ok h).1⟩

/-- the same, said of every intermediate state: after each single call of the history (returned or raised) the object is
fresh -/
theorem HIST_invariant_every_step {S : Spl} {c : Corr} {o : Incomplete} (h : construct S c = .ok o) (ops : List Op) :
    ∀ x ∈ trace S o ops, Fresh S x.1 :=
  fun x hx => fresh_of_freshS (freshS_trace ops (construct_ok h).1 x hx)

/-- the structural invariant is the stronger one -/
theorem HIST_freshS_fresh {S : Spl} {o : Incomplete} (hf : FreshS S o) : Fresh S o := fresh_of_freshS hf

/-! ### HIST_failed_op_state -/

/-- **A refused `update` stores nothing** — for every fresh state, operand and `overwrite`, whatever the exception: the
object is literally what it was (C13_update_atomic carried to the state with its table correlation). -/
theorem HIST_failed_update_unchanged {S : Spl} {o : Incomplete} (hf : FreshS S o) (d : Corr) (ow : Bool) (e : Exc)
    (h : (step S o (.update d ow)).2 = .raised e) : (step S o (.update d ow)).1 = o :=
  (freshS_update hf d ow).2 (by rw [show (stepUpdate S o d ow).2 = _ from h]; rfl)

/-- **`del_ND_Cp(T)` with an absent `T` is a `KeyError` and changes nothing** (any state). -/
theorem HIST_delCp_absent (S : Spl) (o : Incomplete) (T : Rat) (h : dlookup T o.cp = none) :
    step S o (.delCp (some T)) = (o, .raised .key) := by
  simp only [step, stepDelCp, h]

/-- **`del_ND_Cp(T)` that is refused changes nothing** (any state, any exception): the remaining data are checked before the
point is withdrawn, and once they passed, `_setup_correlation()` cannot fail on them. -/
theorem HIST_failed_delCp_unchanged (S : Spl) (o : Incomplete) (T : Option Rat) (e : Exc)
    (h : (step S o (.delCp T)).2 = .raised e) : (step S o (.delCp T)).1 = o :=
  stepDelCp_raised S o T (by rw [show (stepDelCp S o T).2 = _ from h]; rfl)

/-- **`set_range` with a reversed range is an `AssertionError` and changes nothing** (any state). -/
theorem HIST_setRange_reversed (S : Spl) (o : Incomplete) (lo hi : Rat) (h : hi < lo) :
    step S o (.setRange (some (lo, hi))) = (o, .raised .assertion) := by
  have : baseInitOk (some (lo, hi)) = false := by
    simp only [baseInitOk, decide_eq_false_iff_not, ge_iff_le, not_le]; exact h
  simp only [step, stepSetRange, this, if_true]

/-- **The calls that never raise**: `del_ND_Cp()`, `del_ND_H_ref()`, `del_ND_S_ref()`, every getter (its exception is its
*outcome*: the state machine records it as a value of type `Out`) on any state; `copy()` on a fresh object. -/
theorem HIST_never_raise (S : Spl) (o : Incomplete) :
    (step S o (.delCp none)).2.isRaised = false ∧ (step S o .delH).2.isRaised = false ∧
    (step S o .delS).2.isRaised = false ∧ (∀ q T, (step S o (.eval q T)).2.isRaised = false) ∧
    (FreshS S o → (step S o .copy).2.isRaised = false) :=
  ⟨rfl, rfl, rfl, fun _ _ => rfl, fun hf => (freshS_copy hf).2.1⟩

/-- **HIST_failed_op_state.** Whatever call raises on a fresh object, with whatever exception: the object afterwards holds
exactly the data it held, answers every getter at every temperature exactly as before, and is fresh.  It is moreover
*literally* the object it was (same `_correlation`), except after a refused `set_range`, which has rebuilt `_correlation`
from the restored range: there it is `_setup_correlation()` of the object it was (which differs from it only in the
reference values the table correlation carries for a withdrawn `ND_H_ref` / `ND_S_ref`, that are never asked for). -/
theorem HIST_failed_op_state {S : Spl} {o : Incomplete} (hf : FreshS S o) (op : Op) (e : Exc)
    (h : (step S o op).2 = .raised e) :
    held (step S o op).1 = held o ∧ SameValues o (step S o op).1 ∧ FreshS S (step S o op).1 ∧
      ((step S o op).1 = o ∨ (∃ r, op = .setRange r) ∧ (step S o op).1 = (setup S o).1) := by
  have hr : (step S o op).2.isRaised = true := by rw [h]; rfl
  have same : (step S o op).1 = o → held (step S o op).1 = held o ∧ SameValues o (step S o op).1 ∧
      FreshS S (step S o op).1 ∧ ((step S o op).1 = o ∨ (∃ r, op = .setRange r) ∧ (step S o op).1 = (setup S o).1) :=
    fun e => by rw [e]; exact ⟨rfl, fun _ _ => rfl, hf, Or.inl rfl⟩
  cases op with
  | update d ow => exact same ((freshS_update hf d ow).2 hr)
  | delCp T => exact same (HIST_failed_delCp_unchanged S o T e h)
  | delH => cases h
  | delS => cases h
  | copy => have := (freshS_copy hf).2.1; simp only [step] at hr; rw [hr] at this; cases this
  | eval q T => cases h
  | setRange r =>
    rcases (freshS_setRange hf r).2 hr with ⟨h1, h2, h3⟩ | h4
    · exact ⟨h1, h2, (freshS_setRange hf r).1, Or.inr ⟨⟨r, rfl⟩, h3⟩⟩
    · exact same h4

/-! ### HIST_eval_pure -/

/-- **Evaluation never changes the state** (any state, getter, temperature). -/
theorem HIST_eval_pure (S : Spl) (o : Incomplete) (q : Getter) (T : Rat) :
    (step S o (.eval q T)).1 = o ∧ (step S o (.eval q T)).2 = .value (getter q o T) := ⟨rfl, rfl⟩

/-- **Interleaving evaluations anywhere in a history changes nothing later**: two histories that agree once their
evaluations are deleted lead to the same object — so every later call (in particular every later evaluation) has the same
outcome and leaves the same state.  ("A memo must not outlive the data": whatever an evaluation computes, nothing of it is
seen by a later call.) -/
theorem HIST_eval_interleaving (S : Spl) (o : Incomplete) (ops₁ ops₂ : List Op)
    (h : ops₁.filter (fun op => !op.isEval) = ops₂.filter (fun op => !op.isEval)) :
    run S o ops₁ = run S o ops₂ ∧ (∀ rest, trace S (run S o ops₁) rest = trace S (run S o ops₂) rest) := by
  have : run S o ops₁ = run S o ops₂ := by rw [← run_filter S ops₁, ← run_filter S ops₂, h]
  exact ⟨this, fun rest => by rw [this]⟩

/-! ### HIST_history_independent -/

/-- **HIST_history_independent.** Two histories, from any two constructed objects, that end with the same held data
(reference values, table as a set of points, `T_ref`, range) end with objects that give the same outcome for every getter
at every temperature. -/
theorem HIST_history_independent {S : Spl} {c₁ c₂ : Corr} {o₁ o₂ : Incomplete}
    (h₁ : construct S c₁ = .ok o₁) (h₂ : construct S c₂ = .ok o₂) (ops₁ ops₂ : List Op)
    (h : SameData (run S o₁ ops₁) (run S o₂ ops₂)) : SameValues (run S o₁ ops₁) (run S o₂ ops₂) :=
  freshS_sameValues (freshS_run ops₁ (construct_ok h₁).1) (freshS_run ops₂ (construct_ok h₂).1) h

/-- in particular: the object after a history answers like the object constructed directly from the data it holds -/
theorem HIST_history_vs_constructor {S : Spl} {c : Corr} {o : Incomplete} (h : construct S c = .ok o) (ops : List Op) :
    ∃ o', construct S (held (run S o ops)) = .ok o' ∧ SameValues (run S o ops) o' := by
  obtain ⟨o', h1, -, h3⟩ := (HIST_invariant h ops).1
  exact ⟨o', h1, h3⟩

/-- **Corollary for `GroupLibrary.Update` / `Estimate`**: an estimate (`ThermochemGroupAdditive`, C06) made from
correlations that went through histories is constructed exactly when the one made from freshly constructed correlations
holding the same data is, has the same range, and gives the same `Cp/R`, `H/RT`, `S/R`, `G/RT` at every temperature. -/
theorem HIST_estimate_independent {S : Spl} {cs cs' : List (Incomplete × Rat)}
    (h : List.Forall₂ (fun a b => FreshS S a.1 ∧ FreshS S b.1 ∧ SameData a.1 b.1 ∧ a.2 = b.2) cs cs')
    {e : Estimate} (hmk : Estimate.mk cs = .ok e) :
    ∃ e', Estimate.mk cs' = .ok e' ∧ e'.range = e.range ∧
      ∀ T, e.CpoR T = e'.CpoR T ∧ e.HoRT T = e'.HoRT T ∧ e.SoR T = e'.SoR T ∧ e.GoRT T = e'.GoRT T :=
  estimate_congr (h.imp fun _ _ hab => ⟨freshS_sameValues hab.1 hab.2.1 hab.2.2.1, hab.2.2.1.range, hab.2.2.2⟩) hmk

/-! ### the state machine refines the C13 model -/

/-- **`update` here is C13's `update`**: projected to the C13 state (held data, "`_correlation` exists"), the state after the
call is `Merge.update`'s result — so every C13 theorem about `update` speaks about this state machine. -/
theorem HIST_update_refines_C13 {S : Spl} {o : Incomplete} (hf : FreshS S o) (d : Corr) (ow : Bool) :
    toObj (step S o (.update d ow)).1 = (Merge.update (rawEvalOf S) (toObj o) d ow).1 :=
  update_refines hf d ow

/-! ### the interpolant of the witnesses, and what a call raised -/

def exS : Spl := fun _ => exIp

def Res.exc : Res → Option Exc
  | .raised e => some e
  | _ => none

def isOk {α : Type} (r : Except Err α) : Bool := match r with | .ok _ => true | .error _ => false

/-! ### the translation of reference values inside `update` is the C05 evaluation -/

/-- **the translation of reference values inside `update`, full statement**: C13's evaluation of the temporary correlation
(`Merge.getH/getS` with `rawEvalOf S` for "away from the reference temperature" and the reference value itself at it) is
the C05/C06 getter of the constructed temporary correlation, for every temperature.  False as it stands: see
`HIST_translation_full_fails`. -/
def HIST_translation_is_C05_full : Prop :=
  ∀ (S : Spl) (c : Corr) (o : Incomplete) (T : Rat), construct S c = .ok o →
    Merge.getH (rawEvalOf S) c T = liftOut (o.HoRT T).1 ∧ Merge.getS (rawEvalOf S) c T = liftOut (o.SoR T).1

/-- **…proved away from the reference temperature and from 0 K**, for every interpolant family (no assumption on SciPy):
value, `IncompleteDataError` outside the range, missing reference value — all as the C05/C06 model of the constructed object
says. -/
theorem HIST_translation_is_C05_partial {S : Spl} {c : Corr} {o : Incomplete} (hc : construct S c = .ok o) (T : Rat)
    (hT : T ≠ c.Tref) (h0 : T ≠ 0) :
    Merge.getH (rawEvalOf S) c T = liftOut (o.HoRT T).1 ∧ Merge.getS (rawEvalOf S) c T = liftOut (o.SoR T).1 :=
  ⟨getH_is_thermo hc T (fun h => absurd h h0) (fun h => absurd h hT), getS_is_thermo hc T (fun h => absurd h hT)⟩

/-- **…and at the reference temperature** when the interpolant's integrals are additive (`Interp.Good`, assumption A-spline
of C05) and the range of the table correlation starts above 0 K: there C13 returns the reference value itself
(assumption A-ref, stated in the header of `PGA/Model/Merge.lean`), and so does C05 (`C05_ref_enthalpy`, `C05_ref_entropy`). -/
theorem HIST_reference_is_C05 {S : Spl} {c : Corr} {o : Incomplete} (hc : construct S c = .ok o)
    (hg : (S (sortPts c.cp)).Good) (hpos : ∀ d, o.corr = some d → 0 < d.range.1) :
    Merge.getH (rawEvalOf S) c c.Tref = liftOut (o.HoRT c.Tref).1 ∧
    Merge.getS (rawEvalOf S) c c.Tref = liftOut (o.SoR c.Tref).1 := by
  have key : ∀ d, o.corr = some d → d.HoRT c.Tref = .ok d.Href ∧ d.SoR c.Tref = .ok d.Sref ∧ c.Tref ≠ 0 := by
    intro d hd
    cases hcp : c.cp with
    | nil =>
      obtain ⟨hf, hh, -, -⟩ := construct_ok hc
      have : o.cp = [] := by have := congrArg CorrOf.cp hh; simp only [held] at this; rw [this, hcp]
      rw [hf.nocp this] at hd; cases hd
    | cons p ps =>
      obtain ⟨d', hmk, ho⟩ := construct_cons hc hcp
      rw [ho] at hd
      simp only [Option.some.injEq] at hd
      subst hd
      have hb := RawData.mk_built hmk
      have hp := hpos d' (by rw [ho])
      have h1 := C05_ref_enthalpy hmk hg hp
      have h2 := C05_ref_entropy hmk hg hp
      rw [← hb.href] at h1
      rw [← hb.sref] at h2
      have hz : c.Tref ≠ 0 := by
        have : d'.range.1 ≤ c.Tref := by have := hb.lo_le_ref; rwa [hb.tref] at this
        exact ne_of_gt (lt_of_lt_of_le hp this)
      exact ⟨h1, h2, hz⟩
  exact ⟨getH_is_thermo hc c.Tref (fun _ => rfl) (fun _ _ d hd => (key d hd).1),
         getS_is_thermo hc c.Tref (fun _ d hd => ⟨(key d hd).2.1, (key d hd).2.2⟩)⟩

def witT0 : Corr := ⟨some 1, some 2, [(300, 1)], 300, some (-10, 600)⟩

/-- **the excluded point**: at 0 K inside the range and away from `T_ref` the C13 model returns a number (`x / 0 = 0` in
`Rat`) where the C05 model — and the code: `ThermochemIncomplete(1, 2, {300: 1}, 300, (-10, 600)).get_HoRT(0.0)` raises
`ZeroDivisionError`, and so does `update` into a correlation with `T_ref = 0` — has the division by zero.  The state machine
takes `update` from C13, so its `update` is exact only for target reference temperatures other than 0 K (assumption "positive
temperatures" of C05/C06). -/
theorem HIST_translation_full_fails : ¬ HIST_translation_is_C05_full := by
  intro h
  have hw : (match construct exS witT0 with
      | .ok o => decide (Merge.getH (rawEvalOf exS) witT0 0 = .ok 0) && decide (liftOut (o.HoRT 0).1 = .error .zeroDiv)
      | .error _ => false) = true := by decide +kernel
  cases hc : construct exS witT0 with
  | error e => rw [hc] at hw; cases hw
  | ok o =>
    rw [hc] at hw
    simp only [Bool.and_eq_true, decide_eq_true_eq] at hw
    have := (h exS witT0 o 0 hc).1
    rw [hw.1, hw.2] at this
    cases this

/-! ### the methods as they were before the repairs H2, H3 -/

def witH2 : Corr := ⟨some 1, some 2, [(300, 1), (400, 2), (500, 3)], 450, none⟩

/-- the facts about the unrepaired `del_ND_Cp(500)` on `witH2`: `ValueError`; the point is gone, `_correlation` is gone, the
constructor refuses the data the object now holds, `get_HoRT(350)` is an `AttributeError` -/
def witH2Facts : Bool :=
  match construct exS witH2 with
  | .error _ => false
  | .ok o =>
    let r := delCpOld exS o 500
    decide (r.2.exc = some .value) && decide (r.1.cp = [(300, 1), (400, 2)]) && r.1.corr.isNone &&
      !isOk (construct exS (held r.1)) && decide ((getter .h r.1 350).1 = .error .internal) &&
      -- the repaired method: same exception, nothing changed
      decide ((step exS o (.delCp (some 500))).2.exc = some .value) &&
      decide ((step exS o (.delCp (some 500))).1.cp = [(300, 1), (400, 2), (500, 3)]) &&
      decide ((getter .h (step exS o (.delCp (some 500))).1 350).1 = (getter .h o 350).1)

/-- **H2: before the repair a refused `del_ND_Cp(T)` left a broken object** — fresh before, not fresh afterwards (the
constructor refuses what it holds; every getter is an `AttributeError`). -/
theorem HIST_delCp_old_breaks :
    ∃ o T e, FreshS exS o ∧ (delCpOld exS o T).2 = .raised e ∧ ¬ Fresh exS (delCpOld exS o T).1 ∧
      (getter .h (delCpOld exS o T).1 350).1 = .error .internal := by
  have hw : witH2Facts = true := by decide +kernel
  unfold witH2Facts at hw
  cases hc : construct exS witH2 with
  | error e => rw [hc] at hw; cases hw
  | ok o =>
    rw [hc] at hw
    simp only [Bool.and_eq_true, decide_eq_true_eq, Bool.not_eq_true'] at hw
    obtain ⟨⟨⟨⟨⟨⟨⟨h1, -⟩, -⟩, h4⟩, h5⟩, -⟩, -⟩, -⟩ := hw
    refine ⟨o, 500, .value, (construct_ok hc).1, ?_, ?_, h5⟩
    · cases hr : (delCpOld exS o 500).2 with
      | raised e => rw [hr] at h1; simp only [Res.exc, Option.some.injEq] at h1; rw [h1]
      | done => rw [hr] at h1; cases h1
      | value v => rw [hr] at h1; cases h1
    · rintro ⟨o', ho', -, -⟩
      rw [ho'] at h4
      cases h4

def witH3 : Corr := ⟨some 1, some 2, [], 350, some (200, 600)⟩

def witH3Facts : Bool :=
  match construct exS witH3 with
  | .error _ => false
  | .ok o =>
    let r := setRangeOld exS o (some (600, 200))
    decide (r.2.exc = none) && decide (r.1.range = some (600, 200)) && !isOk (construct exS (held r.1)) &&
      decide ((step exS r.1 .copy).2.exc = some .assertion)

/-- **H3: before the repair `set_range` accepted a reversed range on a correlation without a table** — the call returned,
and the object then held data the constructor refuses (`copy()` raised `AssertionError`): not fresh. -/
theorem HIST_setRange_old_breaks :
    ∃ o r, FreshS exS o ∧ (setRangeOld exS o r).2.exc = none ∧ ¬ Fresh exS (setRangeOld exS o r).1 := by
  have hw : witH3Facts = true := by decide +kernel
  unfold witH3Facts at hw
  cases hc : construct exS witH3 with
  | error e => rw [hc] at hw; cases hw
  | ok o =>
    rw [hc] at hw
    simp only [Bool.and_eq_true, decide_eq_true_eq, Bool.not_eq_true'] at hw
    obtain ⟨⟨⟨h1, -⟩, h3⟩, -⟩ := hw
    refine ⟨o, some (600, 200), (construct_ok hc).1, h1, ?_⟩
    rintro ⟨o', ho', -, -⟩
    rw [ho'] at h3
    cases h3

/-! ### non-vacuity: a concrete history with every kind of call, calls that raise included -/

def exC : Corr := ⟨some (-10), some 30, [(400, 4), (300, 3), (500, 5)], 350, some (200, 1000)⟩
def exD : Corr := ⟨some 7, none, [(600, 6), (400, 4)], 350, some (250, 1200)⟩
def exConflict : Corr := ⟨none, none, [(300, 9)], 350, none⟩

def exOps : List Op :=
  [.eval .h 350, .update exD true, .eval .g 450, .update exConflict false,        -- refused: ReadOnlyDataError
   .delCp (some 999),                                                           -- KeyError
   .delCp (some 600), .setRange (some (320, 1000)),                              -- refused: table outside
   .setRange (some (900, 100)),                                                  -- refused: reversed
   .delH, .setRange (some (250, 800)), .copy, .delS, .delCp none, .eval .cp 350, .update exC false]

def excs (S : Spl) (o : Incomplete) (ops : List Op) : List (Option Exc) := (trace S o ops).map (·.2.exc)

/-- hypotheses of `HIST_invariant` / `HIST_history_independent` / `HIST_failed_op_state`: the constructor accepts `exC`; in
the history `exOps` exactly the four calls announced raise, with the announced exception classes; the final object holds
the data of `exC` again but for the range, which has grown -/
example : (match construct exS exC with
    | .error _ => false
    | .ok o =>
      decide (excs exS o exOps = [none, none, none, some .readOnly, some .key, none, some .value, some .assertion, none, none,
        none, none, none, none, none]) &&
      decide ((run exS o exOps).cp = [(400, 4), (300, 3), (500, 5)]) && decide ((run exS o exOps).range = some (200, 1000)) &&
      decide ((run exS o exOps).Href = some (-10)) && decide ((run exS o (exOps.take 10)).Href = none)) = true := by
  decide +kernel

/-- hypothesis of `HIST_history_independent`: two different histories ending with the same data (in another dictionary
order) -/
example : (match construct exS exC, construct exS ⟨none, some 30, [(500, 5)], 350, some (300, 600)⟩ with
    | .ok o₁, .ok o₂ =>
      let a := run exS o₁ [.eval .s 400, .setRange (some (100, 2000)), .setRange (some (200, 1000))]
      let b := run exS o₂ [.update ⟨some (-10), none, [(300, 3), (400, 4)], 350, some (200, 1000)⟩ false, .copy]
      decide (a.cp = [(400, 4), (300, 3), (500, 5)]) && decide (b.cp = [(500, 5), (300, 3), (400, 4)]) &&
      decide (a.Href = b.Href) && decide (a.Sref = b.Sref) && decide (a.Tref = b.Tref) && decide (a.range = b.range) &&
      decide (getter .h a 450 = getter .h b 450)
    | _, _ => false) = true := by
  decide +kernel

/-- hypothesis of `HIST_eval_interleaving` -/
example : exOps.filter (fun op => !op.isEval) = (exOps ++ [Op.eval .h 1, Op.eval .s 2]).filter (fun op => !op.isEval) := by
  rfl

end PGA.CorrHistory
