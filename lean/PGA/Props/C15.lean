import PGA.Proofs.History
/-!
# C15 — results do not depend on what the library object did before

Property theorems about the model `PGA.Model.History` (libraries with their remembered `name`, estimates, the three
process-wide registries; `Load`, `GetDescriptors`, `Estimate`, evaluation with/without the elemental reference,
`Update`).  Vocabulary in `PGA/Spec/History.lean`: `Decl` (the declared inputs of an operation: which files, merged in
which order, which molecule / descriptor mapping / temperature / quantity), `outOf` (the output those inputs determine),
`declared` (reads the declared inputs of an operation off the ghost fields of a state), `lastDecomp`.

All theorems hold for every `World` (every behaviour of the YAML loader, RDKit, the scheme matcher, the thermochemistry
and the merge, as functions of what they are given) and every history of any length.
-/
namespace PGA.History
variable {Scheme Data Val : Type} (W : World Scheme Data Val) (ps sc : Nat)

/-- **T1** The output of the last operation of any history is a function of that operation's declared inputs only:
for `Load` the files; for `GetDescriptors` the library's scheme (the files it was loaded from) and the molecule; for
`Estimate` the library data (files and merges) and the descriptor mapping; for an evaluation the library data at
creation and now, the mapping, the temperature and the quantity — and, only if the elemental reference is requested,
the molecule name the estimate remembered (see T3); for `Update` the two libraries' data (the output: the error class if it is refused, and the destination's data afterwards —
unchanged if it is refused).  Handles of new objects are erased.  `f1Safe`: F1 (`Estimate` before any `GetDescriptors` raises `AttributeError`) is excluded unless repaired. -/
theorem C15_output_depends_on_declared_inputs (h : List Op) (op : Op) (dcl : Decl)
    (hd : declared (after W (init ps sc : State Scheme Data) h) op = some dcl)
    (hf : f1Safe W (after W (init ps sc : State Scheme Data) h) op) :
    some ((step W (after W (init ps sc : State Scheme Data) h) op).2.erase) = outOf W ps sc dcl :=
  output_of_declared W ps sc _ (inv_reachable W ps sc h) op dcl hd hf

/-- **T1, two-history form**: the same operation with the same declared inputs gives the same output after any two
histories. -/
theorem C15_history_independent (h₁ h₂ : List Op) (op₁ op₂ : Op) (dcl : Decl)
    (hd₁ : declared (after W (init ps sc : State Scheme Data) h₁) op₁ = some dcl)
    (hd₂ : declared (after W (init ps sc : State Scheme Data) h₂) op₂ = some dcl)
    (hf₁ : f1Safe W (after W (init ps sc : State Scheme Data) h₁) op₁)
    (hf₂ : f1Safe W (after W (init ps sc : State Scheme Data) h₂) op₂) :
    (step W (after W (init ps sc : State Scheme Data) h₁) op₁).2.erase =
    (step W (after W (init ps sc : State Scheme Data) h₂) op₂).2.erase := by
  have e₁ := C15_output_depends_on_declared_inputs W ps sc h₁ op₁ dcl hd₁ hf₁
  have e₂ := C15_output_depends_on_declared_inputs W ps sc h₂ op₂ dcl hd₂ hf₂
  exact Option.some.inj (e₁.trans e₂.symm)

/-- **T1 for `Load`, spelled out**: after any history, loading library `L` (by name or by path) yields what the files
say — whatever the data-directory cache holds. -/
theorem C15_load_first_or_later (h : List Op) (L : LibName) (bp : Bool) :
    (step W (after W (init ps sc : State Scheme Data) h) (.load L bp)).2.erase =
    (step W (init ps sc : State Scheme Data) (.load L bp)).2.erase :=
  C15_history_independent W ps sc h [] (.load L bp) (.load L bp) (.load L) rfl rfl trivial trivial

/-- **T2 (frame), one operation**: no operation other than a merge *into* library `i` changes its data or provenance;
its scheme and origin never change; its remembered name changes only by a decomposition with it. -/
theorem C15_frame_library (s : State Scheme Data) (op : Op) (i : Nat) (l : Lib Scheme Data) (hl : s.libs[i]? = some l) :
    ∃ l', (step W s op).1.libs[i]? = some l' ∧ l'.scheme = l.scheme ∧ l'.origin = l.origin ∧
      ((∀ src ow, op ≠ .merge i src ow) → l'.data = l.data ∧ l'.prov = l.prov) ∧
      ((∀ m, op ≠ .decompose i m) → l'.name = l.name) :=
  frame_lib W s op i l hl

/-- **T2, histories**: a history that contains no merge into library `i` leaves its data exactly as they were. -/
theorem C15_data_changes_only_by_merge (s : State Scheme Data) (h : List Op) (i : Nat) (l : Lib Scheme Data)
    (hl : s.libs[i]? = some l) (hm : ¬ mergesInto h i) :
    ∃ l', (after W s h).libs[i]? = some l' ∧ l'.scheme = l.scheme ∧ l'.data = l.data ∧ l'.prov = l.prov := by
  obtain ⟨l', h1, h2, _, h4⟩ := after_lib W s h i l hl
  exact ⟨l', h1, h2, h4 fun src ow hmem => hm ⟨src, ow, hmem⟩⟩

/-! ### A merge that is refused (finding FA1, repaired)

Since the repair `GroupLibrary.Update` is all-or-nothing (it finds out on copies whether every group merges before it stores
anything; `PGA.Merge.C13_libUpdate_atomic` proves that of the model of the method).  The state machine mirrors it: a merge is
refused (`mergeF … = .error c`) *or* yields the destination's new data.  The harness checks the real `Update` against this
on every refused merge of every history (`rejected_merge` in harness/c15.py: per-group digests and the uncertainty block
before and after). -/

/-- the merge `dst.Update(src, overwrite)` is refused in state `s` -/
def refusedIn (W : World Scheme Data Val) (s : State Scheme Data) (dst src : Nat) (ow : Bool) : Prop :=
  ∃ a b c, s.libs[dst]? = some a ∧ s.libs[src]? = some b ∧ W.mergeF a.data b.data ow = .error c

/-- **T2 for a refused merge, full statement** (every world, any state): a merge that raises changes nothing at all — no
library's data, provenance or remembered name (the destination's included), no estimate, no registry: the state afterwards
*is* the state before; the output is the error class and the destination's data as they were. -/
theorem C15_rejected_merge_full (s : State Scheme Data) (dst src : Nat) (ow : Bool) (a b : Lib Scheme Data)
    (ha : s.libs[dst]? = some a) (hb : s.libs[src]? = some b) (c : Code) (hrej : W.mergeF a.data b.data ow = .error c) :
    step W s (.merge dst src ow) = (s, .merged a.data (some c)) :=
  by simp only [step, ha, hb, hrej]

/-- **T2 for a refused merge, library by library**: a merge that raises changes no library's data. -/
theorem C15_rejected_merge_frame (s : State Scheme Data) (dst src : Nat) (ow : Bool) (hrej : refusedIn W s dst src ow)
    (i : Nat) (l : Lib Scheme Data) (hl : s.libs[i]? = some l) :
    ∃ l' : Lib Scheme Data, (step W s (.merge dst src ow)).1.libs[i]? = some l' ∧ l'.data = l.data ∧ l'.prov = l.prov := by
  obtain ⟨a, b, c, ha, hb, hm⟩ := hrej
  rw [C15_rejected_merge_full W s dst src ow a b ha hb c hm]
  exact ⟨l, hl, rfl, rfl⟩

/-- **A library that merely attempted a merge is a library that did nothing**: a refused merge anywhere in a history can
be deleted — the final state and the outputs of all later operations are those of the history without it. -/
theorem C15_refused_merge_invisible (s : State Scheme Data) (h₁ h₂ : List Op) (dst src : Nat) (ow : Bool)
    (hrej : refusedIn W (after W s h₁) dst src ow) :
    after W s (h₁ ++ .merge dst src ow :: h₂) = after W s (h₁ ++ h₂) ∧
    (run W (after W s h₁) (.merge dst src ow :: h₂)).2.tail = (run W (after W s h₁) h₂).2 := by
  obtain ⟨a, b, c, ha, hb, hm⟩ := hrej
  have hs := C15_rejected_merge_full W (after W s h₁) dst src ow a b ha hb c hm
  constructor
  · rw [after_append, after_append, after_cons, hs]
  · simp only [run, hs, List.tail_cons]

/-- the per-library statement about the merge step as it was before the repair (`stepMergeOld`: `mergeOld` yields the
destination's data afterwards also when it raises) -/
def C15_rejected_merge_old_full (mergeOld : Data → Data → Bool → Data × Option Code) : Prop :=
  ∀ (s : State Scheme Data) (dst src : Nat) (ow : Bool) (a b : Lib Scheme Data),
    s.libs[dst]? = some a → s.libs[src]? = some b → (mergeOld a.data b.data ow).2 ≠ none →
    ∀ (i : Nat) (l : Lib Scheme Data), s.libs[i]? = some l →
      ∃ l' : Lib Scheme Data, (stepMergeOld (Val := Val) mergeOld s dst src ow).1.libs[i]? = some l' ∧ l'.data = l.data

/-- **FA1 on the model.** For the method as it was — a merge that keeps what it took over before it raised (BensonGA after
the refused `Update(GRWSurface2018)` held 210 groups instead of 208) — the statement fails: two libraries, one refused
merge, the destination's data have changed. -/
theorem C15_rejected_merge_old_fails :
    ¬ C15_rejected_merge_old_full (Scheme := Unit) (Data := Nat) (Val := Nat) (fun a b _ => (a + b, some 0)) := by
  intro h
  let s : State Unit Nat := { libs := [⟨(), 1, none, 0, .loaded 0⟩, ⟨(), 2, none, 1, .loaded 1⟩], ests := [], datadir := none, propsets := 0, schemas := 0 }
  obtain ⟨l', h1, h2⟩ := h s 0 1 false ⟨(), 1, none, 0, .loaded 0⟩ ⟨(), 2, none, 1, .loaded 1⟩ rfl rfl (by simp) 0 _ rfl
  simp [stepMergeOld, s] at h1
  subst h1
  simp at h2

/-- a world that merges with `overwrite` and refuses without -/
def refusingWorld : World Unit Nat Nat :=
  { env := 0, f1Fixed := true, loadF := fun _ _ _ L => .ok ((), L), decompF := fun _ m => .ok m, estF := fun _ _ _ => none,
    evalF := fun _ now _ _ _ _ => .ok now, mergeF := fun a b ow => if ow then .ok (a + b) else .error 0 }

/-- non-vacuity: after two loads the merge without `overwrite` is refused (and the one with `overwrite` is not: it changes
the destination's data to 3 + 5) -/
example : refusedIn refusingWorld (after refusingWorld (init 0 0) [.load 3 false, .load 5 false]) 0 1 false :=
  ⟨⟨(), 3, none, 3, .loaded 3⟩, ⟨(), 5, none, 5, .loaded 5⟩, 0, rfl, rfl, rfl⟩
example : ((after refusingWorld (init 0 0 : State Unit Nat) [.load 3 false, .load 5 false, .merge 0 1 false, .merge 0 1 true]).libs.map (·.data)) = [8, 5] := rfl
example : ((after refusingWorld (init 0 0 : State Unit Nat) [.load 3 false, .load 5 false, .merge 0 1 false]).libs.map (·.prov)) = [.loaded 3, .loaded 5] := rfl

/-- **T2**: an estimate, once made, is never changed (its captured name, snapshot and mapping). -/
theorem C15_frame_estimate (s : State Scheme Data) (h : List Op) (e : Nat) (est : Est Data) (he : s.ests[e]? = some est) :
    (after W s h).ests[e]? = some est :=
  after_est W s h e est he

/-- **T2**: the property-set table and the schema repository never change; the data-directory cache only goes from
empty to the directory the environment designates, by a load by builtin name. -/
theorem C15_frame_registries (s : State Scheme Data) (op : Op) :
    (step W s op).1.propsets = s.propsets ∧ (step W s op).1.schemas = s.schemas ∧
    ((step W s op).1.datadir = s.datadir ∨
      (s.datadir = none ∧ (step W s op).1.datadir = some W.env ∧ ∃ L, op = .load L false)) :=
  (step_frame W s op).1

/-- **T3a**: the name a library remembers is the last molecule decomposed with it — successfully or not. -/
theorem C15_name_is_last_decomposed (s : State Scheme Data) (h : List Op) (i : Nat) (hi : i < s.libs.length) :
    nameOf (after W s h) i = (match lastDecomp h i with | some m => some m | none => nameOf s i) :=
  name_is_last_decomposed W s h i hi

/-- **T3** The elemental-reference evaluation depends on the last molecule decomposed with the estimate's library
before the estimate was made, and on nothing else in the history: for any history `h₁`, an estimate made then, and
any further history `h₂`, the evaluation with `S_elements=True` is the external evaluation applied to the estimate's
snapshot, the library's current data, the mapping, `T`, `q`, and the name `lastDecomp h₁ i`. -/
theorem C15_elemental_uses_last_decomposed (s₀ : State Scheme Data) (i : Nat) (hi : i < s₀.libs.length)
    (h₁ h₂ : List Op) (d : Descr) (fm : Mol) (e : Nat) (T : Temp) (q : Qty)
    (hest : (step W (after W s₀ h₁) (.estimate i d fm)).2 = .estimated e) :
    ∃ est l, (after W (step W (after W s₀ h₁) (.estimate i d fm)).1 h₂).ests[e]? = some est ∧
      (after W (step W (after W s₀ h₁) (.estimate i d fm)).1 h₂).libs[i]? = some l ∧
      est.name = (match lastDecomp h₁ i with | some m => some m | none => nameOf s₀ i) ∧
      (step W (after W (step W (after W s₀ h₁) (.estimate i d fm)).1 h₂) (.evaluate e T q true)).2 =
        .value (W.evalF est.snap l.data d T q (some est.name)) := by
  obtain ⟨l₁, hl₁, hcap⟩ := estimate_captures W (after W s₀ h₁) i d fm e hest
  have he := after_est W _ h₂ e _ hcap
  have hlen : i < (after W (step W (after W s₀ h₁) (.estimate i d fm)).1 h₂).libs.length := by
    rw [← after_cons, ← after_append]
    exact Nat.lt_of_lt_of_le hi (after_libs_length_le W s₀ _)
  have hl := List.getElem?_eq_getElem hlen
  refine ⟨_, _, he, hl, ?_, ?_⟩
  · have := name_is_last_decomposed W s₀ h₁ i hi
    simp only [nameOf, hl₁, Option.bind_some] at this
    exact this
  · exact evaluate_out W _ e _ _ T q true he hl

/-! ### F26: "every property of an estimate made *for a molecule*" is false of the code -/

/-- the full statement: the elemental reference of an estimate is that of the molecule its mapping was obtained for -/
def C15_full (W : World Scheme Data Val) (ps sc : Nat) : Prop :=
  ∀ (h : List Op) (e : Nat) (T : Temp) (q : Qty) (est : Est Data) (l : Lib Scheme Data),
    (after W (init ps sc : State Scheme Data) h).ests[e]? = some est →
    (after W (init ps sc : State Scheme Data) h).libs[est.lib]? = some l →
    (step W (after W (init ps sc : State Scheme Data) h) (.evaluate e T q true)).2 =
      .value (W.evalF est.snap l.data est.descr T q (some (some est.forMol)))

/-- a world in which the elemental term is visible: an evaluation returns the remembered molecule -/
def witnessWorld : World Nat Nat Nat where
  env := 0
  f1Fixed := false
  loadF := fun _ _ _ L => .ok (L, L)
  decompF := fun _ m => .ok m
  estF := fun _ _ _ => none
  evalF := fun _ _ _ _ _ el => .ok (match el with | some (some m) => m | _ => 0)
  mergeF := fun a _ _ => .ok a

/-- load; decompose A (=1); decompose B (=2); estimate from A's mapping -/
def witnessHistory : List Op := [.load 0 false, .decompose 0 1, .decompose 0 2, .estimate 0 1 1]

/-- the witness on the model (`witnessHistory`, then an evaluation with the elemental reference): the estimate made
from A's descriptors evaluates its elemental reference with B, the last molecule decomposed -/
theorem C15_F26_witness :
    (step witnessWorld (after witnessWorld (init 0 0) witnessHistory) (.evaluate 0 0 0 true)).2 =
      (.value (.ok 2) : Out Nat Nat) := rfl

/-- the full statement is false (F26) -/
theorem C15_full_false : ¬ C15_full witnessWorld 0 0 := by
  intro hfull
  have h := hfull witnessHistory 0 0 0 ⟨0, 1, some 2, 0, .loaded 0, 1⟩ ⟨0, 0, some 2, 0, .loaded 0⟩ rfl rfl
  rw [C15_F26_witness] at h
  simp [witnessWorld] at h

/-- **partial**: the full statement holds exactly under the decidable guard "the last molecule decomposed with the
library when the estimate was made is the molecule the mapping was obtained for" (`est.name = some est.forMol`). -/
theorem C15_elemental_partial (s : State Scheme Data) (e : Nat) (T : Temp) (q : Qty) (est : Est Data)
    (l : Lib Scheme Data) (he : s.ests[e]? = some est) (hl : s.libs[est.lib]? = some l)
    (hguard : est.name = some est.forMol) :
    (step W s (.evaluate e T q true)).2 = .value (W.evalF est.snap l.data est.descr T q (some (some est.forMol))) := by
  simp only [step, he, hl, hguard]
  rfl

/-- F1 on the model: while `name` is not initialised, `Estimate` before any decomposition ends in `AttributeError`
(a dependence on the history that the repair of F1 removes: with `f1Fixed` the guard `f1Safe` is always true). -/
theorem C15_F1_estimate_before_decompose (s : State Scheme Data) (i : Nat) (d : Descr) (fm : Mol) (l : Lib Scheme Data)
    (hl : s.libs[i]? = some l) (hn : l.name = none) (hfix : W.f1Fixed = false) (hok : W.estF s.propsets l.data d = none) :
    (step W s (.estimate i d fm)).2 = .failed .attribute := by
  simp [step, hl, hok, hn, hfix]

theorem C15_f1Safe_of_fixed (s : State Scheme Data) (op : Op) (hfix : W.f1Fixed = true) : f1Safe W s op := by
  cases op <;> simp only [f1Safe, hfix, true_or]

/-! ### non-vacuity -/

/-- a history in the witness world with two libraries that goes through every kind of operation -/
def sampleHistory : List Op :=
  [.load 3 false, .load 5 true, .decompose 0 7, .estimate 0 7 7, .merge 0 1 false, .decompose 1 9, .evaluate 0 4 2 false]

example : declared (after witnessWorld (init 0 0) sampleHistory) (.evaluate 0 4 2 true)
    = some (.evaluate (.loaded 3) (.merged (.loaded 3) (.loaded 5) false) 7 4 2 (some (some 7))) := rfl
example : f1Safe witnessWorld (after witnessWorld (init 0 0) sampleHistory) (.estimate 1 9 9) :=
  Or.inr ⟨⟨5, 5, some 9, 5, .loaded 5⟩, rfl, rfl⟩
example : lastDecomp sampleHistory 0 = some 7 := rfl
example : nameOf (after witnessWorld (init 0 0) sampleHistory) 1 = some 9 := rfl
example : ¬ mergesInto sampleHistory 1 := by
  rintro ⟨src, ow, h⟩
  simp [sampleHistory] at h
example : (after witnessWorld (init 0 0 : State Nat Nat) sampleHistory).datadir = some 0 := rfl

end PGA.History
