import PGA.Proofs.ThermoRange
import PGA.Proofs.ThermoDefects
import PGA.Gen.ThermoRanges
/-!
# C06 — no property is returned outside the valid range unsignalled

Property theorems about the model `PGA.Model.Thermo` of `base.py` (`check_range`), `raw_data.py`,
`incomplete.py` (evaluation wrappers, after the repair F27) and `group_data.py:49-77` (range intersection).
Vocabulary (`inRange`, `Signalled`, `IsValue`) in `PGA/Spec/Thermo.lean`; helper lemmas in
`PGA/Proofs/ThermoRange.lean`.

Quantifiers: every list of constituents of any length in any mapping order, with or without a range, with or
without heat-capacity data and reference values; every temperature (incl. zero and negative).
-/
namespace PGA.Thermo

/-- **T1a** the estimate's range is the intersection of the constituents' ranges: a temperature is in it
exactly when it is in the range of every constituent (a constituent without a range restricts nothing). -/
theorem C06_range_is_intersection {cs : List (Incomplete × Rat)} {e : Estimate} (hmk : Estimate.mk cs = .ok e) (T : Rat) :
    inRange T e.range ↔ ∀ c ∈ cs, inRange T c.1.range := by
  rw [(Estimate.mk_ok hmk).2.1]
  simp only [inRange_estRange, List.mem_map, forall_exists_index, and_imp, forall_apply_eq_imp_iff₂]

/-- **T1b** it is (largest lower bound, smallest upper bound) over the constituents that have a range, both
attained. -/
theorem C06_range_sup_inf {cs : List (Incomplete × Rat)} {e : Estimate} (hmk : Estimate.mk cs = .ok e) (lo hi : Rat)
    (h : e.range = some (lo, hi)) :
    (∃ c ∈ cs, ∃ r, c.1.range = some r ∧ r.1 = lo) ∧ (∀ c ∈ cs, ∀ r, c.1.range = some r → r.1 ≤ lo) ∧
    (∃ c ∈ cs, ∃ r, c.1.range = some r ∧ r.2 = hi) ∧ (∀ c ∈ cs, ∀ r, c.1.range = some r → hi ≤ r.2) ∧ lo ≤ hi := by
  obtain ⟨_, hr, hb⟩ := Estimate.mk_ok hmk
  have hle : lo ≤ hi := by
    rw [h] at hb
    simpa [baseInitOk] using hb
  -- the bounds: `lo` and `hi` lie in the intersection, hence in every constituent's range
  have bound : ∀ T, inRange T (some (lo, hi)) → ∀ c ∈ cs, ∀ r, c.1.range = some r → r.1 ≤ T ∧ T ≤ r.2 :=
    fun T hT c hc r hcr => by
      have := (C06_range_is_intersection hmk T).mp (h ▸ hT) c hc
      rwa [hcr] at this
  have met : ∀ r, some r ∈ none :: cs.map (fun c => c.1.range) → ∃ c ∈ cs, c.1.range = some r := fun r hm =>
    List.mem_map.mp ((List.mem_cons.mp hm).resolve_left nofun)
  obtain ⟨⟨r₁, m₁, e₁⟩, ⟨r₂, m₂, e₂⟩⟩ := foldl_rangeStep_attained _ none (hr ▸ h)
  obtain ⟨c₁, hc₁, k₁⟩ := met r₁ m₁
  obtain ⟨c₂, hc₂, k₂⟩ := met r₂ m₂
  exact ⟨⟨c₁, hc₁, r₁, k₁, e₁⟩, fun c hc r hcr => (bound lo ⟨le_rfl, hle⟩ c hc r hcr).1,
    ⟨c₂, hc₂, r₂, k₂, e₂⟩, fun c hc r hcr => (bound hi ⟨hle, le_rfl⟩ c hc r hcr).2, hle⟩

/-- **T1c** the estimate has no range exactly when no constituent has one. -/
theorem C06_range_none_iff {cs : List (Incomplete × Rat)} {e : Estimate} (hmk : Estimate.mk cs = .ok e) :
    e.range = none ↔ ∀ c ∈ cs, c.1.range = none := by
  rw [(Estimate.mk_ok hmk).2.1]
  unfold estRange
  rw [foldl_rangeStep_none]
  simp only [true_and, List.mem_map, forall_exists_index, and_imp, forall_apply_eq_imp_iff₂]

/-- **T1d** the range (and whether the construction is accepted) does not depend on the order of the mapping. -/
theorem C06_range_order_independent {cs cs' : List (Incomplete × Rat)} (hp : cs.Perm cs') :
    (Estimate.mk cs).map (·.range) = (Estimate.mk cs').map (·.range) := by
  simp only [Estimate.mk]
  rw [estRange_perm (hp.map (fun c => c.1.range))]
  split <;> rfl

/-- **T1e** an empty intersection is not reported as a range: the constructor fails (AssertionError). -/
theorem C06_empty_intersection_rejected (cs : List (Incomplete × Rat)) (lo hi : Rat)
    (h : estRange (cs.map (fun c => c.1.range)) = some (lo, hi)) (hlt : hi < lo) :
    ∃ e, Estimate.mk cs = .error e := by
  simp only [Estimate.mk, h, baseInitOk, ge_iff_le, decide_eq_false_iff_not, not_le, hlt, if_true]
  exact ⟨_, rfl⟩

/-- **T2a** a table correlation asked for any property outside its range raises the range error —
in particular at zero and negative temperatures when the lower end is positive. -/
theorem C06_table_outside_errors (d : RawData) (T : Rat) (h : ¬ inRange T (some d.range)) :
    d.CpoR T = .error .outside ∧ d.HoRT T = .error .outside ∧ d.SoR T = .error .outside ∧ d.GoRT T = .error .outside :=
  d.outside_err h

theorem C06_nonpositive_T_rejected (d : RawData) (hpos : 0 < d.range.1) (T : Rat) (hT : T ≤ 0) :
    d.CpoR T = .error .outside ∧ d.HoRT T = .error .outside ∧ d.SoR T = .error .outside ∧ d.GoRT T = .error .outside :=
  d.outside_err (fun h => absurd (lt_of_lt_of_le hpos h.1) (not_lt.mpr hT))

/-- **T2a′** a table correlation whose range was changed after construction with `set_range` — which checks only the
order of the bounds, so the new range may exclude the reference temperature, tabulated temperatures or the old bounds —
reports the new range and raises the range error for every property at every temperature outside it: in particular at
`T_ref` and at each tabulated temperature the new range no longer contains.  No getter answers before the range it
reports *now* has been checked. -/
theorem C06_table_setRange_outside_errors {d d' : RawData} {r : Range} (h : d.setRange r = .ok d') (T : Rat)
    (hT : ¬ inRange T (some r)) :
    d'.range = r ∧ d'.CpoR T = .error .outside ∧ d'.HoRT T = .error .outside ∧ d'.SoR T = .error .outside ∧
    d'.GoRT T = .error .outside := by
  unfold RawData.setRange at h
  split at h
  · cases h
  · cases h
    exact ⟨rfl, RawData.outside_err _ hT⟩

/-- … and inside the new range (positive lower end) every property is still a value, whatever the new range excludes. -/
theorem C06_table_setRange_inside_value {d d' : RawData} {r : Range} (h : d.setRange r = .ok d') (hpos : 0 < r.1) (T : Rat)
    (hT : inRange T (some r)) :
    (∃ v, d'.CpoR T = .ok v) ∧ (∃ v, d'.HoRT T = .ok v) ∧ (∃ v, d'.SoR T = .ok v) ∧ (∃ v, d'.GoRT T = .ok v) := by
  unfold RawData.setRange at h
  split at h
  · cases h
  · cases h
    exact RawData.inside_ok _ hpos hT

/-- a reversed range is refused by `set_range` (AssertionError), and the object is then the one it was: there is no new state -/
theorem C06_table_setRange_reversed (d : RawData) (r : Range) (h : r.2 < r.1) : d.setRange r = .error .assertion := by
  unfold RawData.setRange
  rw [if_pos h]

/-- **T2b** a `ThermochemIncomplete`/`ThermochemGroup` that has Cp data, asked for any property outside its
declared range, raises the incomplete-data error (never a value, never only a warning). -/
theorem C06_correlation_outside_errors {ip : Interp} {Href Sref : Option Rat} {cp : List Pt} {Tref : Rat} {r : Range}
    {c : Incomplete} (hmk : Incomplete.mk ip Href Sref cp Tref (some r) = .ok c) (hcp : cp ≠ []) (T : Rat)
    (h : ¬ inRange T (some r)) :
    c.CpoR T = (.error .incomplete, false) ∧ c.HoRT T = (.error .incomplete, false) ∧
    c.SoR T = (.error .incomplete, false) ∧ c.GoRT T = (.error .incomplete, false) := by
  obtain ⟨hw, _, _, hc, _, hr, _⟩ := Incomplete.mk_wf hmk
  obtain ⟨k1, k2, k3⟩ := (Incomplete.outside_signalled hw hr h).2.2.2 (hc ▸ hcp)
  refine ⟨k1, k2, k3, ?_⟩
  unfold Incomplete.GoRT gibbs
  rw [k2]

/-- **T2c** any constructed correlation (with or without Cp data) asked outside its declared range signals:
an error, or — only when it has no Cp data — the incomplete-data warning.  (Fails at `T = T_ref` before the
repair F27: `F27_unsignalled_before_repair`.) -/
theorem C06_correlation_outside_signalled {ip : Interp} {Href Sref : Option Rat} {cp : List Pt} {Tref : Rat} {r : Range}
    {c : Incomplete} (hmk : Incomplete.mk ip Href Sref cp Tref (some r) = .ok c) (T : Rat) (h : ¬ inRange T (some r)) :
    Signalled (c.CpoR T) ∧ Signalled (c.HoRT T) ∧ Signalled (c.SoR T) ∧ Signalled (c.GoRT T) ∧
    (cp ≠ [] → ∃ e, (c.HoRT T).1 = .error e ∧ (c.SoR T).1 = .error e ∧ (c.CpoR T).1 = .error e) := by
  obtain ⟨hw, _, _, hc, _, hr, _⟩ := Incomplete.mk_wf hmk
  obtain ⟨s1, s2, s3, s4⟩ := Incomplete.outside_signalled hw hr h
  refine ⟨s1, s2, s3, gibbs_signalled _ s2, fun hcp => ?_⟩
  obtain ⟨k1, k2, k3⟩ := s4 (hc ▸ hcp)
  exact ⟨.incomplete, by rw [k2], by rw [k3], by rw [k1]⟩

/-- **T3** an estimate asked for any property at a temperature outside its range signals: some constituent
raises (so the estimate raises) or the outcome carries the incomplete-data warning — for every mapping, every
order, every mixture of constituents with and without Cp data / ranges / reference values. -/
theorem C06_estimate_outside_signalled {cs : List (Incomplete × Rat)} {e : Estimate} (hmk : Estimate.mk cs = .ok e)
    (hw : ∀ c ∈ cs, c.1.WF) (T : Rat) (h : ¬ inRange T e.range) :
    Signalled (e.CpoR T) ∧ Signalled (e.HoRT T) ∧ Signalled (e.SoR T) ∧ Signalled (e.GoRT T) := by
  have hex : ∃ c ∈ cs, ¬ inRange T c.1.range := by
    by_contra hne
    exact h ((C06_range_is_intersection hmk T).mpr (fun c hc => by_contra (fun hn => hne ⟨c, hc, hn⟩)))
  obtain ⟨c, hc, hn⟩ := hex
  have hcs : e.cors = cs := (Estimate.mk_ok hmk).1
  cases hr : c.1.range with
  | none => rw [hr] at hn; exact absurd trivial hn
  | some r =>
    rw [hr] at hn
    obtain ⟨s1, s2, s3, _⟩ := Incomplete.outside_signalled (hw c hc) hr hn
    have sH : Signalled (e.HoRT T) := by
      unfold Estimate.HoRT; rw [hcs]; exact sumEval_signalled _ _ _ _ (.inr ⟨c, hc, s2⟩)
    refine ⟨?_, sH, ?_, gibbs_signalled _ sH⟩
    · unfold Estimate.CpoR; rw [hcs]; exact sumEval_signalled _ _ _ _ (.inr ⟨c, hc, s1⟩)
    · unfold Estimate.SoR; rw [hcs]; exact sumEval_signalled _ _ _ _ (.inr ⟨c, hc, s3⟩)

/-- **T4a** inside its range (positive lower end) a constructed table correlation returns a value for every
property: no error outcome, in particular no division by zero. -/
theorem C06_table_inside_value {ip : Interp} {Href Sref : Rat} {pts : List Pt} {Tref : Rat} {range : Option Range}
    {d : RawData} (hmk : RawData.mk ip Href Sref pts Tref range = .ok d) (hpos : 0 < d.range.1) (T : Rat)
    (hT : inRange T (some d.range)) :
    (∃ v, d.CpoR T = .ok v) ∧ (∃ v, d.HoRT T = .ok v) ∧ (∃ v, d.SoR T = .ok v) ∧ (∃ v, d.GoRT T = .ok v) :=
  d.inside_ok hpos hT

/-- **T4b** inside the range of an estimate every property all constituents have data for is a value, equal for
G/RT to H/RT − S/R (constituents with Cp data declare a range with positive lower end; those without return
their reference value). -/
theorem C06_estimate_inside_value {cs : List (Incomplete × Rat)} {e : Estimate} (hmk : Estimate.mk cs = .ok e)
    (hw : ∀ c ∈ cs, c.1.WF) (hdecl : ∀ c ∈ cs, c.1.cp ≠ [] → ∃ r, c.1.range = some r ∧ 0 < r.1)
    (T : Rat) (hT : inRange T e.range) :
    ((∀ c ∈ cs, c.1.cp ≠ []) → IsValue (e.CpoR T)) ∧
    ((∀ c ∈ cs, c.1.Href ≠ none) → IsValue (e.HoRT T)) ∧
    ((∀ c ∈ cs, c.1.Sref ≠ none) → IsValue (e.SoR T)) ∧
    ((∀ c ∈ cs, c.1.Href ≠ none ∧ c.1.Sref ≠ none) →
      ∃ h s, (e.HoRT T).1 = .ok h ∧ (e.SoR T).1 = .ok s ∧ (e.GoRT T).1 = .ok (h - s)) := by
  have hin := (C06_range_is_intersection hmk T).mp hT
  have hcs : e.cors = cs := (Estimate.mk_ok hmk).1
  have key : ∀ c ∈ cs, (c.1.cp ≠ [] → ∃ v, c.1.CpoR T = (.ok v, false)) ∧
      (c.1.Href ≠ none → IsValue (c.1.HoRT T)) ∧ (c.1.Sref ≠ none → IsValue (c.1.SoR T)) := by
    intro c hc
    refine Incomplete.inside_ok (hw c hc) (fun d hd => ?_)
    obtain ⟨hcp, ip, hmk⟩ := (hw c hc).corr_built hd
    obtain ⟨r, hr, hpos⟩ := hdecl c hc hcp
    rw [(RawData.mk_built hmk).range_some r hr]
    exact ⟨hpos, hr ▸ hin c hc⟩
  have vH : (∀ c ∈ cs, c.1.Href ≠ none) → IsValue (e.HoRT T) := fun hh => by
    unfold Estimate.HoRT; rw [hcs]; exact sumEval_value _ _ _ _ (fun c hc => (key c hc).2.1 (hh c hc))
  have vS : (∀ c ∈ cs, c.1.Sref ≠ none) → IsValue (e.SoR T) := fun hs => by
    unfold Estimate.SoR; rw [hcs]; exact sumEval_value _ _ _ _ (fun c hc => (key c hc).2.2 (hs c hc))
  refine ⟨fun hcp => ?_, vH, vS, fun hb => ?_⟩
  · unfold Estimate.CpoR; rw [hcs]
    exact sumEval_value _ _ _ _ (fun c hc => by obtain ⟨v, hv⟩ := (key c hc).1 (hcp c hc); exact ⟨v, by rw [hv]⟩)
  · exact gibbs_value (s := fun _ => e.SoR T) (vH (fun c hc => (hb c hc).1)) (vS (fun c hc => (hb c hc).2))

/-- The model's `internal` outcome (an `AttributeError` on a missing `_correlation`) never occurs for constructed
correlations, so every error the theorems above speak of is one of the documented exception classes. -/
theorem C06_no_internal_error {ip : Interp} {Href Sref : Option Rat} {cp : List Pt} {Tref : Rat} {range : Option Range}
    {c : Incomplete} (hmk : Incomplete.mk ip Href Sref cp Tref range = .ok c) (T : Rat) :
    (c.CpoR T).1 ≠ .error .internal ∧ (c.HoRT T).1 ≠ .error .internal ∧ (c.SoR T).1 ≠ .error .internal :=
  Incomplete.no_internal (Incomplete.mk_wf hmk).1 T

/-- An array of temperatures passes the range check exactly when every element would pass it alone: one element outside
the range (on either side, anywhere in the array) makes the whole request the outside-correlation error. -/
theorem C06_array_checked_elementwise (range : Option Range) (Ts : List Rat) :
    checkRangeArr range Ts = .ok () ↔ ∀ T ∈ Ts, checkRange range T = .ok () := by
  cases range with
  | none => exact ⟨fun _ _ _ => rfl, fun _ => rfl⟩
  | some r =>
    have ok : ∀ b : Bool, (if b = true then (.error .outside : Except Err Unit) else .ok ()) = .ok () ↔ b = false := by
      decide
    -- both sides say: no element below `r.1` and none above `r.2`
    simp only [checkRangeArr, ok, Bool.or_eq_false_iff, List.any_eq_false, decide_eq_true_eq, not_lt, checkRange_ok]
    exact ⟨fun h T hT => ⟨h.1 T hT, h.2 T hT⟩, fun h => ⟨fun T hT => (h T hT).1, fun T hT => (h T hT).2⟩⟩

/-- The decision for an array does not depend on the order of its elements (nor, hence, on its shape). -/
theorem C06_array_check_perm (range : Option Range) {Ts Ts' : List Rat} (h : Ts.Perm Ts') :
    checkRangeArr range Ts = .ok () ↔ checkRangeArr range Ts' = .ok () := by
  rw [C06_array_checked_elementwise, C06_array_checked_elementwise]
  exact ⟨fun H T hT => H T (h.mem_iff.mpr hT), fun H T hT => H T (h.mem_iff.mp hT)⟩

/-- Two arrays asked together pass exactly when each passes alone. -/
theorem C06_array_check_append (range : Option Range) (Ts Us : List Rat) :
    checkRangeArr range (Ts ++ Us) = .ok () ↔ checkRangeArr range Ts = .ok () ∧ checkRangeArr range Us = .ok () := by
  simp only [C06_array_checked_elementwise, List.mem_append]
  exact ⟨fun H => ⟨fun T hT => H T (Or.inl hT), fun T hT => H T (Or.inr hT)⟩,
         fun H T hT => hT.elim (H.1 T) (H.2 T)⟩

/-- non-vacuity: an array straddling the range is refused although its first and last elements are inside -/
example : checkRangeArr (some (250, 1200)) [300, 1500, 500] = .error .outside := by decide +kernel
example : checkRangeArr (some (250, 1200)) [300, 1200, 250] = .ok () := by decide +kernel

/-- `RangeRow.ok` with every comparison made by `Dec.le` -/
def RangeRow.okDec (r : RangeRow) : Bool :=
  match r.range with
  | none => false
  | some (lo, hi) =>
    !lo.le ⟨0, 0⟩ && lo.le hi && lo.le r.tref && r.tref.le hi &&
    (match r.table with
     | none => true
     | some (mn, mx) => lo.le mn && mn.le mx && mx.le hi)

theorem RangeRow.okDec_eq (r : RangeRow) : r.okDec = r.ok := by
  unfold RangeRow.okDec RangeRow.ok
  simp only [Dec.le_eq, ← decide_not, not_le, show (⟨0, 0⟩ : Dec).toRat = 0 from PGA.Dec.toRat_zero]
  rfl

/-- **Table obligation** (regenerated from the loaded libraries on every run): every group of every shipped library that
has a `thermochem` entry declares a range with positive lower end that contains its reference temperature and its tabulated span — the
hypotheses `0 < lo` / "declares a range" of T4 hold for all shipped data, and the constructor guards pass. -/
theorem C06_tab_shipped_ranges : PGA.Gen.ThermoRanges.rows.all RangeRow.ok = true :=
  (funext RangeRow.okDec_eq : RangeRow.okDec = RangeRow.ok) ▸ (by decide +kernel)

theorem C06_tab_shipped_ranges_spec : ∀ r ∈ PGA.Gen.ThermoRanges.rows, ∃ lo hi, r.range = some (lo, hi) ∧
    0 < lo.toRat ∧ lo.toRat ≤ r.tref.toRat ∧ r.tref.toRat ≤ hi.toRat ∧
    ∀ mn mx, r.table = some (mn, mx) → lo.toRat ≤ mn.toRat ∧ mx.toRat ≤ hi.toRat := by
  intro r hr
  have h := List.all_eq_true.mp C06_tab_shipped_ranges r hr
  unfold RangeRow.ok at h
  cases hrr : r.range with
  | none => rw [hrr] at h; cases h
  | some p =>
    obtain ⟨lo, hi⟩ := p
    rw [hrr] at h
    simp only [Bool.and_eq_true, decide_eq_true_eq] at h
    refine ⟨lo, hi, rfl, h.1.1.1.1, h.1.1.2, h.1.2, fun mn mx ht => ?_⟩
    have h2 := h.2
    rw [ht] at h2
    simp only [Bool.and_eq_true, decide_eq_true_eq] at h2
    exact ⟨h2.1.1, h2.2⟩

/-! ### non-vacuity -/

def exInc (cp : List Pt) (Tref : Rat) (r : Option Range) : Except Err Incomplete := Incomplete.mk exIp (some 2) (some 3) cp Tref r

def exEst : Except Err Estimate :=
  match exInc [(300, 3), (400, 4)] 300 (some (250, 500)), exInc [] 298 (some (298, 450)), exInc [] 298 none with
  | .ok a, .ok b, .ok c => Estimate.mk [(a, 2), (b, 1), (c, -1)]
  | _, _, _ => .error .internal

/-- an estimate mixing a constituent with Cp data and range, one without Cp data but with a range, and one with
neither: constructed, range = (298, 450) -/
example : (match exEst with | .ok e => decide (e.range = some (298, 450)) | .error _ => false) = true := by decide +kernel
/-- outside (T = 460 > 450, inside the first constituent's range): value with the warning flag -/
example : (match exEst with | .ok e => decide (e.HoRT 460 = (.ok (2 * (1190 / 460) + 2 - 2), true)) | .error _ => false) = true := by
  decide +kernel
/-- outside (T = 200): the constituent with Cp data raises -/
example : (match exEst with | .ok e => decide (e.HoRT 200 = (.error .incomplete, false)) | .error _ => false) = true := by decide +kernel
/-- a table 300..400 K with T_ref = 298 in range (290, 500), narrowed with `set_range((300, 500))`: T_ref is now outside, and
H/RT at T_ref raises; at 350 K it is still a value -/
example : (match RawData.mk exIp 2 3 [(300, 3), (400, 4)] 298 (some (290, 500)) with
    | .ok d => (match d.setRange (300, 500) with
        | .ok d' => decide (d'.HoRT 298 = .error .outside) && decide (d'.SoR 298 = .error .outside) &&
                    (match d'.HoRT 350 with | .ok _ => true | .error _ => false)
        | .error _ => false)
    | .error _ => false) = true := by decide +kernel
/-- disjoint ranges: construction rejected -/
example : (match exInc [] 298 (some (298, 300)), exInc [] 400 (some (400, 500)) with
    | .ok a, .ok b => (match Estimate.mk [(a, 1), (b, 1)] with | .error .assertion => true | _ => false)
    | _, _ => false) = true := by decide +kernel

end PGA.Thermo
