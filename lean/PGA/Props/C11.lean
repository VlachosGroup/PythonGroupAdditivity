import PGA.Proofs.Qty
/-!
# C11 — incompatible quantities never combine; compatible ones act as numbers

Property theorems about the model `PGA.Model.Qty` of `pgradd/Units/qty.py` (operators of
`GenericQuantity`, with Python's dispatch to the left method or the right reflected method in
`binop`).  All theorems are for *all* operands: scalars or arrays of any length, any rational
magnitudes, any exponent vectors; `thr` is the snapping threshold (`1e-7` in the code).
Vocabulary: `PGA/Spec/Qty.lean`.
-/
namespace PGA.Qty
open PGA.Units

/-! ## Python's dispatch

`binop` runs a method of the left operand if that is a quantity, and otherwise the reflected method of the right
operand.  Either way the guarded methods first test `compatible receiver argument` and then work on the magnitudes in the
order written; a sum or difference carries the receiver's units.  `binop` models `a ⊕ b` where at least one operand is a
quantity: the hypotheses `_hq`, `_hb` of the theorems below confine them to that domain; no proof uses them. -/

/-- the operand whose method runs for `a ⊕ b` -/
def receiver (a b : Q) : Q := if hasUnits a.dim then a else b

/-- the operand that method is called with -/
def argument (a b : Q) : Q := if hasUnits a.dim then b else a

theorem dispatch_qty {a : Q} (ha : IsQty a) (b : Q) : receiver a b = a ∧ argument a b = b := by
  simp only [receiver, argument, (hasUnits_iff _).mpr ha, if_true, and_self]

theorem dispatch_plain {a : Q} (ha : a.dim = Dim.zero) (b : Q) : receiver a b = b ∧ argument a b = a := by
  simp only [receiver, argument, (hasUnits_false_iff _).mpr ha, Bool.false_eq_true, if_false, and_self]

theorem guard_ite {α} (c : Bool) (x y : α) : (if !c then x else y) = if c then y else x := by
  cases c <;> rfl

/-- the comparison operators: the comparison of the magnitudes if the guard passes; otherwise `==` is false, `!=` is true
and the order comparisons raise -/
theorem binop_cmp (thr : Rat) {op : Op} {f : Rat → Rat → Bool} (hf : op.cmp = some f) (a b : Q) :
    binop thr op a b =
      if compatible thr (receiver a b) (argument a b) then cmpOut (onMagnitudes f a.val b.val)
      else if op.guarded then .err .unitsError else .bool (decide (op = .ne)) := by
  unfold binop receiver argument
  cases hu : hasUnits a.dim
  -- the reflected method of `b` compares `(b, a)` with the mirrored operator
  on_goal 1 => rw [← onMagnitudes_flip]
  -- unfolded, both sides are the same `if`; `== != > ≥` on magnitudes are put in the specification's form
  all_goals cases op <;> cases hf <;>
    simp only [eq, ne, lt, le, gt, ge, guard_ite, ofCmp_compare, Op.guarded, bne, Bool.beq_eq_decide_eq, ne_eq, decide_not,
      gt_iff_lt, ge_iff_le, reduceCtorEq, decide_false, decide_true, Bool.false_eq_true, ↓reduceIte, eq_comm (a := (_ : Rat))]

/-- `+` and `-`: the operation on the magnitudes, with the receiver's units, if the guard passes -/
theorem binop_additive (thr : Rat) {op : Op} {f : Rat → Rat → Rat} (hf : op.additive = some f) (a b : Q) :
    binop thr op a b =
      if compatible thr (receiver a b) (argument a b) then valOut (receiver a b).dim (onMagnitudes f a.val b.val)
      else .err .unitsError := by
  unfold binop receiver argument
  cases hu : hasUnits a.dim <;> cases op <;> cases hf <;>
    simp only [add, sub, radd, rsub, guard_ite, build_arith, Bool.false_eq_true, ↓reduceIte]

/-- every guarded operation raises the units error exactly when the guard fails -/
theorem binop_guarded (thr : Rat) {op : Op} (hop : op.guarded = true) (a b : Q) :
    ∃ r, r ≠ .err .unitsError ∧
      binop thr op a b = if compatible thr (receiver a b) (argument a b) then r else .err .unitsError := by
  cases op <;> cases hop
  case lt | le | gt | ge => exact ⟨_, cmpOut_ne_unitsError _, binop_cmp thr rfl a b⟩
  case add | sub => exact ⟨_, valOut_ne_unitsError _ _, binop_additive thr rfl a b⟩

/-- operands whose dimensions differ, neither a bare zero: the guard fails whichever of them receives the call -/
theorem not_compatible_dispatch {thr : Rat} {a b : Q} (hd : Dim.Differs thr a.dim b.dim) (ha : ¬ BareZero a)
    (hb : ¬ BareZero b) : compatible thr (receiver a b) (argument a b) = false := by
  unfold receiver argument
  split
  · exact not_compatible_of hd hb
  · exact not_compatible_of hd.symm ha

/-! ## T1 — different dimensions

Two unit vectors are *the same units* for the code when every exponent of the one is within `thr` of the same exponent of
the other (`FundamentalUnits.__eq__` after the repair FU5 — the verdict that division followed by `_build` always gave, see
`C11_same_units_iff_division_cancels`); they are different when some exponent differs by more than `thr` (`Dim.Differs`). -/

/-- **T1** Operands whose dimensions differ by more than the threshold in some exponent, at least one of them a quantity,
neither of them a bare zero: `< <= > >= + -` end in the units error — whichever side the quantity is on (left method or
reflected method). -/
theorem C11_incompatible_error (thr : Rat) (op : Op) (hop : op.guarded = true) (a b : Q)
    (_hq : IsQty a ∨ IsQty b) (hd : Dim.Differs thr a.dim b.dim) (ha : ¬ BareZero a) (hb : ¬ BareZero b) :
    binop thr op a b = .err .unitsError := by
  obtain ⟨r, _, h⟩ := binop_guarded thr hop a b
  rw [h, not_compatible_dispatch hd ha hb]; rfl

example : binop (1 / 10 ^ 7) .add ⟨.scalar 1, ⟨1, 0, 0, 0, 0, 0, 0⟩⟩ ⟨.scalar 0, ⟨0, 0, 1, 0, 0, 0, 0⟩⟩ = .err .unitsError := by
  decide +kernel   -- 1 m + 0 s (F11): a zero-valued quantity of another dimension is *not* a bare zero

example : Dim.Differs (1 / 10 ^ 7) ⟨3 / 10, 0, 0, 0, 0, 0, 0⟩ ⟨3000002 / 10 ^ 7, 0, 0, 0, 0, 0, 0⟩ := Or.inl (by decide +kernel)

example : binop (1 / 10 ^ 7) .lt ⟨.scalar 1, ⟨3 / 10, 0, 0, 0, 0, 0, 0⟩⟩ ⟨.scalar 2, ⟨3000002 / 10 ^ 7, 0, 0, 0, 0, 0, 0⟩⟩
    = .err .unitsError := by decide +kernel   -- 1 m^0.3 < 2 m^0.3000002: 2e-7 apart

/-- **T1** Under the same hypotheses `==` is false and `!=` is true. -/
theorem C11_incompatible_eq (thr : Rat) (a b : Q)
    (_hq : IsQty a ∨ IsQty b) (hd : Dim.Differs thr a.dim b.dim) (ha : ¬ BareZero a) (hb : ¬ BareZero b) :
    binop thr .eq a b = .bool false ∧ binop thr .ne a b = .bool true := by
  rw [binop_cmp thr rfl, binop_cmp thr rfl, not_compatible_dispatch hd ha hb]
  exact ⟨rfl, rfl⟩

example : binop (1 / 10 ^ 7) .eq ⟨.scalar 0, ⟨1, 0, 0, 0, 0, 0, 0⟩⟩ ⟨.scalar 0, ⟨0, 0, 1, 0, 0, 0, 0⟩⟩ = .bool false := by
  decide +kernel   -- 0 m == 0 s (F11)

/-- **T1** for integer exponents (every unit of the database and every integer power, product and quotient of them) and a
threshold below 1, *any* difference of the dimensions is a difference by more than the threshold: different dimensions end in
the units error, `==` is false, `!=` is true. -/
theorem C11_incompatible_integral (thr : Rat) (ht : thr < 1) (a b : Q) (_hq : IsQty a ∨ IsQty b)
    (hai : a.dim.Integral) (hbi : b.dim.Integral) (hd : a.dim ≠ b.dim) (ha : ¬ BareZero a) (hb : ¬ BareZero b) :
    (∀ op : Op, op.guarded = true → binop thr op a b = .err .unitsError) ∧
    binop thr .eq a b = .bool false ∧ binop thr .ne a b = .bool true :=
  have hdiff := differs_of_integral ht hai hbi hd
  ⟨fun op hop => C11_incompatible_error thr op hop a b _hq hdiff ha hb, C11_incompatible_eq thr a b _hq hdiff ha hb⟩

example : (⟨1, 1, -2, 0, 0, 0, 0⟩ : Dim).Integral ∧ (⟨2, 1, -2, 0, 0, 0, 0⟩ : Dim).Integral := by
  exact ⟨⟨rfl, rfl, rfl, rfl, rfl, rfl, rfl⟩, ⟨rfl, rfl, rfl, rfl, rfl, rfl, rfl⟩⟩   -- force and energy

/-- **T1** The only dimensionless operand a quantity accepts is a bare zero: a plain operand that is not zero is
refused by every guarded operation, on either side (whatever the exponents of the quantity and the threshold). -/
theorem C11_plain_nonzero_refused (thr : Rat) (op : Op) (hop : op.guarded = true) (a b : Q)
    (ha : IsQty a) (hb : b.dim = Dim.zero) (hnz : b.val.isZero = false) :
    binop thr op a b = .err .unitsError ∧ binop thr op b a = .err .unitsError := by
  have hc : compatible thr a b = false := not_compatible_of_plain hb hnz
  obtain ⟨r, _, h⟩ := binop_guarded thr hop a b
  obtain ⟨r', _, h'⟩ := binop_guarded thr hop b a
  rw [h, h', (dispatch_qty ha b).1, (dispatch_qty ha b).2, (dispatch_plain hb a).1, (dispatch_plain hb a).2, hc]
  exact ⟨rfl, rfl⟩

example : binop (1 / 10 ^ 7) .add ⟨.scalar 1, ⟨1, 0, 0, 0, 0, 0, 0⟩⟩ ⟨.scalar 2, Dim.zero⟩ = .err .unitsError ∧
    binop (1 / 10 ^ 7) .ge ⟨.array [0, 2], Dim.zero⟩ ⟨.scalar 1, ⟨1, 0, 0, 0, 0, 0, 0⟩⟩ = .err .unitsError := by decide +kernel

/-- **T1/T2, the dividing line** For a quantity on the left, a guarded operation is refused with the units error exactly when
the right operand is not `Compatible`: neither a quantity all of whose exponents are within the threshold of the left one's,
nor a bare zero. (An accepted operation may still fail on array shapes — that is never the units error.) -/
theorem C11_refused_iff (thr : Rat) (op : Op) (hop : op.guarded = true) (a b : Q) (ha : IsQty a) :
    binop thr op a b = .err .unitsError ↔ ¬ Compatible thr a b := by
  obtain ⟨r, hr, h⟩ := binop_guarded thr hop a b
  rw [h, (dispatch_qty ha b).1, (dispatch_qty ha b).2, ← compatible_iff]
  cases compatible thr a b
  · exact iff_of_true rfl Bool.false_ne_true
  · exact iff_of_false hr (not_not.mpr rfl)

example : ¬ Compatible (1 / 10 ^ 7) ⟨.scalar 1, ⟨3 / 10, 0, 0, 0, 0, 0, 0⟩⟩ ⟨.scalar 1, ⟨30000016 / 10 ^ 8, 0, 0, 0, 0, 0, 0⟩⟩ := by
  rw [← compatible_iff]; decide +kernel

/-! ## T2 — same dimension (or a bare zero): the operation on SI magnitudes -/

/-- **T2** A quantity on the left and a `Compatible` operand — a quantity whose exponents are all within the threshold of
the left one's, or a bare zero: each comparison operator returns the comparison of the SI magnitudes (element-wise for
arrays), in the orientation written. -/
theorem C11_compatible_cmp (thr : Rat) (op : Op) (f : Rat → Rat → Bool) (hf : op.cmp = some f) (a b : Q)
    (ha : IsQty a) (hc : Compatible thr a b) :
    binop thr op a b = cmpOut (onMagnitudes f a.val b.val) := by
  rw [binop_cmp thr hf, (dispatch_qty ha b).1, (dispatch_qty ha b).2, if_pos ((compatible_iff thr a b).mpr hc)]

/-- **T2** in particular for *exactly equal* dimensions (any threshold ≥ 0): the quantities compare as their SI magnitudes. -/
theorem C11_same_dimension_cmp (thr : Rat) (hthr : 0 ≤ thr) (op : Op) (f : Rat → Rat → Bool) (hf : op.cmp = some f) (a b : Q)
    (ha : IsQty a) (hd : a.dim = b.dim) :
    binop thr op a b = cmpOut (onMagnitudes f a.val b.val) :=
  C11_compatible_cmp thr op f hf a b ha (compatible_of_same hthr ha hd)

example : binop (1 / 10 ^ 7) .lt ⟨.scalar 1, ⟨1, 0, 0, 0, 0, 0, 0⟩⟩ ⟨.scalar 2, ⟨1, 0, 0, 0, 0, 0, 0⟩⟩ = .bool true := by
  decide +kernel   -- 1 m < 2 m (F10)

-- FU5: m^0.1 m^0.2 carries the double 0.30000000000000004, m^0.3 the double 0.3 — one dimension
example : Compatible (1 / 10 ^ 7) ⟨.scalar 2, ⟨30000000000000004 / 10 ^ 17, 0, 0, 0, 0, 0, 0⟩⟩ ⟨.scalar 3, ⟨3 / 10, 0, 0, 0, 0, 0, 0⟩⟩ :=
  Or.inl ⟨by unfold IsQty; decide +kernel, by refine ⟨?_, ?_, ?_, ?_, ?_, ?_, ?_⟩ <;> decide +kernel⟩

example : binop (1 / 10 ^ 7) .lt ⟨.scalar 2, ⟨30000000000000004 / 10 ^ 17, 0, 0, 0, 0, 0, 0⟩⟩ ⟨.scalar 3, ⟨3 / 10, 0, 0, 0, 0, 0, 0⟩⟩
    = .bool true := by decide +kernel

/-- **T2** (reflected) A bare zero on the left and a quantity on the right: the comparison of the magnitudes in the
order written (`0 < q` is `q.__gt__(0)`). -/
theorem C11_compatible_cmp_reflected (thr : Rat) (op : Op) (f : Rat → Rat → Bool) (hf : op.cmp = some f) (a b : Q)
    (ha : BareZero a) (_hb : IsQty b) :
    binop thr op a b = cmpOut (onMagnitudes f a.val b.val) := by
  rw [binop_cmp thr hf, (dispatch_plain ha.1 b).1, (dispatch_plain ha.1 b).2, if_pos (compatible_of_bareZero ha)]

/-- **T2** `+` and `-` of a quantity and a `Compatible` operand: the sum / difference of the SI magnitudes, with the units of
the *left* operand (`_build(self_value ± other_value, self_units)`): when the exponents of the two are within the threshold but
not equal, the result carries those of the left one. -/
theorem C11_compatible_arith (thr : Rat) (op : Op) (f : Rat → Rat → Rat) (hf : op.additive = some f) (a b : Q)
    (ha : IsQty a) (hc : Compatible thr a b) :
    binop thr op a b = valOut a.dim (onMagnitudes f a.val b.val) := by
  rw [binop_additive thr hf, (dispatch_qty ha b).1, (dispatch_qty ha b).2, if_pos ((compatible_iff thr a b).mpr hc)]

/-- **T2** in particular for *exactly equal* dimensions (any threshold ≥ 0): sum / difference of the SI magnitudes in that
dimension. -/
theorem C11_same_dimension_arith (thr : Rat) (hthr : 0 ≤ thr) (op : Op) (f : Rat → Rat → Rat) (hf : op.additive = some f) (a b : Q)
    (ha : IsQty a) (hd : a.dim = b.dim) :
    binop thr op a b = valOut a.dim (onMagnitudes f a.val b.val) :=
  C11_compatible_arith thr op f hf a b ha (compatible_of_same hthr ha hd)

-- FU5: 2 m^0.1 m^0.2 + 3 m^0.3 = 5 m^0.30000000000000004, and the other way round 5 m^0.3: the left operand's units
example : binop (1 / 10 ^ 7) .add ⟨.scalar 2, ⟨30000000000000004 / 10 ^ 17, 0, 0, 0, 0, 0, 0⟩⟩ ⟨.scalar 3, ⟨3 / 10, 0, 0, 0, 0, 0, 0⟩⟩
      = .val (.scalar 5) ⟨30000000000000004 / 10 ^ 17, 0, 0, 0, 0, 0, 0⟩ ∧
    binop (1 / 10 ^ 7) .add ⟨.scalar 3, ⟨3 / 10, 0, 0, 0, 0, 0, 0⟩⟩ ⟨.scalar 2, ⟨30000000000000004 / 10 ^ 17, 0, 0, 0, 0, 0, 0⟩⟩
      = .val (.scalar 5) ⟨3 / 10, 0, 0, 0, 0, 0, 0⟩ := by decide +kernel

/-- **T2** (reflected) `0 + q` and `0 - q`: the operation on the magnitudes in the order written, with `q`'s dimension. -/
theorem C11_compatible_arith_reflected (thr : Rat) (op : Op) (f : Rat → Rat → Rat) (hf : op.additive = some f) (a b : Q)
    (ha : BareZero a) (_hb : IsQty b) :
    binop thr op a b = valOut b.dim (onMagnitudes f a.val b.val) := by
  rw [binop_additive thr hf, (dispatch_plain ha.1 b).1, (dispatch_plain ha.1 b).2, if_pos (compatible_of_bareZero ha)]

example : binop (1 / 10 ^ 7) .sub ⟨.scalar 0, Dim.zero⟩ ⟨.array [1, -2], ⟨1, 0, 0, 0, 0, 0, 0⟩⟩
    = .val (.array [-1, 2]) ⟨1, 0, 0, 0, 0, 0, 0⟩ := by decide +kernel

/-- **T2** "the same units" is symmetric (so `a + b` is accepted exactly when `b + a` is) and, for a threshold ≥ 0, reflexive … -/
theorem C11_same_units_symm_refl (thr : Rat) (a b : Dim) :
    sameUnits thr a b = sameUnits thr b a ∧ (0 ≤ thr → sameUnits thr a a = true) := by
  constructor
  · rw [Bool.eq_iff_iff, sameUnits_iff, sameUnits_iff]; exact ⟨Dim.Within.symm, Dim.Within.symm⟩
  · intro h; exact (sameUnits_iff _ _ _).mpr (Dim.Within.refl h a)

/-- … but **not transitive** (closeness within a threshold is no equivalence): with the code's threshold `1e-7`,
`m^0.3 + m^0.30000008` and `m^0.30000008 + m^0.30000016` are sums of quantities of the same units, `m^0.3 + m^0.30000016`
is the units error. -/
theorem C11_same_units_not_transitive :
    let a : Q := ⟨.scalar 1, ⟨3 / 10, 0, 0, 0, 0, 0, 0⟩⟩
    let b : Q := ⟨.scalar 1, ⟨30000008 / 10 ^ 8, 0, 0, 0, 0, 0, 0⟩⟩
    let c : Q := ⟨.scalar 1, ⟨30000016 / 10 ^ 8, 0, 0, 0, 0, 0, 0⟩⟩
    binop (1 / 10 ^ 7) .add a b = .val (.scalar 2) a.dim ∧ binop (1 / 10 ^ 7) .add b c = .val (.scalar 2) b.dim ∧
    binop (1 / 10 ^ 7) .add a c = .err .unitsError ∧
    binop (1 / 10 ^ 7) .eq a b = .bool true ∧ binop (1 / 10 ^ 7) .eq b c = .bool true ∧ binop (1 / 10 ^ 7) .eq a c = .bool false := by
  decide +kernel

/-- `has_units(u)` answers whether every exponent is within the threshold of the same exponent of `u`. -/
theorem C11_has_units (thr : Rat) (a u : Q) : hasUnitsOf thr a u = true ↔ Dim.Within thr a.dim u.dim :=
  sameUnits_iff thr a.dim u.dim

/-- negation and absolute value act on the SI magnitudes and keep the dimension: this is how the model writes `__neg__`
and `__abs__` (both sides unfold to the same term); no guard is involved. -/
theorem C11_neg_abs (a : Q) :
    neg a = .val (a.val.map fun x => -x) a.dim ∧ abs a = .val (a.val.map fun x => if x < 0 then -x else x) a.dim :=
  ⟨rfl, rfl⟩

/-! ## T3 — dimension arithmetic of `*`, `/`, `**` -/

/-- **T3** `a * b` (either side a quantity, also a plain factor): product of the magnitudes; the dimension is the
sum of the exponents, each snapped to an integer when within the threshold. -/
theorem C11_mul (thr : Rat) (a b : Q) :
    binop thr .mul a b = valOut (Dim.mul thr a.dim b.dim) (onMagnitudes (fun x y => x * y) a.val b.val) := by
  unfold binop
  by_cases hu : hasUnits a.dim = true
  · rw [if_pos hu]; simp only [mul, build_arith]
  · rw [if_neg hu]; simp only [rmul, build_arith]

/-- **T3** where no exponent of the sum falls within the threshold of a non-equal integer (e.g. all exponents are
integers), the dimension of a product is exactly the sum of the dimensions. -/
theorem C11_mul_dim_partial (thr : Rat) (h : 0 ≤ thr) (a b : Q) (hs : (Dim.add a.dim b.dim).All (Stable thr)) :
    binop thr .mul a b = valOut (Dim.add a.dim b.dim) (onMagnitudes (fun x y => x * y) a.val b.val) := by
  rw [C11_mul, Dim.mul_of_stable h hs]

-- non-vacuity: integer exponents are stable for every threshold (here: force × length)
example : (Dim.add ⟨1, 1, -2, 0, 0, 0, 0⟩ ⟨1, 0, 0, 0, 0, 0, 0⟩).All (Stable (1 / 10 ^ 7)) :=
  (Dim.Integral.add (a := ⟨1, 1, -2, 0, 0, 0, 0⟩) (b := ⟨1, 0, 0, 0, 0, 0, 0⟩)
    ⟨rfl, rfl, rfl, rfl, rfl, rfl, rfl⟩ ⟨rfl, rfl, rfl, rfl, rfl, rfl, rfl⟩).stable

example : binop (1 / 10 ^ 7) .mul ⟨.scalar 2, ⟨1, 1, -2, 0, 0, 0, 0⟩⟩ ⟨.array [3, 5], ⟨1, 0, 0, 0, 0, 0, 0⟩⟩
    = .val (.array [6, 10]) ⟨2, 1, -2, 0, 0, 0, 0⟩ := by decide +kernel

/-- **T3** `a / b` with no zero divisor: quotient of the magnitudes, dimension = snapped difference. -/
theorem C11_div (thr : Rat) (a b : Q) (hnz : b.val.hasZero = false) :
    binop thr .div a b = valOut (Dim.div thr a.dim b.dim) (onMagnitudes (fun x y => x / y) a.val b.val) := by
  unfold binop
  split <;> simp only [div, rdiv, divVal_of_noZero _ hnz, build_arith]

theorem C11_div_dim_partial (thr : Rat) (h : 0 ≤ thr) (a b : Q) (hnz : b.val.hasZero = false)
    (hs : (Dim.sub a.dim b.dim).All (Stable thr)) :
    binop thr .div a b = valOut (Dim.sub a.dim b.dim) (onMagnitudes (fun x y => x / y) a.val b.val) := by
  rw [C11_div thr a b hnz, Dim.div_of_stable h hs]

example : binop (1 / 10 ^ 7) .div ⟨.scalar 1, ⟨2, 1, -2, 0, 0, 0, 0⟩⟩ ⟨.scalar 4, ⟨2, 1, -2, 0, 0, 0, 0⟩⟩
    = .val (.scalar (1 / 4)) Dim.zero := by decide +kernel   -- J / J is a plain number

/-- **T3** a scalar division by zero is the arithmetic error (never a value, never the units error). -/
theorem C11_div_zero (thr : Rat) (x : Rat) (d e : Dim) :
    binop thr .div ⟨.scalar x, d⟩ ⟨.scalar 0, e⟩ = .err .math := by
  unfold binop; split <;> simp [div, rdiv, divVal]

/-- **T3** quantities of the same dimension divide to a *plain number* (null dimension), for every threshold `≥ 0`. -/
theorem C11_div_same_dim_plain (thr : Rat) (h : 0 ≤ thr) (a b : Q) (hd : a.dim = b.dim) (hnz : b.val.hasZero = false) :
    binop thr .div a b = valOut Dim.zero (onMagnitudes (fun x y => x / y) a.val b.val) := by
  rw [C11_div thr a b hnz, hd, Dim.div_self]

/-- **T3** `a ** x` for a quantity and a plain scalar integer exponent `k`: magnitudes to the power `k`, dimension
`k · dim a` (snapped); a negative power of a zero magnitude is the arithmetic error. -/
theorem C11_pow_int (thr : Rat) (a : Q) (ha : IsQty a) (k : Int) (hz : ¬ (k < 0 ∧ a.val.hasZero = true)) :
    binop thr .pow a ⟨.scalar k, Dim.zero⟩ = .val (a.val.map (· ^ k)) (Dim.pow thr a.dim k) := by
  have hu : hasUnits a.dim = true := (hasUnits_iff _).mpr ha
  have hz0 : hasUnits Dim.zero = false := by decide
  have hi : isInt (k : Rat) = true := (isInt_iff _).mpr ⟨k, rfl⟩
  unfold binop
  rw [if_pos hu]
  have hz' : (decide ((k : Rat) < 0) && a.val.hasZero) = false := by
    cases hh : a.val.hasZero
    · simp
    · have : ¬ k < 0 := fun hk => hz ⟨hk, hh⟩
      have : ¬ (k : Rat) < 0 := by exact_mod_cast this
      simp [this]
  simp only [pow, hz0, Bool.false_eq_true, if_false, hi, if_true, Rat.num_intCast, hz']

example : binop (1 / 10 ^ 7) .pow ⟨.scalar 2, ⟨1, 0, -1, 0, 0, 0, 0⟩⟩ ⟨.scalar (-2), Dim.zero⟩
    = .val (.scalar (1 / 4)) ⟨-2, 0, 2, 0, 0, 0, 0⟩ := by decide +kernel   -- (2 m/s)^-2

-- the snapping threshold at work: (m^0.3333333333)^3 is m (1e-10 from 1), (m^0.333333)^3 stays m^0.999999
example : Dim.pow (1 / 10 ^ 7) ⟨3333333333 / 10 ^ 10, 0, 0, 0, 0, 0, 0⟩ 3 = ⟨1, 0, 0, 0, 0, 0, 0⟩ ∧
    Dim.pow (1 / 10 ^ 7) ⟨333333 / 10 ^ 6, 0, 0, 0, 0, 0, 0⟩ 3 = ⟨999999 / 10 ^ 6, 0, 0, 0, 0, 0, 0⟩ := by decide +kernel

theorem C11_pow_dim_partial (thr : Rat) (h : 0 ≤ thr) (a : Q) (ha : IsQty a) (k : Int)
    (hz : ¬ (k < 0 ∧ a.val.hasZero = true)) (hs : (Dim.smul k a.dim).All (Stable thr)) :
    binop thr .pow a ⟨.scalar k, Dim.zero⟩ = .val (a.val.map (· ^ k)) (Dim.smul k a.dim) := by
  rw [C11_pow_int thr a ha k hz, Dim.pow_of_stable h hs]

/-- **T3** for any real exponent `x` (integer or not) the *dimension* of `a ** x`, whenever a value results, is the
snapped `x · dim a`; and exponentiation *by* a quantity is a `TypeError`. -/
theorem C11_pow_dim (thr : Rat) (a : Q) (ha : IsQty a) (x : Rat) :
    (∀ v d, binop thr .pow a ⟨.scalar x, Dim.zero⟩ = .val v d → d = Dim.pow thr a.dim x) ∧
    (∀ n d, binop thr .pow a ⟨.scalar x, Dim.zero⟩ = .inexact n d → d = Dim.pow thr a.dim x) ∧
    (∀ b : Q, IsQty b → binop thr .pow a b = .err .typeError ∧ binop thr .pow ⟨.scalar x, Dim.zero⟩ b = .err .typeError) := by
  have hu : hasUnits a.dim = true := (hasUnits_iff _).mpr ha
  have hl : ∀ b, binop thr .pow a b = pow thr a b := fun b => if_pos hu
  have hd : ∀ {o}, binop thr .pow a ⟨.scalar x, Dim.zero⟩ = o → o.dimOr (Dim.pow thr a.dim x) = Dim.pow thr a.dim x :=
    fun h => h ▸ hl _ ▸ pow_scalar_dimOr thr a x
  refine ⟨fun _ _ h => hd h, fun _ _ h => hd h, fun b hb => ?_⟩
  have hbu : hasUnits b.dim = true := (hasUnits_iff _).mpr hb
  exact ⟨by rw [hl, pow, if_pos hbu], if_neg (ne_true_of_eq_false (by decide : hasUnits Dim.zero = false))⟩

/-! ## Conversion -/

/-- **T1 (conversion)** `in_units` between dimensions that differ by more than the threshold in some exponent ends in the
units error (when the division itself succeeds). -/
theorem C11_conversion_incompatible_partial (thr : Rat) (h : 0 ≤ thr) (a u : Q) (hnz : u.val.hasZero = false)
    (hshape : ∃ v, arith (· / ·) a.val u.val = some v) (hd : Dim.Differs thr a.dim u.dim) :
    inUnits thr a u = .err .unitsError := by
  obtain ⟨v, hv⟩ := hshape
  rw [inUnits_of_noZero thr a hnz, hv]
  exact if_neg fun hz => div_ne_zero_of_differs h hd ((Dim.isZero_iff _).mp hz)

example : Dim.Differs (1 / 10 ^ 7) ⟨1, 0, 0, 0, 0, 0, 0⟩ ⟨0, 0, 1, 0, 0, 0, 0⟩ := Or.inl (by decide +kernel)

example : inUnits (1 / 10 ^ 7) ⟨.scalar 1, ⟨1, 0, 0, 0, 0, 0, 0⟩⟩ ⟨.scalar 1, ⟨0, 0, 1, 0, 0, 0, 0⟩⟩ = .err .unitsError := by
  decide +kernel   -- 1 m in s

/-- for integer exponents (every unit of the database and every integer power, product and quotient of them) and a
threshold below 1, *different* dimensions always end in the units error -/
theorem C11_conversion_incompatible_integral (thr : Rat) (h : 0 ≤ thr) (ht : thr < 1) (a u : Q)
    (hnz : u.val.hasZero = false) (hshape : ∃ v, arith (· / ·) a.val u.val = some v)
    (hai : a.dim.Integral) (hui : u.dim.Integral) (hd : a.dim ≠ u.dim) :
    inUnits thr a u = .err .unitsError :=
  C11_conversion_incompatible_partial thr h a u hnz hshape (differs_of_integral ht hai hui hd)

/-- the full statement ("different dimension ⇒ units error") … -/
def C11_conversion_full : Prop :=
  ∀ (thr : Rat) (a u : Q), 0 ≤ thr → u.val.hasZero = false → (∃ v, arith (· / ·) a.val u.val = some v) →
    a.dim ≠ u.dim → inUnits thr a u = .err .unitsError

/-- … is false of the code as it is: exponents closer than the (documented) threshold are identified:
`m^0.50000001` converts to `m^0.5`. -/
theorem C11_conversion_full_false : ¬ C11_conversion_full := by
  intro hfull
  have := hfull (1 / 10 ^ 7) ⟨.scalar 1, ⟨50000001 / 100000000, 0, 0, 0, 0, 0, 0⟩⟩ ⟨.scalar 1, ⟨1 / 2, 0, 0, 0, 0, 0, 0⟩⟩
    (by decide +kernel) (by decide +kernel) ⟨_, rfl⟩ (by decide +kernel)
  revert this
  decide +kernel

/-- **T2 (conversion)** to a unit of the same dimension: the ratio of the SI magnitudes, a plain number. -/
theorem C11_conversion_ratio (thr : Rat) (h : 0 ≤ thr) (a u : Q) (hd : a.dim = u.dim) (hnz : u.val.hasZero = false) :
    inUnits thr a u = valOut Dim.zero (onMagnitudes (fun x y => x / y) a.val u.val) :=
  inUnits_of_div_zero hnz (hd ▸ Dim.div_self thr a.dim)

example : inUnits (1 / 10 ^ 7) ⟨.scalar 2000, ⟨1, 0, 0, 0, 0, 0, 0⟩⟩ ⟨.scalar (1 / 100), ⟨1, 0, 0, 0, 0, 0, 0⟩⟩
    = .val (.scalar 200000) Dim.zero := by decide +kernel   -- 2 km in cm

/-- **FU5, the repaired relation** For the code's kind of threshold (`0 ≤ thr < 1/2`) "the same units" (`__eq__`, hence
`has_units` and the guard of `+ - < <= > >= == !=`) is exactly "division leaves no units" (what `in_units` tests). -/
theorem C11_same_units_iff_division_cancels (thr : Rat) (h : 0 ≤ thr) (ht : thr < 1 / 2) (a b : Dim) :
    sameUnits thr a b = (Dim.div thr a b).isZero := by
  rw [Bool.eq_iff_iff, sameUnits_iff, div_isZero_iff_within h ht]

example : sameUnits (1 / 10 ^ 7) ⟨30000000000000004 / 10 ^ 17, 0, 0, 0, 0, 0, 0⟩ ⟨3 / 10, 0, 0, 0, 0, 0, 0⟩ = true ∧
    (Dim.div (1 / 10 ^ 7) ⟨30000000000000004 / 10 ^ 17, 0, 0, 0, 0, 0, 0⟩ ⟨3 / 10, 0, 0, 0, 0, 0, 0⟩).isZero = true := by decide +kernel

/-- By `C11_same_units_iff_division_cancels`, `has_units(u)` is true exactly when `in_units(u)` converts (does not end in the
units error), whenever the division of the magnitudes itself succeeds. -/
theorem C11_has_units_iff_converts (thr : Rat) (h : 0 ≤ thr) (ht : thr < 1 / 2) (a u : Q) (hnz : u.val.hasZero = false)
    (hshape : ∃ v, arith (· / ·) a.val u.val = some v) :
    hasUnitsOf thr a u = true ↔ inUnits thr a u ≠ .err .unitsError := by
  obtain ⟨v, hv⟩ := hshape
  unfold hasUnitsOf
  rw [C11_same_units_iff_division_cancels thr h ht, inUnits_of_noZero thr a hnz, hv]
  cases (Dim.div thr a.dim u.dim).isZero
  · exact iff_of_false Bool.false_ne_true (not_not.mpr rfl)
  · exact iff_of_true rfl Out.noConfusion

/-- **T2 (conversion)** between dimensions all of whose exponents are within the threshold of each other: the ratio of the SI
magnitudes, a plain number (the statement `C11_conversion_ratio` for the code's relation "same units"). -/
theorem C11_conversion_within (thr : Rat) (h : 0 ≤ thr) (ht : thr < 1 / 2) (a u : Q) (hd : Dim.Within thr a.dim u.dim)
    (hnz : u.val.hasZero = false) :
    inUnits thr a u = valOut Dim.zero (onMagnitudes (fun x y => x / y) a.val u.val) :=
  inUnits_of_div_zero hnz ((Dim.isZero_iff _).mp ((div_isZero_iff_within h ht _ _).mpr hd))

example : inUnits (1 / 10 ^ 7) ⟨.scalar 2, ⟨30000000000000004 / 10 ^ 17, 0, 0, 0, 0, 0, 0⟩⟩ ⟨.scalar 1, ⟨3 / 10, 0, 0, 0, 0, 0, 0⟩⟩
    = .val (.scalar 2) Dim.zero := by decide +kernel   -- (2 m^0.1 m^0.2).in_units('m^0.3')

end PGA.Qty
