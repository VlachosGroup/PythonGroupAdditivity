import PGA.Proofs.SchemeUnion
import PGA.Proofs.DecomposeUnion
import PGA.Props.C02
import PGA.Props.C03
/-!
# C04 — a mixture's descriptors are the sum of its components'

For the model of the decomposition above the matcher: the disjoint union `union A B` of two inputs of one scheme
(`PGA/Spec/Union.lean`: atoms of `B` renumbered after those of `A`, no edges across, each pattern's matches = matches on
`A` followed by the shifted matches on `B`) fails exactly when `A` or `B` fails, and otherwise every name gets the sum
of the two counts.  Any sizes, any scheme, chain-free remap tables.  With C03 (take `π = id`) the same holds for any
input whose match *sets* agree with the union's — which is what a correct matcher of connected patterns yields (C08).

Hypothesis `Separated`: no name produced on the correction-descriptor side is also produced as a group name by either
part (otherwise the final `dict.update` of the implementation *replaces* a group count by a descriptor count and
additivity genuinely fails).  As stated it quantifies over all names and has no `Decidable` instance; it only
constrains the finitely many keys of the two correction-descriptor dictionaries, and that finite check is what the
harness runs on every case.
-/
namespace PGA.Scheme
open PGA

variable {A B : Input}

/-- group side and correction-descriptor side of a decomposition, after remaps -/
def groupsOf (X : Input) (a : Assign) : Counts := remapAll X.remaps (countGroups a X.nbrs (List.range X.n) [])
def descsOf (X : Input) : Counts := remapAll X.remaps (countDescs X.descs [])

/-- names present on the correction-descriptor side of either part carry no group count in either part -/
def Separated (A B : Input) (a b : Assign) : Prop :=
  ∀ t, (t ∈ Counts.keys (descsOf A) ∨ t ∈ Counts.keys (descsOf B)) → (groupsOf A a).get t = 0 ∧ (groupsOf B b).get t = 0

/-- `dict.update`: a name on the correction-descriptor side takes that side's count, any other name its group count -/
theorem getDescriptors_get (X : Input) (a : Assign) (r : Counts) (ha : assignCentres X = .ok a)
    (hr : getDescriptors X = .ok r) (t : String) :
    r.get t = if t ∈ Counts.keys (descsOf X) then (descsOf X).get t else (groupsOf X a).get t :=
  C02_getDescriptors_value X a r ha hr t

/-- the two sides add up separately; where a name is on the descriptor side of one part only, the other part
contributes 0 on both sides (`sep`: no group count; absent from a dictionary: count 0) -/
theorem ite_add_of_separated {kU kA kB : Prop} [Decidable kU] [Decidable kA] [Decidable kB] {dU dA dB gU gA gB : Rat}
    (hk : kU ↔ kA ∨ kB) (hd : dU = dA + dB) (hg : gU = gA + gB) (sep : kA ∨ kB → gA = 0 ∧ gB = 0)
    (zA : ¬ kA → dA = 0) (zB : ¬ kB → dB = 0) :
    (if kU then dU else gU) = (if kA then dA else gA) + (if kB then dB else gB) := by
  by_cases hA : kA <;> by_cases hB : kB
  · rw [if_pos (hk.2 (.inl hA)), if_pos hA, if_pos hB, hd]
  · rw [if_pos (hk.2 (.inl hA)), if_pos hA, if_neg hB, hd, zB hB, (sep (.inl hA)).2]
  · rw [if_pos (hk.2 (.inr hB)), if_neg hA, if_pos hB, hd, zA hA, (sep (.inr hB)).1]
  · rw [if_neg (fun h => (hk.1 h).elim hA hB), if_neg hA, if_neg hB, hg]

theorem descsOf_union (hs : SameScheme A B) (hA : WF A) (hB : WF B) (hcf : ChainFree A.remaps) (t : String) :
    (descsOf (union A B)).get t = (descsOf A).get t + (descsOf B).get t ∧
    (t ∈ Counts.keys (descsOf (union A B)) ↔ t ∈ Counts.keys (descsOf A) ∨ t ∈ Counts.keys (descsOf B)) := by
  have hnil : (Counts.keys ([] : Counts)).Nodup := List.nodup_nil
  have hdesc := countDescs_union_aux A.n A.descs B.descs hs.descs hA.desc_lt
    (fun d hd m hm => (hB.desc_lt d hd m hm).1) [] [] [] (fun _ => (Rat.add_zero 0).symm) (fun _ => (or_self_iff).symm)
  have nd := fun ds => countDescs_nodup ds [] hnil
  unfold descsOf
  rw [hs.remaps]
  exact ⟨remapAll_get_add A.remaps hcf _ _ _ (nd _) (nd _) (nd _) hdesc.1 t,
    mem_keys_remapAll_union A.remaps hcf _ _ _ (nd _) (nd _) (nd _) hdesc.2 t⟩

theorem groupsOf_union (hs : SameScheme A B) (hA : WF A) (hcf : ChainFree A.remaps) (u a b : Assign)
    (hu : assignCentres (union A B) = .ok u) (ha : assignCentres A = .ok a) (hb : assignCentres B = .ok b) (t : String) :
    (groupsOf (union A B) u).get t = (groupsOf A a).get t + (groupsOf B b).get t := by
  have nd := fun a nbrs is => countGroups_nodup a nbrs is [] List.nodup_nil
  unfold groupsOf
  rw [hs.remaps]
  refine remapAll_get_add A.remaps hcf _ _ _ (nd _ _ _) (nd _ _ _) (nd _ _ _) (fun g => ?_) t
  rw [countGroups_get, countGroups_get, countGroups_get, groupCount_union hs hA u a b hu ha hb g, Nat.cast_add]
  exact (Rat.zero_add _).trans (congrArg₂ _ (Rat.zero_add _).symm (Rat.zero_add _).symm)

/-- the number of centre patterns whose matches start at an atom (what `_AssignCenterPattern` tests per atom) is, in the
union, that of the atom's own part -/
theorem C04_cnt_union (hs : SameScheme A B) (hA : WF A) :
    (∀ j < A.n, cnt (union A B).centres j = cnt A.centres j) ∧
    (∀ i, cnt (union A B).centres (i + A.n) = cnt B.centres i) :=
  ⟨fun j hj => (cnt_union_left hs hA j hj).1, fun i => (cnt_union_right hs hA i).1⟩

/-- **failure clause**: the pair can be classified exactly when both components can -/
theorem C04_centres_union (hs : SameScheme A B) (hA : WF A) :
    (∃ u, assignCentres (union A B) = .ok u) ↔ (∃ a, assignCentres A = .ok a) ∧ (∃ b, assignCentres B = .ok b) :=
  centres_ok_union hs hA

/-- first loop of `_AssignGroup`: the number of atoms that contribute a given group name is the sum over the two parts -/
theorem C04_groupCount_union (hs : SameScheme A B) (hA : WF A) (u a b : Assign)
    (hu : assignCentres (union A B) = .ok u) (ha : assignCentres A = .ok a) (hb : assignCentres B = .ok b) (g : String) :
    ((List.range (union A B).n).filter fun j => decide (groupName u (union A B).nbrs j = some g)).length
      = ((List.range A.n).filter fun j => decide (groupName a A.nbrs j = some g)).length
        + ((List.range B.n).filter fun i => decide (groupName b B.nbrs i = some g)).length :=
  groupCount_union hs hA u a b hu ha hb g

/-- first loop of `_AssignDescriptor`: the distinct matched atom sets of a pattern in the union are those of the parts -/
theorem C04_distinctSets_union (k : Nat) (msA msB : List Match)
    (hA : ∀ m ∈ msA, m ≠ [] ∧ ∀ j ∈ m, j < k) (hB : ∀ m ∈ msB, m ≠ []) :
    distinctSets (msA ++ msB.map (shift k)) = distinctSets msA + distinctSets msB :=
  distinctSets_union k msA msB hA hB

/-- the remap loop is additive: counts that add up name by name still do after the remaps (chain-free table) -/
theorem C04_remap_additive (rm : List (String × List (Rat × String))) (hcf : ChainFree rm)
    (cU cA cB : Counts) (hU : (Counts.keys cU).Nodup) (hA : (Counts.keys cA).Nodup) (hB : (Counts.keys cB).Nodup)
    (hget : ∀ k, cU.get k = cA.get k + cB.get k) (t : String) :
    (remapAll rm cU).get t = (remapAll rm cA).get t + (remapAll rm cB).get t :=
  remapAll_get_add rm hcf cU cA cB hU hA hB hget t

/-- **C04 for the decomposition model.** The union fails exactly when a part fails (no further hypothesis); when all
three succeed, every name gets the sum of the parts' counts provided the parts are `Separated`. -/
theorem C04_descriptors_union (hs : SameScheme A B) (hA : WF A) (hB : WF B) (hcf : ChainFree A.remaps) :
    (getDescriptors (union A B) = .error .patternMatch ↔
      getDescriptors A = .error .patternMatch ∨ getDescriptors B = .error .patternMatch) ∧
    ∀ rU rA rB a b, getDescriptors (union A B) = .ok rU → getDescriptors A = .ok rA → getDescriptors B = .ok rB →
      assignCentres A = .ok a → assignCentres B = .ok b → Separated A B a b →
      ∀ t, rU.get t = rA.get t + rB.get t := by
  have hok := centres_ok_union hs hA
  constructor
  · rw [C02_getDescriptors_error_iff, C02_getDescriptors_error_iff, C02_getDescriptors_error_iff, error_iff_not_ok,
      error_iff_not_ok, error_iff_not_ok, hok, not_and_or]
  · intro rU rA rB a b hrU hrA hrB ha hb hsep t
    obtain ⟨u, hu⟩ := hok.mpr ⟨⟨a, ha⟩, ⟨b, hb⟩⟩
    rw [getDescriptors_get _ u rU hu hrU t, getDescriptors_get _ a rA ha hrA t, getDescriptors_get _ b rB hb hrB t]
    obtain ⟨hdget, hkeys⟩ := descsOf_union hs hA hB hcf t
    exact ite_add_of_separated hkeys hdget (groupsOf_union hs hA hcf u a b hu ha hb t) (hsep t)
      (Counts.get_of_not_mem _ _) (Counts.get_of_not_mem _ _)

/-! ### non-vacuity: two one-atom molecules of a one-pattern scheme -/
example : SameScheme ⟨1, [[]], [⟨"C", "C", [[0]]⟩], [], []⟩ ⟨1, [[]], [⟨"C", "C", [[0]]⟩], [], []⟩ :=
  ⟨List.Forall₂.cons ⟨rfl, rfl⟩ List.Forall₂.nil, List.Forall₂.nil, rfl⟩
example : WF ⟨1, [[]], [⟨"C", "C", [[0]]⟩], [], []⟩ := by
  refine ⟨rfl, ?_, ?_, fun _ h => nomatch h⟩ <;> decide
example : getDescriptors (union ⟨1, [[]], [⟨"C", "C", [[0]]⟩], [], []⟩ ⟨1, [[]], [⟨"C", "C", [[0]]⟩], [], []⟩)
    = .ok [("C", 2)] := by decide +kernel

end PGA.Scheme

/-! ## C04 end to end: the disjoint union of two molecule graphs -/
namespace PGA.C04
open PGA PGA.Spec PGA.Scheme PGA.Decompose PGA.Match

/-- **Every pattern the reader returns is connected** (each atom after the first is declared with a bond to an earlier
one — `BondedAtom` attaches to an existing label and `AddBond` refuses a self-bond) **and has at least one atom**:
holds for every scheme that loads. -/
theorem C04_load_connected (src : SchemeSrc) (S : SchemeDef) (h : src.load = .ok S) : S.connected = true :=
  load_connected src S h

/-- **An embedding of a connected pattern lies in one component.** For well-formed graphs `A`, `B`, a connected query
without molecule-level prefix and any assignment `f`: `f` embeds the query in `A ⊔ B` exactly when it embeds it in `A`,
or is the shift of an embedding in `B`. -/
theorem C04_embeds_union (A B : Mol) (hA : A.wf = true) (hB : B.wf = true) (q : Query)
    (hc : q.connected = true) (hmp : q.molPre = []) (f : List Nat) :
    Embeds q (A.union B) f ↔ Embeds q A f ∨ ∃ g, Embeds q B g ∧ f = g.map (· + A.natoms) :=
  embeds_union_iff A B hA hB q hc hmp f

/-- **The Benson perception works component by component**: aromatising `A ⊔ B` (rings of `A`, then the shifted rings
of `B`) gives the union of the aromatised parts. -/
theorem C04_aromatize_union (A B : Mol) (hA : A.wf = true) (hB : B.wf = true) :
    aromatizeBenson (A.union B) = (aromatizeBenson A).union (aromatizeBenson B) :=
  aromatizeBenson_union A B hA hB

/-- **C04 end to end.** For every scheme whose patterns are connected and carry no molecule-level prefix (`S.connected`:
guaranteed by the reader; `S.noMolPrefix`: observed on every shipped scheme by the harness) and all well-formed graphs
`A`, `B`: the decomposition of the disjoint union `A ⊔ B` fails exactly when that of `A` or of `B` fails; otherwise every
name gets the sum of the two counts, provided no name produced on the correction-descriptor side is also a group name
(`Separated`, as in `C04_descriptors_union`).  Further hypotheses: queries well-formed, no `*`, candidate counts below
the cap on the three aromatised graphs, chain-free remap table. -/
theorem C04_decompose_union (S : SchemeDef) (A B : Mol) (hA : A.wf = true) (hB : B.wf = true)
    (hq : S.wf = true) (hs : S.noStar = true) (hmp : S.noMolPrefix = true) (hcn : S.connected = true)
    (capa : maxRaw S (aromatizeBenson A) < maxMatches) (capb : maxRaw S (aromatizeBenson B) < maxMatches)
    (capu : maxRaw S ((aromatizeBenson A).union (aromatizeBenson B)) < maxMatches)
    (hcf : ChainFree S.remaps) :
    (decompose S (A.union B) = .error .patternMatch ↔
      decompose S A = .error .patternMatch ∨ decompose S B = .error .patternMatch) ∧
    ∀ rU rA rB asgA asgB, decompose S (A.union B) = .ok rU → decompose S A = .ok rA → decompose S B = .ok rB →
      assignCentres (toInput S (aromatizeBenson A)) = .ok asgA → assignCentres (toInput S (aromatizeBenson B)) = .ok asgB →
      Separated (toInput S (aromatizeBenson A)) (toInput S (aromatizeBenson B)) asgA asgB →
      ∀ t, rU.get t = rA.get t + rB.get t := by
  have ha := wf_aromatizeBenson A hA
  have hb := wf_aromatizeBenson B hB
  have R := toInput_union_relabel S _ _ ha hb hq hs hmp hcn capa capb capu
  have hss := sameScheme_toInput S (aromatizeBenson A) (aromatizeBenson B)
  have wA := wF_toInput S _ ha hq hs hcn capa
  have wB := wF_toInput S _ hb hq hs hcn capb
  have U := PGA.Scheme.C04_descriptors_union hss wA wB (show ChainFree (toInput S (aromatizeBenson A)).remaps from hcf)
  have Rl := PGA.Scheme.C03_descriptors_relabel R (show ChainFree (Scheme.union _ _).remaps from hcf)
  have hdec : decompose S (A.union B) = getDescriptors (toInput S ((aromatizeBenson A).union (aromatizeBenson B))) := by
    unfold decompose; rw [aromatizeBenson_union A B hA hB]
  rw [hdec]
  exact additive_of_agree Rl U

/-- **C04 for a mixture numbered as RDKit numbers it.** RDKit does not number `'A.B'` as `A ⊔ B` (after `AddHs` the heavy
atoms of both parts come first, then the hydrogens; heavy-atom bonds are listed before X–H bonds); its graph `M` is `A ⊔ B`
renumbered (`MolIso π (A ⊔ B) M`: atoms renamed, bonds renamed in any order, rings renamed in the same order — re-checked
by the harness on every mixture with the explicit permutation).  For every such `M`: the decomposition of `M` fails
exactly when that of `A` or of `B` fails, and otherwise every name gets the sum of the two counts.  (C03 ∘ C04.) -/
theorem C04_decompose_mixture (S : SchemeDef) (A B M : Mol) {π : Nat → Nat} (iso : MolIso π (A.union B) M)
    (hA : A.wf = true) (hB : B.wf = true)
    (hq : S.wf = true) (hs : S.noStar = true) (hmp : S.noMolPrefix = true) (hcn : S.connected = true)
    (capa : maxRaw S (aromatizeBenson A) < maxMatches) (capb : maxRaw S (aromatizeBenson B) < maxMatches)
    (capu : maxRaw S ((aromatizeBenson A).union (aromatizeBenson B)) < maxMatches)
    (capm : maxRaw S (aromatizeBenson M) < maxMatches)
    (hcf : ChainFree S.remaps) :
    (decompose S M = .error .patternMatch ↔
      decompose S A = .error .patternMatch ∨ decompose S B = .error .patternMatch) ∧
    ∀ rM rA rB asgA asgB, decompose S M = .ok rM → decompose S A = .ok rA → decompose S B = .ok rB →
      assignCentres (toInput S (aromatizeBenson A)) = .ok asgA → assignCentres (toInput S (aromatizeBenson B)) = .ok asgB →
      Separated (toInput S (aromatizeBenson A)) (toInput S (aromatizeBenson B)) asgA asgB →
      ∀ t, rM.get t = rA.get t + rB.get t := by
  have U := C04_decompose_union S A B hA hB hq hs hmp hcn capa capb capu hcf
  have capu' : maxRaw S (aromatizeBenson (A.union B)) < maxMatches := by rw [aromatizeBenson_union A B hA hB]; exact capu
  have R := PGA.C03.C03_decompose_relabel S iso (wf_union A B hA hB) hq hs capu' capm hcf
  exact additive_of_agree R U

/-! ### non-vacuity: two copies of a C–H fragment under a two-entry scheme -/
def exScheme : SchemeDef :=
  { centres := [⟨"C", "C", ⟨"a", [], [⟨"c1", ⟨none, .elem 6, .free⟩, []⟩, ⟨"h", ⟨none, .elem 1, .free⟩, []⟩], [⟨1, 0, .single⟩], []⟩⟩,
                ⟨"H", "H", ⟨"b", [], [⟨"h1", ⟨none, .elem 1, .none⟩, []⟩], [], []⟩⟩],
    descs := [⟨"CH", ⟨"d", [], [⟨"c1", ⟨none, .elem 6, .free⟩, []⟩, ⟨"h", ⟨none, .elem 1, .free⟩, []⟩], [⟨1, 0, .single⟩], []⟩⟩],
    remaps := [] }

def exMol : Mol :=
  { atoms := [⟨6, 0, 3, false, some 1⟩, ⟨1, 0, 0, false, some 1⟩], bonds := [⟨0, 1, .single, false, .none, []⟩], rings := [] }

example : exMol.wf = true ∧ exScheme.wf = true ∧ exScheme.noStar = true ∧ exScheme.noMolPrefix = true ∧
    exScheme.connected = true ∧ maxRaw exScheme (aromatizeBenson exMol) < maxMatches ∧
    maxRaw exScheme ((aromatizeBenson exMol).union (aromatizeBenson exMol)) < maxMatches := by decide

example : (toInput exScheme (exMol.union exMol)).centres.map (·.ms) = [[[0, 1], [2, 3]], [[1], [3]]] := by decide

end PGA.C04
