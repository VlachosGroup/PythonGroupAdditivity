import PGA.Props.C08
import Mathlib.Data.List.Perm.Subperm
import Mathlib.Data.Finset.Prod
/-!
# C08 — the cap of 10 000 candidates really loses embeddings (F30), in the model

`C08_capped_iff_full` (in `PGA/Props/C08.lean`) says that the capped matcher returns exactly the
embeddings.  It is false: two unconstrained atoms on a graph of 102 atoms have 102·101 = 10 302
embeddings, and the capped pipeline cannot return more than 10 000 assignments.  (On the real code
the failing input is `corpus/C08/F30.json`.)
-/
namespace PGA.C08
open PGA PGA.Spec PGA.Match

/-- `n` unbonded hydrogen atoms -/
def hydrogens (n : Nat) : Mol := { atoms := List.replicate n ⟨1, 0, 0, false, some 0⟩, bonds := [], rings := [] }

/-- two unconstrained, unbonded atoms `$?` -/
def twoAny : Query :=
  { name := "t", molPre := [],
    atoms := [⟨"a", ⟨none, .any, .free⟩, []⟩, ⟨"b", ⟨none, .any, .free⟩, []⟩], bonds := [], stereo := [] }

/-- any two distinct atoms are an embedding -/
theorem twoAny_embeds {n i j : Nat} (hi : i < n) (hj : j < n) (hij : i ≠ j) : Embeds twoAny (hydrogens n) [i, j] where
  length := rfl
  inj := by simp [hij]
  range := by simp [hydrogens, Mol.natoms, hi, hj]
  atoms := by
    have any : ∀ l, ∀ x < n, AtomHolds (hydrogens n) ⟨l, ⟨none, .any, .free⟩, []⟩ x := fun l x hx => by
      simp [AtomHolds, TypeHolds, hydrogens, Mol.atom?, hx, ClassHolds, SuffixHolds]
    intro k qa x hk hx
    match k with
    | 0 => cases hk; cases hx; exact any _ i hi
    | 1 => cases hk; cases hx; exact any _ j hj
    | _+2 => cases hk
  bonds := by simp [twoAny]
  molecule := by simp [twoAny]
  stereo := by simp [twoAny]

theorem pipeline_length_le (raw : List (List Nat)) (q : Query) (m : Mol) :
    (pipeline raw q m).length ≤ raw.length := by
  unfold pipeline
  split
  · exact Nat.le_trans (List.length_filter_le _ _)
      (Nat.le_trans (List.length_filter_le _ _) (List.length_filter_le _ _))
  · simp

/-- The capped full statement fails: the 102·101 ordered pairs of distinct atoms of `hydrogens 102` are all embeddings
of `twoAny`, and the capped matcher returns at most 10 000 assignments (pigeonhole). -/
theorem C08_capped_iff_full_fails : ¬ C08_capped_iff_full := by
  intro h
  have hq : twoAny.wf = true := by decide
  have hm : (hydrogens 102).wf = true := by decide
  have hs : NoStar twoAny = true := by decide
  have hsub : ∀ p ∈ (Finset.range 102).offDiag, [p.1, p.2] ∈ (queryMatchesCapped twoAny (hydrogens 102)).toFinset := by
    intro p hp
    simp only [Finset.mem_offDiag, Finset.mem_range] at hp
    exact List.mem_toFinset.mpr ((h twoAny _ _ hq hm hs).2 (twoAny_embeds hp.1 hp.2.1 hp.2.2))
  have hlen : (queryMatchesCapped twoAny (hydrogens 102)).length ≤ 10000 := by
    unfold queryMatchesCapped
    exact Nat.le_trans (pipeline_length_le _ _ _) (by simp [maxMatches, List.length_take])
  have hcard := Finset.card_le_card_of_injOn (fun p : ℕ × ℕ => [p.1, p.2]) hsub
    (fun p _ q _ hpq => by simp only [List.cons.injEq, and_true] at hpq; exact Prod.ext hpq.1 hpq.2)
  rw [Finset.offDiag_card, Finset.card_range] at hcard
  exact absurd (hcard.trans ((List.toFinset_card_le _).trans hlen)) (by decide)

end PGA.C08
