import PGA.Proofs.Decompose
import PGA.Props.C03
/-!
# C02, end to end — the decomposition of a molecule from the raw graph and the scheme's pattern trees

`PGA.Decompose.decompose S m` (`PGA/Model/Decompose.lean`) = Benson perception, then the model matcher (C08) on every
pattern of the scheme, then the decomposition logic above the matcher (`Props/C02.lean`).  Here the matcher theorem
with the cap explicit (`C08_capped_iff_partial`, through `mem_capped_scheme`) is plugged into the C02 theorems:
`decompose` equals the declarative reading in which each pattern's matches are *exactly its embeddings*
(`Spec.Embeds`), whatever their order and multiplicity.

Hypotheses (all decidable, all checked on every case of the correspondence run): the graph is well-formed (`Mol.wf`),
the queries are well-formed (guaranteed by the reader: `C02_load_wf`), no pattern uses the `*` suffix (FM1; no shipped
scheme does), every pattern's candidate count on the aromatised graph stays below the cap of 10 000 (F30), the remap
table is chain-free (table obligation of C14 for the shipped schemes).
-/
namespace PGA.C02
open PGA PGA.Spec PGA.Scheme PGA.Decompose PGA.Match

/-- **The reader only produces well-formed queries**: every query of a scheme that loads has its bonds and stereo
statements between declared atoms. -/
theorem C02_load_wf (src : SchemeSrc) (S : SchemeDef) (h : src.load = .ok S) : S.wf = true := load_wf src S h

/-- the driver enumerates each pattern's candidates once and reports their number; what it then computes is `decompose` -/
theorem C02_driver_computes_decompose (S : SchemeDef) (m : Mol) :
    getDescriptors (toInputOfRaws S (aromatizeBenson m)
      (S.centres.map fun c => rawMatches c.q (aromatizeBenson m)) (S.descs.map fun d => rawMatches d.q (aromatizeBenson m)))
      = decompose S m := by
  rw [toInputOfRaws_eq]; rfl

/-- **Matcher plugged in**: below the cap, the match lists the end-to-end model hands to the decomposition logic are
exactly the embeddings of the scheme's patterns in the aromatised graph. -/
theorem C02_toInput_declares (S : SchemeDef) (m : Mol) (hm : m.wf = true) (hq : S.wf = true) (hs : S.noStar = true)
    (hcap : maxRaw S (aromatizeBenson m) < maxMatches) :
    Declares S (aromatizeBenson m) (toInput S (aromatizeBenson m)) :=
  toInput_declares S _ (wf_aromatizeBenson m hm) hq hs hcap

/-- **C02 end to end.** For every scheme, every molecule graph and *every* input `inp` of the decomposition logic whose
match lists are exactly the embeddings of the scheme's patterns in the Benson-aromatised graph (`Declares`: any order,
any multiplicity, neighbours in any order): `decompose S m` fails exactly when the declarative reading fails, and
otherwise gives every name the same count.  With the theorems of `Props/C02.lean` about arbitrary inputs this is the
declared decomposition: one centre pattern per atom, groups by centre and neighbour peripheral multiset, correction
descriptors per distinct embedded atom set, remaps as linear substitution. -/
theorem C02_decompose_declared (S : SchemeDef) (m : Mol) (inp : Input)
    (hm : m.wf = true) (hq : S.wf = true) (hs : S.noStar = true)
    (hcap : maxRaw S (aromatizeBenson m) < maxMatches) (hcf : ChainFree S.remaps)
    (hd : Declares S (aromatizeBenson m) inp) :
    (decompose S m = .error .patternMatch ↔ getDescriptors inp = .error .patternMatch) ∧
    ∀ res res', decompose S m = .ok res → getDescriptors inp = .ok res' → ∀ t, res.get t = res'.get t := by
  have R := declares_relabel S _ inp _ hd (C02_toInput_declares S m hm hq hs hcap)
  have hcf' : ChainFree inp.remaps := by rw [hd.remaps]; exact hcf
  have := C03_descriptors_relabel R hcf'
  exact ⟨this.1, fun res res' h h' t => this.2 res' res h' h t⟩

/-- the model's count of matching centre entries is the number of entries with an embedding centred on the atom -/
theorem cnt_toInput (S : SchemeDef) (m : Mol) (hm : m.wf = true) (hq : S.wf = true) (hs : S.noStar = true)
    (hcap : maxRaw S m < maxMatches) (i : Nat) : cnt (toInput S m).centres i = centreCount S m i := by
  obtain ⟨memC, _⟩ := mem_capped_scheme S m hm hq hs hcap
  unfold cnt centreCount toInput
  rw [List.filter_map, List.length_map]
  refine congrArg _ (List.filter_congr fun c hc => ?_)
  rw [Bool.eq_iff_iff]
  simp only [Function.comp, decide_eq_true_eq, mem_firstAtoms, memC c hc]

/-- **Failure clause, end to end.** `decompose` raises the pattern-match error exactly when, in the aromatised graph, some
atom is the centre atom of embeddings of two or more centre entries of the scheme, or some atom of the molecule is the
centre atom of an embedding of none — never in any other case, and never a partial result. -/
theorem C02_decompose_error_iff (S : SchemeDef) (m : Mol)
    (hm : m.wf = true) (hq : S.wf = true) (hs : S.noStar = true) (hcap : maxRaw S (aromatizeBenson m) < maxMatches) :
    decompose S m = .error .patternMatch ↔
      (∃ i, 2 ≤ centreCount S (aromatizeBenson m) i) ∨ (∃ i, i < m.natoms ∧ centreCount S (aromatizeBenson m) i = 0) := by
  unfold decompose
  rw [C02_getDescriptors_error_iff, C02_assignCentres_error_iff]
  have hn : (toInput S (aromatizeBenson m)).n = m.natoms := aromatizeRings_natoms _ m
  simp only [cnt_toInput S _ (wf_aromatizeBenson m hm) hq hs hcap, hn]

/-! ### non-vacuity: a two-entry scheme (carbon with one hydrogen neighbour / a neutral, non-radical hydrogen) on a C–H fragment -/
def exScheme : SchemeDef :=
  { centres := [⟨"C", "C", ⟨"a", [], [⟨"c1", ⟨none, .elem 6, .free⟩, []⟩, ⟨"h", ⟨none, .elem 1, .free⟩, []⟩], [⟨1, 0, .single⟩], []⟩⟩,
                ⟨"H", "H", ⟨"b", [], [⟨"h1", ⟨none, .elem 1, .none⟩, []⟩], [], []⟩⟩],
    descs := [⟨"CH", ⟨"d", [], [⟨"c1", ⟨none, .elem 6, .free⟩, []⟩, ⟨"h", ⟨none, .elem 1, .free⟩, []⟩], [⟨1, 0, .single⟩], []⟩⟩],
    remaps := [] }

def exMol : Mol :=
  { atoms := [⟨6, 0, 3, false, some 1⟩, ⟨1, 0, 0, false, some 1⟩], bonds := [⟨0, 1, .single, false, .none, []⟩], rings := [] }

example : exMol.wf = true ∧ exScheme.wf = true ∧ exScheme.noStar = true ∧
    maxRaw exScheme (aromatizeBenson exMol) < maxMatches := by decide

example : ChainFree exScheme.remaps := by intro k ts h; simp [exScheme, lookupRemap] at h

example : Declares exScheme (aromatizeBenson exMol) (toInput exScheme (aromatizeBenson exMol)) :=
  C02_toInput_declares exScheme exMol (by decide) (by decide) (by decide) (by decide)

example : (toInput exScheme (aromatizeBenson exMol)).centres.map (·.ms) = [[[0, 1]], [[1]]] := by decide

end PGA.C02
