import PGA.Model.YamlTables
import PGA.Spec.SI
import PGA.Proofs.UnitsExt
import Mathlib.Tactic.Linarith
import Mathlib.Algebra.Order.Field.Rat
/-!
# C12 ↔ C10 — the unit table of the YAML loader model is a consequence of the units model

The C12/C13/C18 models never parse a unit expression: a unit is an abstract `(factor, dimension)` pair
looked up in `PGA.Yaml.unitTable`, which the translator dumps from the live `pgradd.Units.eval_qty`
(`PGA/Gen/YamlUnits.lean`).  The table obligations below remove that table from what has to be
believed: for **every row**, the C10 model of the unit-expression code (`PGA.Units`: scanner → parser →
evaluator → three-step `lookup`) evaluates the row's unit string

* over the unit database the model itself builds from the regenerated `builtin.py` definitions
  (`liveCfg`): to **exactly** the row's dimension and — except for five rows whose value the
  implementation computes with a floating-point rounding (`roundedUnits`) — to **exactly** the row's
  factor; the five within `10⁻¹⁵` relative (the decimal-literal abstraction computes `1/N_A`, `eV`
  and `erg` exactly, IEEE doubles round them: DESIGN 2.3);
* over the hand-written SI reference (`refCfg`, the database of `PGA/Spec/SI.lean`; nothing taken
  from the repository): to exactly the row's dimension and to the row's factor within `10⁻⁶` relative (the
  tolerance the reference grants units tied to measured constants) — so a changed unit definition
  (`cal = 4.1868 J`, a prefix, the exponent of `eV`) fails an obligation *of C12*.

`GAS_CONSTANT` likewise.  All by kernel evaluation (`decide +kernel`), one over each of the two databases
(`live_rows`, `ref_rows`); no row is left to a run-time comparison.
-/
namespace PGA.Yaml
open PGA.Units (Cfg evalStr liveCfg absR)

/-- the C12 model's dimension in the C10 model's type (integer exponents as rationals) -/
def Dim.toUnits (d : Dim) : PGA.Units.Dim := ⟨d.m, d.kg, d.s, d.A, d.K, d.mol, d.cd⟩

/-- the C10 model evaluates the unit string `u` over `cfg` to an exact magnitude within `tol` (relative) of
`q.factor` — equal to it when `tol = 0` — and to exactly `q`'s dimension -/
def AgreesWith (cfg : Cfg) (u : String) (q : UnitQ) (tol : Rat) : Prop :=
  ∃ v, evalStr cfg u.toList = .ok ⟨.exact v, q.dim.toUnits⟩ ∧ absR (v - q.factor) ≤ tol * absR v

def agreesB (cfg : Cfg) (u : String) (q : UnitQ) (tol : Rat) : Bool :=
  match evalStr cfg u.toList with
  | .ok ⟨.exact v, d⟩ => d == q.dim.toUnits && decide (absR (v - q.factor) ≤ tol * absR v)
  | _ => false

/-- `agreesB` as a function of the characters of the unit string -/
def agreesL (cfg : Cfg) (s : List Char) (q : UnitQ) (tol : Rat) : Bool :=
  match evalStr cfg s with
  | .ok ⟨.exact v, d⟩ => d == q.dim.toUnits && decide (absR (v - q.factor) ≤ tol * absR v)
  | _ => false

theorem agreesB_eq (cfg u q tol) : agreesB cfg u q tol = agreesL cfg u.toList q tol := rfl

theorem agreesL_sound {cfg : Cfg} {u : String} {q : UnitQ} {tol : Rat} (h : agreesL cfg u.toList q tol = true) :
    AgreesWith cfg u q tol := by
  unfold agreesL at h
  split at h
  · next v d heq =>
    simp only [Bool.and_eq_true, beq_iff_eq, decide_eq_true_eq] at h
    exact ⟨v, by rw [heq, h.1], h.2⟩
  · cases h

/-- `k c`, in a form in which the kernel computes the code point of `c` before `k` sees the character: the scanner
and the parser test every character against the generated Unicode range tables, and the kernel remembers what it has
evaluated only for terms that are the same, which the characters of a string, left as they come from `toList`, are not -/
def forceChar {β} (c : Char) (k : Char → β) : β :=
  match c.toNat with
  | 0 => k (Char.ofNat 0)
  | n + 1 => k (Char.ofNat (n + 1))

theorem forceChar_eq {β} (c : Char) (k : Char → β) : forceChar c k = k c := by
  unfold forceChar
  split <;> next h => rw [← Char.ofNat_toNat c, h]

/-- `k s`, every character of `s` by `forceChar` -/
def forceList {β} : List Char → (List Char → β) → β
  | [], k => k []
  | c :: cs, k => forceChar c fun c' => forceList cs fun cs' => k (c' :: cs')

theorem forceList_eq {β} (s : List Char) (k : List Char → β) : forceList s k = k s := by
  induction s generalizing k with
  | nil => rfl
  | cons c cs ih => simp only [forceList, forceChar_eq, ih]

theorem AgreesWith.exact {cfg : Cfg} {u : String} {q : UnitQ} (h : AgreesWith cfg u q 0) :
    evalStr cfg u.toList = .ok ⟨.exact q.factor, q.dim.toUnits⟩ := by
  obtain ⟨v, hv, hd⟩ := h
  rw [zero_mul, PGA.Units.absR_eq_abs, abs_nonpos_iff, sub_eq_zero] at hd
  rw [hv, hd]

theorem AgreesWith.mono {cfg : Cfg} {u : String} {q : UnitQ} {tol tol' : Rat} (ht : tol ≤ tol')
    (h : AgreesWith cfg u q tol) : AgreesWith cfg u q tol' := by
  obtain ⟨v, hv, hd⟩ := h
  exact ⟨v, hv, hd.trans (mul_le_mul_of_nonneg_right ht (PGA.Units.absR_nonneg v))⟩

/-- the unit strings whose factor the implementation obtains with a rounding of IEEE double arithmetic
(`1/6.02214179e23`, `1.602176487e-19 · 6.02…e23`, `1e-7`): the model's exact value and the dumped shortest-repr
decimal differ in the 16th–17th significant digit -/
def roundedUnits : List String := ["J/molecule", "eV/(molecule K)", "eV/molecule", "erg/mol", "meV/molecule"]

def liveTol (u : String) : Rat := if roundedUnits.contains u then 1 / 10 ^ 15 else 0

/-! ## over the live unit database (built by the model from the regenerated `builtin.py` definitions) -/

/-- the defining expression of `pgradd.Consts.GAS_CONSTANT` (reference: `eval_qty('8.314472 J/(mol K)')`) -/
def gasConstantText : String := "8.314472 J/(mol K)"

/-- One kernel evaluation for all rows and `GAS_CONSTANT`, which are about the one database `liveCfg`: every row
agrees within `liveTol`, and agrees exactly just when it is not in `roundedUnits`. -/
theorem live_rows :
    (unitTable.all fun p => forceList p.1.toList fun s =>
      agreesL liveCfg s p.2 (liveTol p.1) && (agreesL liveCfg s p.2 0 == !roundedUnits.contains p.1)) = true ∧
    (forceList gasConstantText.toList fun s =>
      agreesL liveCfg s (unitOfRow PGA.Gen.YamlUnits.gasConstant) 0) = true := by decide +kernel

theorem live_row {p : String × UnitQ} (hp : p ∈ unitTable) :
    agreesL liveCfg p.1.toList p.2 (liveTol p.1) = true ∧
      agreesL liveCfg p.1.toList p.2 0 = !roundedUnits.contains p.1 := by
  have h := List.all_eq_true.mp live_rows.1 p hp
  rwa [forceList_eq, Bool.and_eq_true, beq_iff_eq] at h

/-- **Table obligation (C12 ← C10, live definitions)**: every row of the unit table the YAML loader model uses is
what the C10 model of `eval_qty` computes for the row's unit string over the database it builds from the live
unit definitions: the dimension exactly; the factor exactly, for the five `roundedUnits` within 10⁻¹⁵ relative. -/
theorem C12_tab_units_from_units_model :
    ∀ p ∈ unitTable, AgreesWith liveCfg p.1 p.2 (liveTol p.1) := fun _ hp => agreesL_sound (live_row hp).1

/-- … in particular, for every row outside `roundedUnits`, `eval_qty(u)` *is* the row (exact equality of the
rational magnitude and of all seven exponents) -/
theorem C12_tab_units_exact (p : String × UnitQ) (hp : p ∈ unitTable) (hr : roundedUnits.contains p.1 = false) :
    evalStr liveCfg p.1.toList = .ok ⟨.exact p.2.factor, p.2.dim.toUnits⟩ := by
  have h := C12_tab_units_from_units_model p hp
  unfold liveTol at h
  rw [hr] at h
  exact h.exact

/-- the exception list is not padded: each of the five rows really differs from the model's exact value -/
theorem C12_tab_rounded_units_minimal :
    (unitTable.filter fun p => !agreesB liveCfg p.1 p.2 0).map (·.1) = roundedUnits := by
  rw [List.filter_congr fun p hp => show (!agreesB liveCfg p.1 p.2 0) = roundedUnits.contains p.1 by
    rw [agreesB_eq, (live_row hp).2, Bool.not_not]]
  decide +kernel

/-- **Table obligation**: `GAS_CONSTANT` as the loader model uses it (`gasR`) is exactly what the C10 model computes
for its defining expression over the live unit database. -/
theorem C12_tab_gas_constant_from_units_model :
    AgreesWith liveCfg gasConstantText (unitOfRow PGA.Gen.YamlUnits.gasConstant) 0 := by
  have h := live_rows.2
  rw [forceList_eq] at h
  exact agreesL_sound h

/-! ## over the SI reference (nothing taken from the repository) -/

/-- the unit database of the SI reference table: every reference unit with its exact reference value, the twenty SI
prefixes, the documented snapping threshold -/
def refCfg : Cfg :=
  { thr := 1 / 10 ^ 7,
    prefixes := PGA.SI.prefixes.map fun pk => (pk.1, (10 : Rat) ^ pk.2),
    db := PGA.SI.units.map fun r => (r.name, ⟨.exact r.value, r.dim⟩) }

theorem refCfg_eq : refCfg = PGA.SI.cfgOf PGA.SI.units := rfl

/-- the rows that need not equal the reference: units tied to a measured constant (`molecule`, `eV`) or quoted as a
rounded decimal (`BTU`), and `erg/mol`, whose dumped factor carries a floating-point rounding (`roundedUnits`) -/
def measuredUnits : List String :=
  ["J/molecule", "eV/(molecule K)", "eV/molecule", "meV/molecule", "BTU/(mol K)", "BTU/mol", "erg/mol"]

/-- The kernel evaluation over the SI reference: every row agrees exactly, the `measuredUnits` within 10⁻⁶. -/
theorem ref_rows :
    (unitTable.all fun p => forceList p.1.toList fun s =>
      agreesL refCfg s p.2 (if measuredUnits.contains p.1 then 1 / 10 ^ 6 else 0)) = true := by decide +kernel

theorem ref_row {p : String × UnitQ} (hp : p ∈ unitTable) :
    AgreesWith refCfg p.1 p.2 (if measuredUnits.contains p.1 then 1 / 10 ^ 6 else 0) := by
  have h := List.all_eq_true.mp ref_rows p hp
  rw [forceList_eq] at h
  exact agreesL_sound h

/-- **Table obligation (C12 ← SI reference)**: every row of the loader model's unit table has exactly the dimension,
and within 10⁻⁶ relative the factor, that the C10 evaluator computes for its unit string over the hand-written SI
reference — a changed unit definition or prefix in the repository breaks this obligation of C12. -/
theorem C12_tab_units_from_si_reference :
    ∀ p ∈ unitTable, AgreesWith refCfg p.1 p.2 (1 / 10 ^ 6) := fun _ hp =>
  (ref_row hp).mono (by split <;> norm_num)

/-- **Table obligation (C12 ← extended reference)**: the same holds over the reference *extended by the units of the
working tree that the reference does not know* (`PGA/Spec/SIExt.lean`: each new unit means what its definition means,
and none of its spellings had a meaning before): a grown unit table changes what no row of the loader's table denotes
— a consequence of the conservativity theorem, not a second table evaluation. -/
theorem C12_tab_units_from_ext_reference :
    ∀ p ∈ unitTable, AgreesWith PGA.SI.extCfg p.1 p.2 (1 / 10 ^ 6) := by
  intro p hp
  obtain ⟨v, hv, hd⟩ := C12_tab_units_from_si_reference p hp
  exact ⟨v, PGA.Units.evalStr_extend PGA.SI.ext_conservative _ _ (refCfg_eq ▸ hv), hd⟩

/-- … and the rows outside `measuredUnits` agree with the reference exactly -/
theorem C12_tab_units_si_exact :
    ∀ p ∈ unitTable, measuredUnits.contains p.1 = false → AgreesWith refCfg p.1 p.2 0 := by
  intro p hp hm
  have := ref_row hp
  rwa [hm, if_neg Bool.false_ne_true] at this

/-- `GAS_CONSTANT`: the dimension of J/(mol K) exactly, the value within 10⁻⁵ of the SI value (the package quotes the
CODATA 2006 value 8.314472) -/
theorem C12_tab_gas_constant_from_si_reference :
    (unitOfRow PGA.Gen.YamlUnits.gasConstant).dim.toUnits = PGA.SI.gasConstant.dim ∧
    PGA.SI.gasConstant.admits 1 (unitOfRow PGA.Gen.YamlUnits.gasConstant).factor = true := by decide +kernel

/-! ## non-vacuity -/

example : 40 ≤ unitTable.length ∧ (unitTable.lookup "kcal/mol").isSome = true := by decide +kernel
example : unitTable.lookup "kJ/mol" = some ⟨1000, ⟨2, 1, -2, 0, 0, -1, 0⟩⟩ := by decide +kernel

end PGA.Yaml
