import PGA.Proofs.UnitsTablesLive
import PGA.Proofs.UnitsTablesRef
import PGA.Proofs.UnitsExt
import PGA.Proofs.UnitsDen
import PGA.Proofs.UnitsLex
import PGA.Proofs.Qty
/-!
# C10 — unit expressions evaluate to the exact SI value and dimension

Table obligations (`C10_tab_*`: the live unit database, prefixes and constants against the SI reference, decided by the
kernel), the reference extended by the units it does not know, and the general theorems: T3 (every token list ends in a
value, the units parse error or an arithmetic error), T2 (parser and evaluator are correct on every expression tree, and
the package agrees with the extended reference), their corollaries for texts, T4 (conversion laws), the lookup order.
-/
namespace PGA.Units
open PGA.SI SExpr

/-! ## Table obligations (decided by the kernel over the regenerated `PGA.Gen.Units`) -/

/-- Table obligation: evaluating `builtin.py`'s definitional strings through the model's own parser, in order,
succeeds (no definition is unparsable, refers to a later unit, or divides by zero). -/
theorem C10_tab_db_built : ∃ c, buildCfg = .ok c ∧ liveCfg = c := by
  cases h : buildCfg with
  | ok c => exact ⟨c, rfl, by rw [liveCfg, h]⟩
  | error e => have := liveCfg_checks.1; rw [h] at this; cases this

/-- Table obligation: the model's database has exactly the keys of the live `units_db` (same order); every key is a
unit of the hand-written SI reference or a *new* unit consistent with its definition (a unit of the extended reference,
`PGA/Spec/SIExt.lean`); every reference unit is in the database. -/
theorem C10_tab_names : checkNames liveCfg = true := liveCfg_checks.2.1

/-- Table obligation: the live prefix table is the SI prefix table: each SI prefix is present with value `10^k`
exactly, and there is no other prefix. -/
theorem C10_tab_prefixes :
    (∀ pk ∈ SI.prefixes, liveCfg.prefixes.find pk.1 = some ((10 : Rat) ^ pk.2)) ∧
    (∀ pv ∈ liveCfg.prefixes, ∃ pk ∈ SI.prefixes, pk.1 = pv.1) :=
  checkPrefixes_sound liveCfg_checks.2.2.1

/-- Table obligation **T1**: for every unit `r` of the SI reference and every SI prefix `p = 10^k` (and no prefix,
`k = 0`), unless `p ++ r.name` is itself a unit name, `lookup (p ++ r.name)` is an exact magnitude within the entry's
tolerance of `10^k · r.value` (tolerance 0: equal) with exactly the reference dimension. -/
theorem C10_tab_units : ∀ r ∈ SI.units, ∀ pk ∈ allPrefixes, find (pk.1 ++ r.name) = none →
    ResolvesTo liveCfg (pk.1 ++ r.name) ((10 : Rat) ^ pk.2) r :=
  fun r hr pk hpk => ((checkAllUnits_sound checkAllUnits_live) r hr pk hpk).1

/-- Table obligation: the prefixed names that are themselves unit names are exactly `min` (minute, not milli-inch)
and `ft` (foot, not femto-tonne), and each resolves to that unit. -/
theorem C10_tab_collisions :
    collisions = [(['m'], ['i', 'n'], ['m', 'i', 'n']), (['f'], ['t'], ['f', 't'])] ∧
    ∀ r ∈ SI.units, ∀ pk ∈ allPrefixes, ∀ r', find (pk.1 ++ r.name) = some r' →
      ResolvesTo liveCfg (pk.1 ++ r.name) 1 r' :=
  ⟨by simp only [collisions, find_isSome_eq]; decide +kernel,
    fun r hr pk hpk => ((checkAllUnits_sound checkAllUnits_live) r hr pk hpk).2⟩

/-- Table obligation: `Consts.GAS_CONSTANT` is the molar gas constant: J/(mol·K) and within 10⁻⁵ of 8.31446261815324. -/
theorem C10_tab_gas_constant : checkGasConstant = true := by decide +kernel

/-- Table obligation: every database entry is an exact positive magnitude with integer exponents, every prefix is
positive and the snapping threshold is strictly between 0 and 1/2 (hypotheses of the general theorems, discharged
for the live tables). -/
theorem C10_tab_db_integral : checkIntegral liveCfg = true := liveCfg_checks.2.2.2.1

/-! ## Units the reference does not know: their meaning is their definition (`PGA/Spec/SIExt.lean`) -/

/-- Table obligation: every unit of the live tables that the SI reference does not know is **new and consistent with
its definition**: none of its 21 spellings (the name, and each SI prefix before it) had a meaning over the reference
extended by the new units registered before it — so it takes over, hides or is hidden by nothing (`Eh` ≠ exa-hour,
`dam` ≠ deci-`am`) —, its definition evaluates over that table to an exact positive magnitude with integer
exponents, and over the final extended reference the definition string still evaluates to exactly what the unit
means.  (No new unit: nothing to check.) -/
theorem C10_tab_new_units_accepted :
    ∀ x ∈ liveVerdicts, ∃ r, x.2.2 = .accepted r ∧ r ∈ newUnits ∧ r.name = x.1 ∧
      ∀ s, x.2.1 = .text s → evalStr extCfg s = .ok ⟨.exact r.value, r.dim⟩ := by
  have h : checkNewAccepted = true := by decide +kernel
  intro x hx
  have hacc := (List.all_eq_true.mp h) x hx
  obtain ⟨n, df, v⟩ := x
  cases v with
  | accepted r =>
    exact ⟨r, rfl, mem_acceptedOf hx, ext_name _ hx r rfl, fun s hs => (ext_defined _ hx s r hs rfl).1⟩
  | ambiguous s => simp [Verdict.isAccepted] at hacc
  | badDefinition e => simp [Verdict.isAccepted] at hacc
  | unsupported => simp [Verdict.isAccepted] at hacc
  | notAWord => simp [Verdict.isAccepted] at hacc

-- non-vacuity of the verdicts, independent of the live tables: `kWh` is accepted and means 3.6 MJ exactly; `Eh` would take
-- over exa-hour; `tm` would make `datm` ambiguous; a definition through an unknown name is refused; `amu` inherits `u`'s tolerance
example : (match judge SI.units ['k', 'W', 'h'] (.text ['3', '.', '6', '*', '1', '0', '^', '6', ' ', 'J']) with
    | .accepted r => decide (r.value = 3600000 ∧ r.dim = SI.energy ∧ r.tol = 0)
    | _ => false) = true := by decide +kernel
example : (match judge SI.units ['E', 'h'] (.text ['J']) with
    | .ambiguous s => decide (s = ['E', 'h'])
    | _ => false) = true := by decide +kernel
example : (match judge SI.units ['t', 'm'] (.text ['k', 'm']) with
    | .ambiguous s => decide (s = ['d', 'a', 't', 'm'])
    | _ => false) = true := by decide +kernel
example : (match judge SI.units ['w', 'k'] (.text ['7', ' ', 'd', 'y']) with
    | .badDefinition e => decide (e = .unitsParse)
    | _ => false) = true := by decide +kernel
example : (match judge SI.units ['a', 'm', 'u'] (.text ['u']) with
    | .accepted r => decide (r.tol = 1 / 10 ^ 6)
    | _ => false) = true := by decide +kernel

/-- Table obligation **T1 for new units**: for every new unit `r` and every SI prefix `p = 10^k` (and no prefix), the
package's `lookup (p ++ r.name)` is an exact magnitude equal to `10^k` times what the definition of `r` means over the
extended reference (within the tolerance the definition inherits from units tied to measured constants; 0 otherwise)
with exactly that dimension.  The package evaluated the definition when it registered the unit, against its database
as it was then: a definition placed before a unit it uses, or a changed unit underneath it, fails here. -/
theorem C10_tab_new_units : ∀ r ∈ newUnits, ∀ pk ∈ allPrefixes,
    ResolvesTo liveCfg (pk.1 ++ r.name) ((10 : Rat) ^ pk.2) r :=
  checkNewUnits_sound checkNewUnits_live

/-- **A fresh unit changes no meaning** (all tables, all expressions): if no spelling of `n` — bare or with a prefix
of the table — had a meaning over `c`, then after `units_db.add(n, v)` every expression tree of any size that had a
value has the same value. -/
theorem C10_new_unit_changes_nothing (c : Cfg) (n : Name) (v : Val) (hf : Fresh c n) (t : Tree) (w : Val)
    (h : evalTree c t = .ok w) : evalTree (addUnit c n v) t = .ok w :=
  evalTree_extend (conservative_addUnit v hf) t w h

-- non-vacuity: `kWh` is fresh over the reference
example : Fresh (cfgOf SI.units) ['k', 'W', 'h'] := fresh_of_firstTaken (by decide +kernel)

/-- **The extended reference is a conservative extension of the reference** — by construction, whatever
`builtin.py` defines: every text that has a value over the hand-written SI reference has the same value over the
reference extended by the accepted new units (every name, prefixed name and expression keeps its meaning). -/
theorem C10_ext_conservative (s : List Char) (w : Val) (h : evalStr (cfgOf SI.units) s = .ok w) :
    evalStr extCfg s = .ok w :=
  evalStr_extend ext_conservative s w h

example : evalStr (cfgOf SI.units) ['k', 'J', '/', 'm', 'o', 'l'] =
    .ok ⟨.exact 1000, ⟨2, 1, -2, 0, 0, -1, 0⟩⟩ := by decide +kernel

/-- Table obligation: the extended reference read through the three-step lookup means what it says: every spelling
`p ++ name` of a reference unit resolves to `10^k · value` with the unit's dimension — unless it is itself a
reference unit name (`min`, `ft`), which it then is —, and every spelling of a new unit resolves to `10^k` times what
the unit means. -/
theorem C10_tab_ext_spellings :
    (∀ r ∈ SI.units, ∀ pk ∈ allPrefixes,
      (find (pk.1 ++ r.name) = none →
        lookup extCfg (pk.1 ++ r.name) = .ok ⟨.exact ((10 : Rat) ^ pk.2 * r.value), r.dim⟩) ∧
      (∀ r', find (pk.1 ++ r.name) = some r' → lookup extCfg (pk.1 ++ r.name) = .ok ⟨.exact r'.value, r'.dim⟩)) ∧
    (∀ r ∈ newUnits, ∀ pk ∈ allPrefixes,
      lookup extCfg (pk.1 ++ r.name) = .ok ⟨.exact ((10 : Rat) ^ pk.2 * r.value), r.dim⟩) := by
  refine ⟨fun r hr pk hpk => ?_, checkExtNew_sound (by decide +kernel)⟩
  have h := checkRefSelf_sound checkRefSelf_holds r hr pk hpk
  exact ⟨fun hn => ext_conservative.2 _ _ (h.1 hn), fun r' hs => ext_conservative.2 _ _ (h.2 r' hs)⟩

/-- Table obligation: every entry of the extended reference is an exact positive magnitude with integer exponents
(hypothesis of the general theorems, discharged for the extended reference). -/
theorem C10_tab_ext_integral : checkIntegral extCfg = true := by decide +kernel

/-! ## T3 — every token list ends in a value, the units parse error or an arithmetic error -/

/-- **T3** For every configuration (any unit database, prefix table, threshold) and every token list of any length
whose number tokens respect the interpreter's digit limit: evaluation never ends in an internal outcome (the
model's recursion budget, `ValueError`, a complex number, `KeyError`, `AttributeError`) nor in the units error. -/
theorem C10_no_internal_outcome (cfg : Cfg) (ts : List Tok) (hd : ∀ t ∈ ts, t.digitsOK) :
    (∀ k, evalTokens cfg ts ≠ .error (.internal k)) ∧ evalTokens cfg ts ≠ .error .unitsError := by
  have key : ∀ e, evalTokens cfg ts = .error e → e = .unitsParse ∨ e = .math := by
    intro e h
    rcases bind_error h with hp | ⟨t, _, ht⟩
    · rcases parseTokens_errors ts e hp with hp | ⟨_, t, hm, hb⟩
      · exact Or.inl hp
      · exact absurd (hd t hm) hb
    · exact evalTree_error cfg t e ht
  refine ⟨fun k h => ?_, fun h => ?_⟩
  · rcases key _ h with h' | h' <;> cases h'
  · rcases key _ h with h' | h' <;> cases h'

example : ∀ t ∈ [Tok.word ['m'], .sym '^', .num true ['2']], t.digitsOK := by
  intro t ht
  simp only [List.mem_cons, List.mem_nil_iff, or_false] at ht
  rcases ht with rfl | rfl | rfl <;> simp [Tok.digitsOK] <;> decide

/-- **T3** One of the three outcomes: a value, the units parse error or the arithmetic error. -/
theorem C10_outcome_trichotomy (cfg : Cfg) (ts : List Tok) (hd : ∀ t ∈ ts, t.digitsOK) :
    (∃ v, evalTokens cfg ts = .ok v) ∨ evalTokens cfg ts = .error .unitsParse ∨ evalTokens cfg ts = .error .math := by
  have h := C10_no_internal_outcome cfg ts hd
  cases hr : evalTokens cfg ts with
  | ok v => exact Or.inl ⟨v, rfl⟩
  | error e =>
    cases e with
    | unitsParse => exact Or.inr (Or.inl rfl)
    | math => exact Or.inr (Or.inr rfl)
    | unitsError => exact absurd hr h.2
    | internal k => exact absurd hr (h.1 k)

/-- **T3** A token list outside the grammar (the parser fails on it) is rejected with the units parse error — never
with another exception. -/
theorem C10_malformed_rejected (cfg : Cfg) (ts : List Tok) (hd : ∀ t ∈ ts, t.digitsOK) (e : Err)
    (h : parseTokens ts = .error e) : evalTokens cfg ts = .error .unitsParse := by
  rcases parseTokens_errors ts e h with hp | ⟨_, t, hm, hb⟩
  · subst hp; simp [evalTokens, h, bind, Except.bind]
  · exact absurd (hd t hm) hb

example : parseTokens [Tok.word ['m'], .sym '^'] = .error .unitsParse := by decide +kernel

/-! ## T2 — parser and evaluator are correct on all expression trees -/

/-- the table obligation `C10_tab_db_integral` in the form the general theorems use -/
theorem checkIntegral_sound {cfg : Cfg} (h : checkIntegral cfg = true) : CfgGood cfg := by
  simp only [checkIntegral, Bool.and_eq_true, decide_eq_true_eq] at h
  obtain ⟨⟨⟨hdb, _⟩, hthr⟩, _⟩ := h
  refine ⟨le_of_lt hthr, fun kv hkv => ?_⟩
  have := (List.all_eq_true.mp hdb) kv hkv
  simp only [Bool.and_eq_true] at this
  obtain ⟨hm, hd⟩ := this
  have hq : ∃ q, kv.2.mag = .exact q := by
    cases hmag : kv.2.mag with
    | exact q => exact ⟨q, rfl⟩
    | inexact n => rw [hmag] at hm; simp [Mag.isExactPos] at hm
  obtain ⟨q, hq⟩ := hq
  refine ⟨q, hq, ?_⟩
  simp only [Dim.isIntegral, Dim.toList, List.all_cons, List.all_nil, Bool.and_true, Bool.and_eq_true] at hd
  exact hd

theorem liveCfg_good : CfgGood liveCfg := checkIntegral_sound C10_tab_db_integral

/-- **T2 (parser)** For every well-formed expression tree — any depth of parentheses, any length of
left-associated `*`, `/` and juxtaposition chains, integer, negative, fractional and parenthesised powers — the
parser reads the rendered token list back as the tree's syntax tree: no backtracking path, precedence or
associativity error exists. -/
theorem C10_parse_render (e : SExpr) (hwf : e.WF) : parseTokens (render e) = .ok (toTree e) :=
  parseTokens_render e hwf

-- non-vacuity: `2.5 kJ/(mol K^-1)` is well formed, and is read back
example : (SExpr.bin (.bin (.num ⟨false, ['2', '.', '5']⟩ none) .juxt (.name ['k', 'J'] none)) .over
    (.paren (.bin (.name ['m', 'o', 'l'] none) .juxt (.name ['K'] (some ⟨⟨true, ['1']⟩, false⟩))) none)).WF := by
  simp only [SExpr.WF, SExpr.pwWF, NumLit.WF, SExpr.isFactor]; decide +kernel

/-- **T2** `evalTokens (render e) = ⟦e⟧` for every well-formed tree with integer powers (any depth), over any
database whose entries are exact magnitudes with integer exponents: a value is the denoted magnitude and
exponent vector exactly; an unknown name is the units parse error; a zero divisor is the arithmetic error. -/
theorem C10_eval_render (cfg : Cfg) (hg : CfgGood cfg) (e : SExpr) (hwf : e.WF) (hint : e.IntPows) :
    match den cfg e with
    | .ok v => evalTokens cfg (render e) = .ok v.toVal
    | .error err => evalTokens cfg (render e) = .error err := by
  have h := eval_den hg e hint
  simp only [evalTokens, parseTokens_render e hwf, bind, Except.bind]
  cases hd : den cfg e with
  | ok v => rw [hd] at h; exact h.1
  | error err => rw [hd] at h; exact h

/-- the same for the live tables of the working tree (hypothesis discharged by the table obligation) -/
theorem C10_eval_render_live (e : SExpr) (hwf : e.WF) (hint : e.IntPows) :
    match den liveCfg e with
    | .ok v => evalTokens liveCfg (render e) = .ok v.toVal
    | .error err => evalTokens liveCfg (render e) = .error err :=
  C10_eval_render liveCfg liveCfg_good e hwf hint

/-- **T2 over the extended reference**: every well-formed tree with integer powers over the reference extended by
the new units evaluates to the value its tree denotes under the extended reference. -/
theorem C10_eval_render_ext (e : SExpr) (hwf : e.WF) (hint : e.IntPows) :
    match den extCfg e with
    | .ok v => evalTokens extCfg (render e) = .ok v.toVal
    | .error err => evalTokens extCfg (render e) = .error err :=
  C10_eval_render extCfg (checkIntegral_sound C10_tab_ext_integral) e hwf hint

/-! ### the package agrees with the extended reference on every expression over exactly defined units -/

theorem absR_eq_zero {x : Rat} (h : absR x ≤ 0) : x = 0 :=
  abs_nonpos_iff.mp (absR_eq_abs x ▸ h)

theorem admits_exact {r : Ref} {k v : Rat} (ht : r.tol = 0) (h : r.admits k v = true) : v = k * r.value := by
  simp only [Ref.admits, ht, zero_mul, decide_eq_true_eq] at h
  exact sub_eq_zero.mp (absR_eq_zero h)

/-- `s` is a spelling `p ++ name` (or `name`) of a unit of the extended reference that is defined exactly
(tolerance 0: not tied to a measured constant or a rounded decimal), and if it is itself a unit name, that unit is -/
def isExactSpelling (s : Name) : Bool :=
  extUnits.any fun r => decide (r.tol = 0) && allPrefixes.any fun pk => decide (s = pk.1 ++ r.name) &&
    (match find s with
     | some r' => decide (r'.tol = 0)
     | none => true)

/-- Table obligation: the snapping threshold of the package is the documented `10⁻⁷` of the reference. -/
theorem C10_tab_threshold : liveCfg.thr = extCfg.thr := liveCfg_checks.2.2.2.2.1

/-- On every exact spelling the package's database and the extended reference agree **exactly** (magnitude as a
rational, all seven exponents) — consequence of T1, T1 for new units and the reference's self-consistency. -/
theorem C10_exact_spellings_agree (s : Name) (h : isExactSpelling s = true) : lookup liveCfg s = lookup extCfg s := by
  simp only [isExactSpelling, List.any_eq_true, Bool.and_eq_true, decide_eq_true_eq] at h
  obtain ⟨r, hr, htol, pk, hpk, hs, hcol⟩ := h
  rcases List.mem_append.mp hr with hr | hr
  · have h1 := checkAllUnits_sound checkAllUnits_live r hr pk hpk
    have h2 := C10_tab_ext_spellings.1 r hr pk hpk
    rw [← hs] at h1 h2
    cases hf : find s with
    | none =>
      obtain ⟨v, dm, hl, hd, ha⟩ := h1.1 hf
      rw [hl, h2.1 hf, hd, admits_exact htol ha]
    | some r' =>
      rw [hf] at hcol
      have ht' : r'.tol = 0 := by simpa using hcol
      obtain ⟨v, dm, hl, hd, ha⟩ := h1.2 r' hf
      rw [hl, h2.2 r' hf, hd, admits_exact ht' ha, one_mul]
  · obtain ⟨v, dm, hl, hd, ha⟩ := C10_tab_new_units r hr pk hpk
    rw [hs, hl, C10_tab_ext_spellings.2 r hr pk hpk, hd, admits_exact htol ha]

/-- **Lifting to all expressions**: every syntax tree of any size — products, quotients, integer, negative and
fractional powers — all of whose names are exact spellings evaluates in the package's database to exactly what it
evaluates to over the extended reference: the same value or the same error. -/
theorem C10_live_eq_ext_tree (t : Tree) (h : ∀ s ∈ t.names, isExactSpelling s = true) :
    evalTree liveCfg t = evalTree extCfg t :=
  evalTree_congr C10_tab_threshold t (fun s hs => C10_exact_spellings_agree s (h s hs))

/-- … and so does every token list of any length (parser included). -/
theorem C10_live_eq_ext (ts : List Tok)
    (h : ∀ t, parseTokens ts = .ok t → ∀ s ∈ t.names, isExactSpelling s = true) :
    evalTokens liveCfg ts = evalTokens extCfg ts := by
  simp only [evalTokens, bind, Except.bind]
  cases hp : parseTokens ts with
  | error e => rfl
  | ok t => exact C10_live_eq_ext_tree t (h t hp)

-- non-vacuity: `kJ / (mol K)` parses, and `kJ`, `mol`, `K` are exact spellings
example : (match parseTokens [Tok.word ['k', 'J'], .sym '/', .sym '(', .word ['m', 'o', 'l'], .word ['K'], .sym ')'] with
    | .ok t => t.names.all isExactSpelling
    | .error _ => false) = true := by decide +kernel

-- non-vacuity: `(k m / s ^ (-2)) 3` is well formed with integer powers
example : (SExpr.bin (.paren (.bin (.name ['k'] none) .juxt (.bin (.name ['m'] none) .over
      (.name ['s'] (some ⟨⟨true, ['2']⟩, true⟩)))) none) .juxt (.num ⟨false, ['3']⟩ none)).IntPows := by
  simp only [IntPows, pwInt]; decide +kernel

/-- `evalTokens (render e)` is the denotation of `e`: the conclusion of `C10_eval_render`, `C10_eval_render_live` and
`C10_eval_render_ext` above, under a name -/
def EvalIsDen (cfg : Cfg) (e : SExpr) : Prop :=
  match den cfg e with
  | .ok v => evalTokens cfg (render e) = .ok v.toVal
  | .error err => evalTokens cfg (render e) = .error err

instance (cfg : Cfg) (e : SExpr) : Decidable (EvalIsDen cfg e) := by
  unfold EvalIsDen; split <;> infer_instance

/-- evaluating the spaced *text* of `e` gives the denotation of `e` -/
def EvalIsDen' (cfg : Cfg) (e : SExpr) : Prop :=
  match den cfg e with
  | .ok v => evalStr cfg (spaced (render e)) = .ok v.toVal
  | .error err => evalStr cfg (spaced (render e)) = .error err

/-- the statement without the restriction to integer powers … -/
def C10_eval_render_full : Prop :=
  ∀ (cfg : Cfg), CfgGood cfg → ∀ e : SExpr, e.WF → EvalIsDen cfg e

/-- … does not hold: a non-integer power of a magnitude other than 0 and 1 is irrational in general; the model
carries it as an inexact magnitude and `den` does not define it (`4^0.5`). -/
theorem C10_eval_render_full_false : ¬ C10_eval_render_full := by
  intro h
  have := h ⟨1 / 10 ^ 7, [], []⟩ ⟨by decide +kernel, fun kv hkv => by simp at hkv⟩
    (.num ⟨false, ['4']⟩ (some ⟨⟨false, ['0', '.', '5']⟩, false⟩))
    ⟨by constructor <;> decide +kernel, by constructor <;> decide +kernel⟩
  revert this
  decide +kernel

/-- **T2 (fractional powers, partial)** a sub-expression of magnitude 1 (a coherent SI unit or product of such)
raised to *any* power literal — fractional, negative — evaluates to magnitude 1 with the exponents scaled (and
snapped); where the scaled exponents are integers or farther than the threshold from an integer, scaled exactly. -/
theorem C10_eval_render_fractional_partial (cfg : Cfg) (ht : 0 ≤ cfg.thr) (s : Name) (d : Dim) (p : PowLit)
    (hl : lookup cfg s = .ok ⟨.exact 1, d⟩) (hp : p.lit.WF) :
    evalTokens cfg (render (.name s (some p))) = .ok ⟨.exact 1, Dim.pow cfg.thr d p.lit.value⟩ ∧
    ((Dim.smul p.lit.value d).All (Stable cfg.thr) →
      evalTokens cfg (render (.name s (some p))) = .ok ⟨.exact 1, Dim.smul p.lit.value d⟩) := by
  have hparse := parseTokens_render (.name s (some p)) hp
  have hpow : Mag.pow (.exact 1) p.lit.value = .ok (.exact 1) := by
    by_cases hi : isInt p.lit.value = true <;> simp [Mag.pow, hi]
  have key : evalTokens cfg (render (.name s (some p))) = .ok ⟨.exact 1, Dim.pow cfg.thr d p.lit.value⟩ := by
    simp only [evalTokens, hparse, bind, Except.bind, toTree, pwTree, evalTree, hl, Mag.isNeg]
    have : decide ((1 : Rat) < 0) = false := by decide
    simp only [this, Bool.false_and, Bool.false_eq_true, if_false, Val.pow, hpow, bind, Except.bind, pure, Except.pure]
  exact ⟨key, fun hs => by rw [key, Dim.pow_of_stable ht hs]⟩

example : lookup liveCfg ['m'] = .ok ⟨.exact 1, ⟨1, 0, 0, 0, 0, 0, 0⟩⟩ := by decide +kernel

/-! ## From token lists to texts -/

/-- **T3 (texts)** every text (any characters, any length up to the interpreter's digit limit
`PGA.Gen.Chars.intMaxStrDigits` — longer texts only matter if they contain a longer digit string) evaluates to a value, the units parse error or an arithmetic error. -/
theorem C10_no_internal_outcome_text (cfg : Cfg) (s : List Char) (h : s.length ≤ PGA.Gen.Chars.intMaxStrDigits) :
    (∀ k, evalStr cfg s ≠ .error (.internal k)) ∧ evalStr cfg s ≠ .error .unitsError :=
  C10_no_internal_outcome cfg (lex s) (lex_digitsOK s h)

/-- **T2 (texts)** writing the tokens of a tree separated by blanks and evaluating the *text* — scanner, parser,
evaluator — gives the denotation. -/
theorem C10_eval_text (cfg : Cfg) (hg : CfgGood cfg) (e : SExpr) (hwf : e.WF) (hint : e.IntPows)
    (hclean : ∀ t ∈ render e, CleanTok t) : EvalIsDen' cfg e := by
  have h := C10_eval_render cfg hg e hwf hint
  unfold EvalIsDen'
  simp only [evalStr, lex_spaced (render e) hclean]
  exact h

example : ∀ t ∈ render (.bin (.name ['k', 'J'] none) .over (.paren (.bin (.name ['m', 'o', 'l'] none) .juxt
    (.name ['K'] (some ⟨⟨true, ['1']⟩, false⟩))) none)), CleanTok t := by
  decide +kernel

/-! ## T4 — conversion laws -/

theorem Mag.div_exact (x : Rat) {m : Rat} (hm : m ≠ 0) : (Mag.exact x).div (.exact m) = .ok (.exact (x / m)) := by
  simp only [Mag.div, Mag.isZero, beq_iff_eq, hm, if_false, Mag.mul, Mag.inv, Rat.div_def]

/-- `in_units` on exact magnitudes: the ratio if division leaves no units, else the units error -/
theorem inUnits_exact (thr x : Rat) {m : Rat} (hm : m ≠ 0) (dq du : Dim) :
    inUnits thr ⟨.exact x, dq⟩ ⟨.exact m, du⟩ =
      if (Dim.div thr dq du).isZero then .ok (.exact (x / m)) else .error .unitsError := by
  simp only [inUnits, Val.div, Mag.div_exact x hm]; rfl

/-- **T4** `q.in_units(u)` for operands of the same dimension is the ratio of the SI magnitudes (a plain number). -/
theorem C10_in_units_ratio (thr : Rat) (ht : 0 ≤ thr) (x m : Rat) (d : Dim) (hm : m ≠ 0) :
    inUnits thr ⟨.exact x, d⟩ ⟨.exact m, d⟩ = .ok (.exact (x / m)) := by
  rw [inUnits_exact thr x hm, Dim.div_self]; rfl

/-- **T4** conversion between dimensions that differ (by more than the threshold in some exponent; for integer
exponents: that differ at all) is the units error. -/
theorem C10_in_units_incompatible (thr : Rat) (ht : 0 ≤ thr) (x m : Rat) (dq du : Dim) (hm : m ≠ 0)
    (hd : PGA.Qty.Dim.Differs thr dq du) :
    inUnits thr ⟨.exact x, dq⟩ ⟨.exact m, du⟩ = .error .unitsError := by
  rw [inUnits_exact thr x hm]
  exact if_neg fun hz => PGA.Qty.div_ne_zero_of_differs ht hd ((Dim.isZero_iff _).mp hz)

theorem C10_in_units_incompatible_integral (thr : Rat) (ht : 0 ≤ thr) (ht1 : thr < 1) (x m : Rat) (dq du : Dim)
    (hm : m ≠ 0) (hq : dq.Integral) (hu : du.Integral) (hd : dq ≠ du) :
    inUnits thr ⟨.exact x, dq⟩ ⟨.exact m, du⟩ = .error .unitsError :=
  C10_in_units_incompatible thr ht x m dq du hm (PGA.Qty.differs_of_integral ht1 hq hu hd)

/-- **T4** `in_units(with_units(x, u), u) = x` for EVERY number `x` — zero included, since the repair of F12 — and every
unit `u` of non-zero magnitude whose exponents `_build` leaves alone. -/
theorem C10_in_with_units (thr : Rat) (ht : 0 ≤ thr) (x m : Rat) (d : Dim) (hm : m ≠ 0)
    (hs : d.All (Stable thr)) :
    inUnits thr (withUnits thr x ⟨.exact m, d⟩) ⟨.exact m, d⟩ = .ok (.exact x) := by
  have hd : Dim.mul thr Dim.zero d = d := by
    rw [Dim.mul_of_stable ht ((Dim.zero_add d).symm ▸ hs), Dim.zero_add]
  have hw : withUnits thr x ⟨.exact m, d⟩ = ⟨.exact (x * m), d⟩ := congrArg (Val.mk _) hd
  rw [hw, C10_in_units_ratio thr ht _ m d hm, mul_div_cancel_right₀ x hm]

example : inUnits (1 / 10 ^ 7) (withUnits (1 / 10 ^ 7) (5 / 2) ⟨.exact (1 / 100), ⟨1, 0, 0, 0, 0, 0, 0⟩⟩)
    ⟨.exact (1 / 100), ⟨1, 0, 0, 0, 0, 0, 0⟩⟩ = .ok (.exact (5 / 2)) := by decide +kernel   -- 2.5 cm in cm
example : inUnits (1 / 10 ^ 7) (withUnits (1 / 10 ^ 7) 0 ⟨.exact (1 / 100), ⟨1, 0, 0, 0, 0, 0, 0⟩⟩)
    ⟨.exact (1 / 100), ⟨1, 0, 0, 0, 0, 0, 0⟩⟩ = .ok (.exact 0) := by decide +kernel   -- 0 cm in cm

/-- **T4** `from_SI_to(to_SI_from(x, u), u) = x` for every unit of non-zero magnitude … -/
theorem C10_from_to_SI (x m : Rat) (d : Dim) (hd : d.isZero = false) (hm : m ≠ 0) :
    toSI x ⟨.exact m, d⟩ = .ok (.exact (x * m)) ∧ fromSI (x * m) ⟨.exact m, d⟩ = .ok (.exact x) := by
  simp only [toSI, fromSI, hd, Bool.false_eq_true, if_false, Mag.mul, Mag.div_exact _ hm, mul_div_cancel_right₀ x hm,
    and_self]

/-- **T4** … and `to_SI_from(from_SI_to(x, u), u) = x`. -/
theorem C10_to_from_SI (x m : Rat) (d : Dim) (hd : d.isZero = false) (hm : m ≠ 0) :
    fromSI x ⟨.exact m, d⟩ = .ok (.exact (x / m)) ∧ toSI (x / m) ⟨.exact m, d⟩ = .ok (.exact x) := by
  simp only [toSI, fromSI, hd, Bool.false_eq_true, if_false, Mag.mul, Mag.div_exact _ hm, div_mul_cancel₀ x hm,
    and_self]

/-! ## The lookup order -/

/-- general form of the lookup order used by the table obligations: a name in the database is itself; otherwise a
one-letter prefix is tried, then the two-letter prefix `da` — never a `KeyError`. -/
theorem C10_lookup_prefixed (cfg : Cfg) (n : Name) :
    (∀ v, cfg.db.find n = some v → lookup cfg n = .ok v) ∧
    (cfg.db.find n = none → ∀ v p, cfg.db.find (n.drop 1) = some v → cfg.prefixes.find (n.take 1) = some p →
      lookup cfg n = .ok (scale cfg.thr p v)) ∧
    (∀ e, lookup cfg n = .error e → e = .unitsParse) := by
  refine ⟨fun v h => by simp only [lookup, h], fun hn v p hv hp => by simp only [lookup, hn, hv, hp],
    fun e h => lookup_error h⟩

end PGA.Units
