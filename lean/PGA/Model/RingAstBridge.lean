import PGA.Model.Ast
import PGA.Model.Match
import PGA.Model.RingParse
import PGA.Gen.RingGrammar
/-! # One tree for parser and reader: `PGA.Ring.Ast` (C09) → `PGA.Ast` (C08)

The C09 model of `Parser.py` (`PGA/Model/RingParse.lean`) builds trees whose nodes carry the *index*
of the grammar rule in the generated rule-name table (`PGA.Gen.RingGrammar.ruleNames`, dumped from
the live `Grammar.py` dictionaries) and whose leaves are `List Char` (`Literal`/`String` outputs) or
`Nat` (`Digit`/`Number` outputs).  The C08 model of `MolQueryRead.py` (`PGA/Model/Query.lean`)
consumes `PGA.Ast`: `node name children | leaf text`, integer leaves as their decimal ASCII text.
`Ast.toPGA` is the bridge; with it the whole path *text → tree → query → matches* is one Lean
function (`matchText`): the reader model is fed by the parser model, not by the implementation's parser
(`c08.batch` with `texts`). -/
namespace PGA.Ring

/-- the rule name behind a rule index (`RINGToken(name)`); an index outside the table cannot be
produced by the engine on the generated grammar and is rendered `#n` -/
def ruleNameOf (names : List String) (n : Nat) : String := (names[n]?).getD ("#" ++ toString n)

mutual
/-- the parser's tree as the readers see it -/
def Ast.toPGAWith (names : List String) : Ast → PGA.Ast
  | .node n kids => .node (ruleNameOf names n) (toPGAList names kids)
  | .str s => .leaf (String.ofList s)
  | .int v => .leaf (toString v)
def toPGAList (names : List String) : List Ast → List PGA.Ast
  | [] => []
  | k :: ks => k.toPGAWith names :: toPGAList names ks
end

/-- the bridge over the generated rule-name table -/
def Ast.toPGA (t : Ast) : PGA.Ast := t.toPGAWith PGA.Gen.RingGrammar.ruleNames

theorem toPGAList_eq_map (names : List String) (ks : List Ast) :
    toPGAList names ks = ks.map (Ast.toPGAWith names) := by
  induction ks with
  | nil => rfl
  | cons k ks ih => simp [toPGAList, ih]

end PGA.Ring

namespace PGA

mutual
/-- structural equality of reader trees (the driver compares the bridged model tree with the
implementation's serialised tree) -/
def Ast.same : Ast → Ast → Bool
  | .node n cs, .node m ds => n == m && Ast.sameList cs ds
  | .leaf s, .leaf t => s == t
  | _, _ => false
def Ast.sameList : List Ast → List Ast → Bool
  | [], [] => true
  | c :: cs, d :: ds => Ast.same c d && Ast.sameList cs ds
  | _, _ => false
end

/-- outcome of reading a text that is not a query -/
inductive TextErr where
  /-- `RINGSyntaxError` at (line, column) -/
  | syntax (line col : Nat)
  /-- the parser model's abort outcomes (proved unreachable on the shipped grammar: `C09_shipped_never_stuck`) -/
  | abort (a : Ring.Abort)
  /-- the reader's outcome on the parsed tree -/
  | read (e : ReadErr)
  deriving Repr

/-- the tree `Parser.parse(text)` hands to the reader, as the reader model's type -/
def parseText (s : List Char) : Except TextErr Ast :=
  match Ring.parse PGA.Gen.RingGrammar.enhanced s with
  | .accepted t _ => .ok t.toPGA
  | .syntaxError e => .error (.syntax e.line e.col)
  | .abort a => .error (.abort a)

/-- `Read(text)` for a fragment: C09 parser model on the generated (enhanced) grammar, bridge, C08 reader model -/
def readText (s : List Char) : Except TextErr Query :=
  match parseText s with
  | .error e => .error e
  | .ok t =>
    match readFragment t with
    | .ok q => .ok q
    | .error e => .error (.read e)

/-- `Read(text).GetQueryMatches(mol)` from the text on -/
def matchText (s : List Char) (m : Mol) : Except TextErr (List (List Nat)) :=
  (readText s).map (queryMatches · m)

end PGA
