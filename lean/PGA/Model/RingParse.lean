import PGA.Model.Chars
import PGA.Gen.RingChars
/-!
# Model of `pgradd/RINGParser/Parser.py` — the combinator engine (C09)

The engine interprets a grammar *table* (`Grammar`, generated from the live objects of `Grammar.py`
by `harness/gen/ring_grammar.py`).  It mirrors `ParseState` and the combinator classes:

* stream position `sidx`, human-readable `lineno`/`colno`, `take(n)` followed by `skip_filler()`,
  `peek(n)` as slicing (shorter than `n` at the end of the text);
* the backtrack stack of `with stream:` — functional here: a failing sub-parse does not return a
  state, its catcher continues from its own saved state;
* `current_error`: every error caught by a `with` block is merged into the furthest one seen so far
  (`RINGSyntaxError.update`), it is never reset, and `Either` re-raises it (stale or not);
* outputs are transactional at every `parse()` call (`inside_output = output[:]`), so a combinator
  either fails or appends items: `eval` returns the appended items.

Python recursion has no counterpart of the `bound` argument: a rule reference at an unchanged
position is allowed only to a rule of smaller generated rank, otherwise the outcome is `stuck`
(Python would recurse forever); `PGA.Props.C09` proves that a well-ranked table never gets there.
-/
set_option linter.unusedVariables false
namespace PGA.Ring
open PGA.Chars

/-- one grammar entry: a combinator object of Parser.py, or a rule name (`ref`) -/
inductive Expr where
  | eos                                             -- EOS()
  | digit (n : Nat)                                 -- Digit(n)
  | number                                          -- Number()
  | string                                          -- String()
  | lit (tok : List Char) (noErr : Bool)            -- Literal(tok, no_error) / DeprecatedLiteral
  | filler (tok : List Char) (noErr : Bool)         -- Filler(tok, no_error)
  | opt (e : Expr)                                  -- Optional(e)
  | star (e : Expr)                                 -- ZeroOrMore(e)
  | allNil                                          -- All(*reqs): end of the requirement list
  | allCons (e : Expr) (rest : Expr)
  | anyNil                                          -- Either(*alts): end of the alternative list
  | anyCons (e : Expr) (rest : Expr)
  | literals (toks : List (List Char)) (name : Option (List Char))  -- Literals([...]) in `alts` order
  | ref (n : Nat)                                   -- rule name (index into the rule-name table)
  deriving Repr, DecidableEq, Inhabited

structure Grammar where
  root : Nat
  rules : List (Option Expr)
  rank : List Nat
  filler : List (List Char)
  stringOkay : List (List Char)

/-- strict upper bound of every usable rank -/
def Grammar.top (G : Grammar) : Nat := G.rules.length + 1

/-- the abstract syntax tree built by `ParseState.parse`: `[RINGToken(name), child, …]`, `str`
outputs of `Literal`/`String`, `int` outputs of `Digit`/`Number` -/
inductive Ast where
  | node (rule : Nat) (kids : List Ast)
  | str (s : List Char)
  | int (n : Nat)
  deriving Repr, Inhabited

/-- an expected-token entry of `RINGSyntaxError.toks` -/
inductive Tok where
  | none                       -- `stream.error(None)` of a `no_error` literal
  | lit (s : List Char)        -- "%r" % tok
  | eos                        -- '<end of string>'
  | digit                      -- '<digit>'
  | number                     -- '<number>'
  | string                     -- '<string>'
  | named (s : List Char)      -- '<' + name + '>' of a named `Literals`
  deriving Repr, DecidableEq, Inhabited

structure Err where
  line : Nat
  col : Nat
  toks : List Tok
  deriving Repr, DecidableEq, Inhabited

/-- set union on token lists (`self.toks |= other.toks`), kept duplicate-free -/
def unionToks (a b : List Tok) : List Tok :=
  b.foldl (fun acc t => if t ∈ acc then acc else acc ++ [t]) a

/-- `new.update(old)` of Error.py, returning the updated `new` -/
def Err.update (new old : Err) : Err :=
  if new.line < old.line ∨ (new.line = old.line ∧ new.col < old.col) then
    { line := old.line, col := old.col, toks := old.toks }
  else if new.line = old.line ∧ new.col = old.col then
    { new with toks := unionToks new.toks old.toks }
  else new

/-- `__exit__` on a `RINGSyntaxError`: merge with `current_error`, which becomes the result -/
def catchErr (e : Err) (cur : Option Err) : Option Err :=
  match cur with
  | none => some e
  | some c => some (e.update c)

/-- kinds of non-RING exceptions the engine itself can raise -/
inductive Internal where
  | valueError     -- `int(out)`: more digits than the interpreter's int/str limit
  | raiseNone      -- `raise stream.current_error` with `current_error is None` (TypeError)
  | indexError     -- `output[0]` on an empty output
  deriving Repr, DecidableEq, Inhabited

inductive Abort where
  | stuck                      -- a rule re-entered without progress and without a smaller rank
  | missingRule (n : Nat)      -- `self.rules[what]` KeyError
  | hang                       -- a loop that does not advance
  | internal (k : Internal)
  deriving Repr, DecidableEq, Inhabited

/-- stream state: `rest` is `stream[sidx:]` -/
structure St where
  rest : List Char
  idx : Nat
  line : Nat
  col : Nat
  deriving Repr, DecidableEq, Inhabited

inductive Res where
  | ok (st : St) (out : List Ast) (cur : Option Err)
  | fail (e : Err) (cur : Option Err)       -- a RINGSyntaxError `e` propagates
  | abort (a : Abort)
  deriving Inhabited

/-- `skip_filler()`; `none` = the loop never ends (`''` listed as a filler, at the end of the text) -/
def skipFillerAux (fil : List (List Char)) : List Char → Nat → Nat → Nat → Option St
  | [], i, l, c => if [] ∈ fil then none else some ⟨[], i, l, c⟩
  | ch :: r, i, l, c =>
    if [ch] ∈ fil then
      (if ch = '\n' then skipFillerAux fil r (i + 1) (l + 1) 1 else skipFillerAux fil r (i + 1) l (c + 1))
    else some ⟨ch :: r, i, l, c⟩

def skipFiller (fil : List (List Char)) (st : St) : Option St :=
  skipFillerAux fil st.rest st.idx st.line st.col

/-- the line/column bookkeeping of `take` over the taken characters -/
def advance : List Char → Nat → Nat → Nat × Nat
  | [], l, c => (l, c)
  | ch :: r, l, c => if ch = '\n' then advance r (l + 1) 1 else advance r l (c + 1)

/-- `take(n)`: returns the taken text and the state after `skip_filler()`; `none` = hang -/
def take (fil : List (List Char)) (st : St) (n : Nat) : Option (List Char × St) :=
  let s := st.rest.take n
  let lc := advance s st.line st.col
  match skipFiller fil ⟨st.rest.drop n, st.idx + n, lc.1, lc.2⟩ with
  | none => none
  | some st' => some (s, st')

/-- `str.isdecimal()` of one character (the repaired `Digit`/`Number` test, F18) -/
def isDecimalChar (c : Char) : Bool := inRanges PGA.Gen.RingChars.isdecimalRanges c

/-- `c.isalpha() or c.isdigit() or c in string_okay` -/
def identChar (G : Grammar) (c : Char) : Bool :=
  isAlphaChar c || isDigitChar c || decide ([c] ∈ G.stringOkay)

def errAt (st : St) (t : Tok) : Err := ⟨st.line, st.col, [t]⟩

def litTok (tok : List Char) (noErr : Bool) : Tok := if noErr then .none else .lit tok

/-- `int(out)` -/
def pyInt (s : List Char) (k : Nat → Res) : Res :=
  match readNat s with
  | some v => k v
  | none => .abort (.internal .valueError)

/-- `Digit(n).__call__`: the loop body `n` times (each `take` skips filler), then `int(out)` -/
def digitLoop (G : Grammar) : Nat → St → List Char → Option Err → Res
  | 0, st, acc, cur => pyInt acc fun v => .ok st [.int v] cur
  | n + 1, st, acc, cur =>
    match st.rest with
    | [] => .fail (errAt st .digit) cur
    | c :: _ =>
      if isDecimalChar c then
        match take G.filler st 1 with
        | none => .abort .hang
        | some (s, st') => digitLoop G n st' (acc ++ s) cur
      else .fail (errAt st .digit) cur

theorem skipFillerAux_length (fil : List (List Char)) :
    ∀ (r : List Char) (i l c : Nat) (st : St), skipFillerAux fil r i l c = some st → st.rest.length ≤ r.length := by
  intro r
  induction r with
  | nil =>
    intro i l c st h
    simp only [skipFillerAux] at h
    split at h
    · cases h
    · cases h; exact Nat.le_refl _
  | cons ch r ih =>
    intro i l c st h
    simp only [skipFillerAux] at h
    split at h
    · split at h <;> exact Nat.le_succ_of_le (ih _ _ _ _ h)
    · cases h; exact Nat.le_refl _

theorem take_length (fil : List (List Char)) (st : St) (n : Nat) (s : List Char) (st' : St)
    (h : take fil st n = some (s, st')) : st'.rest.length ≤ st.rest.length - n := by
  simp only [take, skipFiller] at h
  split at h
  · cases h
  · next st'' hs =>
    cases h
    exact List.length_drop ▸ skipFillerAux_length _ _ _ _ _ _ hs

/-- `while stream.peek().isdecimal(): out += stream.take()` of `Number` -/
def numberLoop (G : Grammar) (st : St) (acc : List Char) : Option (St × List Char) :=
  match h : st.rest with
  | [] => some (st, acc)
  | c :: _ =>
    if isDecimalChar c then
      match h2 : take G.filler st 1 with
      | none => none
      | some (s, st') => numberLoop G st' (acc ++ s)
    else some (st, acc)
termination_by st.rest.length
decreasing_by
  have := take_length _ _ _ _ _ h2
  rw [h] at this ⊢
  simp at this ⊢
  omega

/-- length of the identifier the (repaired, F16) look-ahead loop of `String` finds: the loop
`while len(peek(nn)) == nn and okay(peek(nn)[-1]): nn += 1` started after the first character -/
def identRun (G : Grammar) : List Char → Nat
  | [] => 0
  | c :: r => if identChar G c then identRun G r + 1 else 0

/-- the alternatives of a `Literals`: each `Literal(s, no_error=True)` tried inside its own `with` -/
def literalsLoop (G : Grammar) (st : St) : List (List Char) → Option Err → Res
  | [], cur =>
    match cur with
    | none => .abort (.internal .raiseNone)
    | some c => .fail c cur
  | tok :: more, cur =>
    if st.rest.take tok.length = tok then
      match take G.filler st tok.length with
      | none => .abort .hang
      | some (s, st') => .ok st' [.str s] cur
    else literalsLoop G st more (catchErr (errAt st .none) cur)

/-- the combinators that do not call `stream.parse` -/
def evalLeaf (G : Grammar) (e : Expr) (st : St) (cur : Option Err) : Res :=
  match e with
  | .eos => if st.rest = [] then .ok st [] cur else .fail (errAt st .eos) cur
  | .digit n => digitLoop G n st [] cur
  | .number =>
    match st.rest with
    | [] => .fail (errAt st .number) cur
    | c :: _ =>
      if isDecimalChar c then
        match take G.filler st 1 with
        | none => .abort .hang
        | some (s, st1) =>
          match numberLoop G st1 s with
          | none => .abort .hang
          | some (st2, out) =>
            match readNat out with
            | some v => .ok st2 [.int v] cur
            | none => .fail (errAt st2 .number) cur    -- `except ValueError: stream.error('<number>')`
      else .fail (errAt st .number) cur
  | .string =>
    match st.rest with
    | [] => .fail (errAt st .string) cur
    | c :: r =>
      if identChar G c then
        match take G.filler st (identRun G r + 1) with
        | none => .abort .hang
        | some (s, st') => .ok st' [.str s] cur
      else .fail (errAt st .string) cur
  | .lit tok noErr =>
    if st.rest.take tok.length = tok then
      match take G.filler st tok.length with
      | none => .abort .hang
      | some (s, st') => .ok st' [.str s] cur
    else .fail (errAt st (litTok tok noErr)) cur
  | .filler tok noErr =>
    if st.rest.take tok.length = tok then
      match take G.filler st tok.length with
      | none => .abort .hang
      | some (_, st') => .ok st' [] cur
    else .fail (errAt st (litTok tok noErr)) cur
  | .literals toks name =>
    match literalsLoop G st toks cur with
    | .fail c cur' =>
      match name with
      | some nm => .fail (errAt st (.named nm)) cur'
      | none => .fail c cur'
    | r => r
  | _ => .abort .stuck   -- not a leaf (never called on one by `eval`)

/-- `ParseState.parse(what, output)`.  `bound`: strict upper bound for the rank of a rule that may be
entered at this position (no character consumed since the enclosing rule was entered). -/
def eval (G : Grammar) (e : Expr) (st : St) (cur : Option Err) (bound : Nat) : Res :=
  match e with
  | .opt a =>
    match eval G a st cur bound with
    | .fail err cur' => .ok st [] (catchErr err cur')
    | r => r
  | .star a =>
    match eval G a st cur bound with
    | .fail err cur' => .ok st [] (catchErr err cur')
    | .ok st1 out1 cur1 =>
      if h : st1.rest.length < st.rest.length then
        match eval G (.star a) st1 cur1 G.top with
        | .ok st2 out2 cur2 => .ok st2 (out1 ++ out2) cur2
        | r => r
      else .abort .hang     -- `while not stream.has_error` with a body that succeeds without advancing
    | r => r
  | .allNil => .ok st [] cur
  | .allCons a rest =>
    match eval G a st cur bound with
    | .ok st1 out1 cur1 =>
      if h : st1.rest.length < st.rest.length then
        match eval G rest st1 cur1 G.top with
        | .ok st2 out2 cur2 => .ok st2 (out1 ++ out2) cur2
        | r => r
      else if h2 : st1.rest.length = st.rest.length then
        match eval G rest st1 cur1 bound with
        | .ok st2 out2 cur2 => .ok st2 (out1 ++ out2) cur2
        | r => r
      else .abort .stuck
    | r => r
  | .anyNil =>
    match cur with
    | none => .abort (.internal .raiseNone)
    | some c => .fail c cur
  | .anyCons a rest =>
    match eval G a st cur bound with
    | .fail err cur' => eval G rest st (catchErr err cur') bound
    | r => r
  | .ref n =>
    match G.rules[n]? with
    | some (some body) =>
      match G.rank[n]? with
      | some r =>
        if r < bound then
          match eval G body st cur r with
          | .ok st' out cur' => .ok st' [.node n out] cur'
          | r => r
        else .abort .stuck
      | none => .abort .stuck
    | _ => .abort (.missingRule n)
  | e => evalLeaf G e st cur
termination_by (st.rest.length, bound, sizeOf e)
decreasing_by
  all_goals simp_wf
  all_goals first
    | (apply Prod.Lex.left; omega)
    | (apply Prod.Lex.right; apply Prod.Lex.left; omega)
    | (apply Prod.Lex.right; apply Prod.Lex.right; omega)
    | (rw [h2]; apply Prod.Lex.right; apply Prod.Lex.right; omega)

/-- outcome of `Parser.parse(text)` -/
inductive ParseRes where
  | accepted (ast : Ast) (fin : St)
  | syntaxError (e : Err)
  | abort (a : Abort)
  deriving Inhabited

/-- `ParseState(grammar, stream).parse()` with the end-of-input requirement (F17) -/
def parse (G : Grammar) (s : List Char) : ParseRes :=
  match skipFiller G.filler ⟨s, 0, 1, 1⟩ with
  | none => .abort .hang
  | some st0 =>
    match eval G (.ref G.root) st0 none G.top with
    | .ok st out _ =>
      if st.rest = [] then
        match out with
        | t :: _ => .accepted t st
        | [] => .abort (.internal .indexError)
      else .syntaxError (errAt st .eos)
    | .fail e _ => .syntaxError e
    | .abort a => .abort a

end PGA.Ring
