import PGA.Proofs.Aromatize
/-! The update of `_aromatization_Benson` written call by call — six `GetAtomWithIdx(a).SetIsAromatic(True)`, six
`GetBondBetweenAtoms(x, y).SetBondType(AROMATIC)` — and the proof that, on a graph without parallel bonds, it is the
one-pass update `Arom.setAromatic` the model uses. -/
namespace PGA.Arom

/-- `mol.GetAtomWithIdx(x).SetIsAromatic(True)` (an index outside the molecule: nothing — the Python would raise) -/
def flagAtom (atoms : List Atom) (x : Nat) : List Atom := atoms.modify x fun a => { a with aromatic := true }

/-- `mol.GetBondBetweenAtoms(x, y).SetBondType(AROMATIC)`: the first bond joining `x` and `y` (none: nothing — the Python
would raise) -/
def typeBond : List Bond → Nat → Nat → List Bond
  | [], _, _ => []
  | e :: es, x, y => if e.joins x y then { e with kind := .aromatic } :: es else e :: typeBond es x y

/-- lines 372–407 of `Scheme.py`, call by call, without the twelve `Bond.SetIsAromatic`/`SetIsConjugated` calls of lines
378–389: they set flags no RING query reads, which are not part of `Mol` -/
def setAromaticLiteral (m : Mol) : List Nat → Mol
  | [a0, a1, a2, a3, a4, a5] =>
    { m with
      atoms := flagAtom (flagAtom (flagAtom (flagAtom (flagAtom (flagAtom m.atoms a0) a1) a2) a3) a4) a5
      bonds := typeBond (typeBond (typeBond (typeBond (typeBond (typeBond m.bonds a0 a1) a1 a2) a2 a3) a3 a4) a4 a5) a5 a0 }
  | _ => m

theorem flagAtom_eq (atoms : List Atom) (x : Nat) :
    flagAtom atoms x = atoms.mapIdx fun i a => if i == x then { a with aromatic := true } else a := by
  unfold flagAtom
  refine List.ext_getElem? fun i => ?_
  rw [List.getElem?_modify, List.getElem?_mapIdx]
  cases atoms[i]? with
  | none => rfl
  | some a =>
    by_cases h : x = i
    · subst h; simp
    · simp [h, Ne.symm h]

theorem typeBond_eq (l : List Bond) (h : NoParallel l) (x y : Nat) :
    typeBond l x y = l.map fun e => stepAny (e.joins x y) e := by
  induction l with
  | nil => rfl
  | cons e es ih =>
    obtain ⟨hhead, htail⟩ := List.pairwise_cons.1 h
    simp only [typeBond, List.map_cons]
    cases hj : e.joins x y
    · rw [if_neg Bool.false_ne_true, ih htail]; rfl
    · -- no later bond joins `x` and `y`: it would be parallel to `e`
      refine congrArg _ ((List.map_congr_left fun e' he' => ?_).trans (List.map_id es)).symm
      cases hc : e'.joins x y
      · rfl
      · have := hhead e' he'
        rw [PGA.Match.joins_ends e' e x y hc hj] at this
        cases this

theorem foldl_flagAtom (l : List Nat) : ∀ atoms : List Atom,
    l.foldl flagAtom atoms = atoms.mapIdx fun i a => if l.contains i then { a with aromatic := true } else a := by
  induction l with
  | nil => intro atoms; exact List.ext_getElem? fun i => by rw [List.foldl_nil, List.getElem?_mapIdx]; cases atoms[i]? <;> rfl
  | cons x l ih =>
    intro atoms
    rw [List.foldl_cons, ih, flagAtom_eq, List.mapIdx_mapIdx]
    congr 1; funext i a
    simp only [Function.comp, List.contains_cons]
    cases i == x <;> cases l.contains i <;> rfl

/-- retyping the bonds between the listed pairs one call after the other retypes every bond joining one of the pairs -/
theorem foldl_typeBond (ps : List (Nat × Nat)) : ∀ l : List Bond, NoParallel l →
    ps.foldl (fun bs p => typeBond bs p.1 p.2) l = l.map fun e => stepAny (ps.any fun p => e.joins p.1 p.2) e := by
  induction ps with
  | nil => intro l _; exact (List.map_id' l).symm
  | cons p ps ih =>
    intro l h
    rw [List.foldl_cons, typeBond_eq l h, ih _ (noParallel_stepAny h _), List.map_map]
    congr 1; funext e
    simp only [Function.comp, stepAny_joins, stepAny_stepAny, List.any_cons]

/-- **The one-pass update is the call-by-call update** on every graph without parallel bonds (in particular on every
`Mol.wf` graph), for every six-atom ring list. -/
theorem setAromatic_eq_literal (m : Mol) (h : NoParallel m.bonds) (r : List Nat) (h6 : r.length = 6) :
    setAromatic m r = setAromaticLiteral m r := by
  obtain ⟨a0, a1, a2, a3, a4, a5, rfl⟩ := six_of_length h6
  have ha := foldl_flagAtom [a0, a1, a2, a3, a4, a5] m.atoms
  have hb := foldl_typeBond (edgePairs [a0, a1, a2, a3, a4, a5]) m.bonds h
  simp only [edgePairs, List.foldl_cons, List.foldl_nil] at ha hb
  simp only [setAromaticLiteral, ha, hb]
  rfl

end PGA.Arom
