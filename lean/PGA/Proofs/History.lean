import PGA.Spec.History
/-! Helper lemmas for C15: one case analysis of what an operation does to the state (`step_cases`), and from it the
invariant of reachable states and the frame facts; what the operations return. -/
namespace PGA.History
variable {Scheme Data Val : Type} (W : World Scheme Data Val) (ps sc : Nat)

theorem inv_init : Inv W ps sc (init ps sc : State Scheme Data) :=
  ⟨Or.inl rfl, rfl, rfl, by simp [init], by simp [init]⟩

/-- the directory a load reads is the one the environment designates, whatever the cache holds -/
theorem load_dir (s : State Scheme Data) (hI : Inv W ps sc s) (bp : Bool) :
    (if bp then W.env else (match s.datadir with | some d => d | none => W.env)) = W.env := by
  cases bp with
  | true => rfl
  | false =>
    rcases hI.datadir with h | h <;> simp [h]

theorem lt_of_getElem? {α : Type} {l : List α} {i : Nat} {a : α} (h : l[i]? = some a) : i < l.length :=
  let ⟨h', _⟩ := List.getElem?_eq_some_iff.mp h; h'

/-- Case analysis on what an operation does to the state: nothing, or one of four updates.  A load appends the
libraries `new` (one, read from `dir`, or none if reading fails) and, by builtin name, may fill the data-directory
cache (`dd` is the cache afterwards). -/
theorem step_cases {R : State Scheme Data → Prop} (s : State Scheme Data) (op : Op) (same : R s)
    (load : ∀ L bp dd new, op = .load L bp →
      (dd = s.datadir ∨ s.datadir = none ∧ dd = some W.env ∧ bp = false) →
      (∀ l ∈ new, ∃ dir sch d, (dir = W.env ∨ s.datadir = some dir) ∧
        W.loadF s.propsets s.schemas dir L = .ok (sch, d) ∧ l = ⟨sch, d, none, L, .loaded L⟩) →
      R { s with datadir := dd, libs := s.libs ++ new })
    (decompose : ∀ i m l, op = .decompose i m → s.libs[i]? = some l →
      R { s with libs := s.libs.set i { l with name := some m } })
    (estimate : ∀ i d fm l, op = .estimate i d fm → s.libs[i]? = some l →
      R { s with ests := s.ests ++ [⟨i, d, l.name, l.data, l.prov, fm⟩] })
    (merge : ∀ dst src ow a b d, op = .merge dst src ow → s.libs[dst]? = some a → s.libs[src]? = some b →
      W.mergeF a.data b.data ow = .ok d →
      R { s with libs := s.libs.set dst { a with data := d, prov := .merged a.prov b.prov ow } }) :
    R (step W s op).1 := by
  cases op with
  | load L bp =>
    simp only [step]
    cases bp with
    | true =>
      split
      · simpa using load L true s.datadir [] rfl (Or.inl rfl) nofun
      · exact load L true s.datadir [_] rfl (Or.inl rfl) fun l hl => ⟨_, _, _, Or.inl rfl, ‹_›, List.mem_singleton.mp hl⟩
    | false =>
      cases hd : s.datadir with
      | none =>
        split
        · simpa using load L false (some W.env) [] rfl (Or.inr ⟨hd, rfl, rfl⟩) nofun
        · exact load L false _ [_] rfl (Or.inr ⟨hd, rfl, rfl⟩) fun l hl => ⟨_, _, _, Or.inl rfl, ‹_›, List.mem_singleton.mp hl⟩
      | some dir =>
        split
        · simpa using load L false (some dir) [] rfl (Or.inl hd.symm) nofun
        · exact load L false _ [_] rfl (Or.inl hd.symm) fun l hl => ⟨_, _, _, Or.inr hd, ‹_›, List.mem_singleton.mp hl⟩
  | decompose i m =>
    simp only [step]
    split
    · exact same
    · exact decompose i m _ rfl ‹_›
  | estimate i d fm =>
    simp only [step]
    split
    · exact same
    · split
      · exact same
      · split
        · exact same
        · exact estimate i d fm _ rfl ‹_›
  | evaluate e T q el =>
    simp only [step]
    split
    · exact same
    · split <;> exact same
  | merge dst src ow =>
    simp only [step]
    split
    · split
      · exact same
      · exact merge dst src ow _ _ _ rfl ‹_› ‹_› ‹_›
    · exact same

theorem inv_step (s : State Scheme Data) (hI : Inv W ps sc s) (op : Op) : Inv W ps sc (step W s op).1 := by
  have hset : ∀ j (a a' : Lib Scheme Data), s.libs[j]? = some a →
      (schemeOf W ps sc a'.origin = some a'.scheme ∧ denote W ps sc a'.prov = some a'.data) →
      Inv W ps sc { s with libs := s.libs.set j a' } := fun j a a' ha h =>
    ⟨hI.datadir, hI.propsets, hI.schemas,
      fun l' hl' => (List.mem_or_eq_of_mem_set hl').elim (hI.libs l') (· ▸ h),
      fun e he => ⟨by simpa using (hI.ests e he).1, (hI.ests e he).2⟩⟩
  have hdd : ∀ bp dd, (dd = s.datadir ∨ s.datadir = none ∧ dd = some W.env ∧ bp = false) → dd = none ∨ dd = some W.env :=
    fun bp dd h => h.elim (· ▸ hI.datadir) fun h => Or.inr h.2.1
  refine step_cases W s op hI ?_ ?_ ?_ ?_
  · intro L bp dd new _ h hnew
    refine ⟨hdd bp dd h, hI.propsets, hI.schemas, fun l hl' => ?_, fun e he => ⟨?_, (hI.ests e he).2⟩⟩
    · rcases List.mem_append.mp hl' with h | h
      · exact hI.libs l h
      · obtain ⟨dir, sch, d, hdir, hl, rfl⟩ := hnew l h
        have : dir = W.env := hdir.elim id fun h' => by
          rcases hI.datadir with h0 | h0 <;> rw [h0] at h' <;> cases h'; rfl
        rw [hI.propsets, hI.schemas, this] at hl
        simp [schemeOf, denote, hl]
    · rw [List.length_append]; exact Nat.lt_add_right _ (hI.ests e he).1
  · exact fun j m a _ ha => hset j a _ ha (hI.libs a (List.mem_of_getElem? ha))
  · intro i d fm l _ hl
    refine ⟨hI.datadir, hI.propsets, hI.schemas, hI.libs, fun e he => ?_⟩
    rcases List.mem_append.mp he with h | h
    · exact hI.ests e h
    · cases List.mem_singleton.mp h; exact ⟨lt_of_getElem? hl, (hI.libs l (List.mem_of_getElem? hl)).2⟩
  · intro dst src ow a b d _ ha hb hm
    exact hset dst a _ ha ⟨(hI.libs a (List.mem_of_getElem? ha)).1, by
      simp [denote, (hI.libs a (List.mem_of_getElem? ha)).2, (hI.libs b (List.mem_of_getElem? hb)).2, hm]⟩
theorem run_cons (s : State Scheme Data) (op : Op) (rest : List Op) :
    (run W s (op :: rest)).1 = (run W (step W s op).1 rest).1 := rfl

theorem after_nil (s : State Scheme Data) : after W s [] = s := rfl

theorem after_cons (s : State Scheme Data) (op : Op) (rest : List Op) :
    after W s (op :: rest) = after W (step W s op).1 rest := rfl

theorem after_append (s : State Scheme Data) (h1 h2 : List Op) :
    after W s (h1 ++ h2) = after W (after W s h1) h2 := by
  induction h1 generalizing s with
  | nil => rfl
  | cons op rest ih => simp only [List.cons_append, after_cons, ih]

theorem inv_after (s : State Scheme Data) (hI : Inv W ps sc s) (h : List Op) : Inv W ps sc (after W s h) := by
  induction h generalizing s with
  | nil => exact hI
  | cons op rest ih => exact ih _ (inv_step W ps sc s hI op)

/-- every state reachable from the initial one satisfies the invariant -/
theorem inv_reachable (h : List Op) : Inv W ps sc (after W (init ps sc : State Scheme Data) h) :=
  inv_after W ps sc _ (inv_init W ps sc) h

/-! ### outputs are determined by the declared inputs -/

theorem output_of_declared (s : State Scheme Data) (hI : Inv W ps sc s) (op : Op) (dcl : Decl)
    (hd : declared s op = some dcl) (hf : f1Safe W s op) :
    some ((step W s op).2.erase) = outOf W ps sc dcl := by
  cases op with
  | load L bp =>
    simp only [declared, Option.some.injEq] at hd
    subst hd
    -- whatever the cache holds, the directory read is the one the environment designates
    cases bp <;> rcases hI.datadir with h | h <;> simp only [step, outOf, hI.propsets, hI.schemas, h, ite_self, ↓reduceIte] <;>
      cases W.loadF ps sc W.env L <;> rfl
  | decompose i m =>
    simp only [declared] at hd
    cases hl : s.libs[i]? with
    | none => simp [hl] at hd
    | some l =>
      simp only [hl, Option.map_some, Option.some.injEq] at hd
      subst hd
      simp only [step, hl, outOf, (hI.libs l (List.mem_of_getElem? hl)).1, Option.map_some]
      rfl
  | estimate i d fm =>
    simp only [declared] at hd
    cases hl : s.libs[i]? with
    | none => simp [hl] at hd
    | some l =>
      simp only [hl, Option.map_some, Option.some.injEq] at hd
      subst hd
      have hname : (l.name.isNone && !W.f1Fixed) = false := by
        rcases hf with h | ⟨l', hl', hn⟩
        · simp [h]
        · rw [hl] at hl'
          cases hl'
          cases hnm : l.name with
          | none => simp [hnm] at hn
          | some m => simp
      simp only [step, hl, outOf, (hI.libs l (List.mem_of_getElem? hl)).2, Option.map_some, hI.propsets]
      cases W.estF ps l.data d with
      | some c => rfl
      | none => simp only [hname]; rfl
  | evaluate e T q el =>
    simp only [declared] at hd
    cases he : s.ests[e]? with
    | none => simp [he] at hd
    | some est =>
      simp only [he] at hd
      cases hl : s.libs[est.lib]? with
      | none => simp [hl] at hd
      | some l =>
        simp only [hl, Option.map_some, Option.some.injEq] at hd
        subst hd
        simp only [step, he, hl, outOf, (hI.libs l (List.mem_of_getElem? hl)).2,
          (hI.ests est (List.mem_of_getElem? he)).2]
        rfl
  | merge dst src ow =>
    simp only [declared] at hd
    cases ha : s.libs[dst]? with
    | none => simp [ha] at hd
    | some a =>
      cases hb : s.libs[src]? with
      | none => simp [ha, hb] at hd
      | some b =>
        simp only [ha, hb, Option.some.injEq] at hd
        subst hd
        simp only [step, ha, hb, outOf, (hI.libs a (List.mem_of_getElem? ha)).2,
          (hI.libs b (List.mem_of_getElem? hb)).2]
        cases W.mergeF a.data b.data ow <;> rfl

/-! ### frame: what each operation leaves alone -/

theorem frame_lib (s : State Scheme Data) (op : Op) (i : Nat) (l : Lib Scheme Data) (hl : s.libs[i]? = some l) :
    ∃ l', (step W s op).1.libs[i]? = some l' ∧ l'.scheme = l.scheme ∧ l'.origin = l.origin ∧
      ((∀ src ow, op ≠ .merge i src ow) → l'.data = l.data ∧ l'.prov = l.prov) ∧
      ((∀ m, op ≠ .decompose i m) → l'.name = l.name) := by
  have hi := lt_of_getElem? hl
  let P : Lib Scheme Data → Prop := fun l' => l'.scheme = l.scheme ∧ l'.origin = l.origin ∧
    ((∀ src ow, op ≠ .merge i src ow) → l'.data = l.data ∧ l'.prov = l.prov) ∧ ((∀ m, op ≠ .decompose i m) → l'.name = l.name)
  have hP : P l := ⟨rfl, rfl, fun _ => ⟨rfl, rfl⟩, fun _ => rfl⟩
  -- writing `a'` at position `j` matters for library `i` only if `j = i`
  have set : ∀ j a', (j = i → P a') → ∃ l', (s.libs.set j a')[i]? = some l' ∧ P l' := fun j a' h => by
    by_cases hji : j = i
    · exact ⟨a', by simp [hji, List.getElem?_set_self hi], h hji⟩
    · exact ⟨l, by simp [List.getElem?_set_ne hji, hl], hP⟩
  refine step_cases W s op (R := fun s' => ∃ l', s'.libs[i]? = some l' ∧ P l') ⟨l, hl, hP⟩
    (fun _ _ _ _ _ _ _ => ⟨l, by simp [List.getElem?_append_left hi, hl], hP⟩) ?_ (fun _ _ _ _ _ _ => ⟨l, hl, hP⟩) ?_
  · rintro j m a rfl ha
    refine set j _ fun hji => ?_
    subst hji; cases hl.symm.trans ha
    exact ⟨rfl, rfl, fun _ => ⟨rfl, rfl⟩, fun h => absurd rfl (h m)⟩
  · rintro dst src ow a b d rfl ha _ _
    refine set dst _ fun hji => ?_
    subst hji; cases hl.symm.trans ha
    exact ⟨rfl, rfl, fun h => absurd rfl (h src ow), fun _ => rfl⟩

theorem libs_length_le (s : State Scheme Data) (op : Op) : s.libs.length ≤ (step W s op).1.libs.length := by
  refine Nat.le_of_not_lt fun h => ?_
  obtain ⟨l', hl', _⟩ := frame_lib W s op _ _ (List.getElem?_eq_getElem h)
  exact Nat.lt_irrefl _ (lt_of_getElem? hl')

/-- what no operation touches: the property-set table and the schema repository never change; the data-directory
cache only goes from empty to the directory the environment designates, and only by a load by builtin name; the
estimates made so far stay and at most one is added -/
theorem step_frame (s : State Scheme Data) (op : Op) :
    ((step W s op).1.propsets = s.propsets ∧ (step W s op).1.schemas = s.schemas ∧
      ((step W s op).1.datadir = s.datadir ∨
        (s.datadir = none ∧ (step W s op).1.datadir = some W.env ∧ ∃ L, op = .load L false))) ∧
    ((step W s op).1.ests = s.ests ∨ ∃ e, (step W s op).1.ests = s.ests ++ [e]) := by
  have cache : ∀ L bp dd, op = .load L bp → (dd = s.datadir ∨ s.datadir = none ∧ dd = some W.env ∧ bp = false) →
      dd = s.datadir ∨ (s.datadir = none ∧ dd = some W.env ∧ ∃ L, op = .load L false) :=
    fun L bp dd hop h => h.imp id fun ⟨h1, h2, h3⟩ => ⟨h1, h2, L, h3 ▸ hop⟩
  exact step_cases W s op
    (R := fun s' => (s'.propsets = s.propsets ∧ s'.schemas = s.schemas ∧
        (s'.datadir = s.datadir ∨ (s.datadir = none ∧ s'.datadir = some W.env ∧ ∃ L, op = .load L false))) ∧
      (s'.ests = s.ests ∨ ∃ e, s'.ests = s.ests ++ [e]))
    ⟨⟨rfl, rfl, Or.inl rfl⟩, Or.inl rfl⟩
    (fun L bp dd _ hop h _ => ⟨⟨rfl, rfl, cache L bp dd hop h⟩, Or.inl rfl⟩)
    (fun _ _ _ _ _ => ⟨⟨rfl, rfl, Or.inl rfl⟩, Or.inl rfl⟩)
    (fun _ _ _ _ _ _ => ⟨⟨rfl, rfl, Or.inl rfl⟩, Or.inr ⟨_, rfl⟩⟩)
    (fun _ _ _ _ _ _ _ _ _ _ => ⟨⟨rfl, rfl, Or.inl rfl⟩, Or.inl rfl⟩)

theorem frame_est (s : State Scheme Data) (op : Op) (e : Nat) (est : Est Data) (he : s.ests[e]? = some est) :
    (step W s op).1.ests[e]? = some est := by
  rcases (step_frame W s op).2 with h | ⟨_, h⟩ <;> rw [h]
  · exact he
  · rw [List.getElem?_append_left (lt_of_getElem? he)]; exact he

/-! ### histories -/

theorem after_libs_length_le (s : State Scheme Data) (h : List Op) : s.libs.length ≤ (after W s h).libs.length := by
  induction h generalizing s with
  | nil => exact Nat.le_refl _
  | cons op rest ih =>
    exact Nat.le_trans (libs_length_le W s op) (ih _)

theorem after_est (s : State Scheme Data) (h : List Op) (e : Nat) (est : Est Data) (he : s.ests[e]? = some est) :
    (after W s h).ests[e]? = some est := by
  induction h generalizing s with
  | nil => exact he
  | cons op rest ih => exact ih _ (frame_est W s op e est he)

/-- library `i` after a history: scheme and origin survive every history; without a merge into `i`, so do data and
provenance -/
theorem after_lib (s : State Scheme Data) (h : List Op) (i : Nat) (l : Lib Scheme Data) (hl : s.libs[i]? = some l) :
    ∃ l', (after W s h).libs[i]? = some l' ∧ l'.scheme = l.scheme ∧ l'.origin = l.origin ∧
      ((∀ src ow, Op.merge i src ow ∉ h) → l'.data = l.data ∧ l'.prov = l.prov) := by
  induction h generalizing s l with
  | nil => exact ⟨l, hl, rfl, rfl, fun _ => ⟨rfl, rfl⟩⟩
  | cons op rest ih =>
    obtain ⟨l1, h1, hs1, ho1, hd1, _⟩ := frame_lib W s op i l hl
    obtain ⟨l2, h2, hs2, ho2, hd2⟩ := ih _ l1 h1
    refine ⟨l2, h2, hs2.trans hs1, ho2.trans ho1, fun hm => ?_⟩
    obtain ⟨a1, a2⟩ := hd1 fun src ow e => hm src ow (e ▸ List.mem_cons_self)
    obtain ⟨b1, b2⟩ := hd2 fun src ow hmem => hm src ow (List.mem_cons_of_mem _ hmem)
    exact ⟨b1.trans a1, b2.trans a2⟩

theorem after_lib_scheme (s : State Scheme Data) (h : List Op) (i : Nat) (l : Lib Scheme Data)
    (hl : s.libs[i]? = some l) :
    ∃ l', (after W s h).libs[i]? = some l' ∧ l'.scheme = l.scheme ∧ l'.origin = l.origin :=
  let ⟨l', h1, h2, h3, _⟩ := after_lib W s h i l hl; ⟨l', h1, h2, h3⟩

theorem nameOf_step_decompose (s : State Scheme Data) (i : Nat) (m : Mol) (hi : i < s.libs.length) :
    nameOf (step W s (.decompose i m)).1 i = some m := by
  have : s.libs[i]? = some s.libs[i] := List.getElem?_eq_getElem hi
  simp [step, this, nameOf, List.getElem?_set_self hi]

theorem nameOf_step_other (s : State Scheme Data) (op : Op) (i : Nat) (hi : i < s.libs.length)
    (h : ∀ m, op ≠ .decompose i m) : nameOf (step W s op).1 i = nameOf s i := by
  have hl : s.libs[i]? = some s.libs[i] := List.getElem?_eq_getElem hi
  obtain ⟨l', h1, _, _, _, hn⟩ := frame_lib W s op i _ hl
  simp [nameOf, h1, hl, hn h]

theorem name_is_last_decomposed (s : State Scheme Data) (h : List Op) (i : Nat) (hi : i < s.libs.length) :
    nameOf (after W s h) i = (match lastDecomp h i with | some m => some m | none => nameOf s i) := by
  induction h generalizing s with
  | nil => rfl
  | cons op rest ih =>
    rw [after_cons, ih _ (Nat.lt_of_lt_of_le hi (libs_length_le W s op))]
    simp only [lastDecomp]
    cases lastDecomp rest i with
    | some m => rfl
    | none =>
      cases op with
      | decompose j m =>
        by_cases hji : j = i
        · subst hji
          simp [nameOf_step_decompose W s j m hi]
        · have : ∀ m', Op.decompose j m ≠ Op.decompose i m' := fun m' e => hji (Op.decompose.inj e).1
          simp [nameOf_step_other W s _ i hi this, hji]
      | load L bp => exact nameOf_step_other W s _ i hi nofun
      | estimate j d fm => exact nameOf_step_other W s _ i hi nofun
      | evaluate e T q el => exact nameOf_step_other W s _ i hi nofun
      | merge dst src ow => exact nameOf_step_other W s _ i hi nofun

/-- a successful `Estimate` appends an estimate that captured the library's data, provenance and remembered name -/
theorem estimate_captures (s : State Scheme Data) (i : Nat) (d : Descr) (fm : Mol) (e : Nat)
    (h : (step W s (.estimate i d fm)).2 = .estimated e) :
    ∃ l, s.libs[i]? = some l ∧
      (step W s (.estimate i d fm)).1.ests[e]? = some ⟨i, d, l.name, l.data, l.prov, fm⟩ := by
  simp only [step] at h ⊢
  cases hl : s.libs[i]? with
  | none => simp [hl] at h
  | some l =>
    simp only [hl] at h ⊢
    cases hest : W.estF s.propsets l.data d with
    | some c => simp [hest] at h
    | none =>
      simp only [hest] at h ⊢
      split at h
      · cases h
      · rename_i hc
        simp only [hc]
        cases h
        exact ⟨l, rfl, by simp⟩

theorem evaluate_out (s : State Scheme Data) (e : Nat) (est : Est Data) (l : Lib Scheme Data) (T : Temp) (q : Qty)
    (el : Bool) (he : s.ests[e]? = some est) (hl : s.libs[est.lib]? = some l) :
    (step W s (.evaluate e T q el)).2 =
      .value (W.evalF est.snap l.data est.descr T q (if el then some est.name else none)) := by
  simp only [step, he, hl]

end PGA.History
