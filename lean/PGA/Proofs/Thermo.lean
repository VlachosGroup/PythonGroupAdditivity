import PGA.Spec.Thermo
import Mathlib.Tactic.Linarith
import Mathlib.Tactic.Ring
import Mathlib.Tactic.SplitIfs
import Mathlib.Algebra.Order.Field.Rat
/-! Helper lemmas for C05 / C06: the stable sort of the data points, what a successful construction
establishes, and the two analytic identities: the enthalpy numerator and the entropy computed by the two-stage
branch structure of the code are the reference value plus `intCp` / `intCpT` from `T_ref`. -/
namespace PGA.Thermo

/-! ### the stable sort -/


theorem insertPt_perm (p : Pt) (l : List Pt) : (insertPt p l).Perm (p :: l) := by
  induction l with
  | nil => exact List.Perm.refl _
  | cons q qs ih =>
    unfold insertPt
    split
    · exact List.Perm.refl _
    · exact (List.Perm.cons q ih).trans (List.Perm.swap p q qs)

theorem sortPts_perm (l : List Pt) : (sortPts l).Perm l := by
  induction l with
  | nil => exact List.Perm.refl _
  | cons p ps ih => exact (insertPt_perm p _).trans (List.Perm.cons p ih)

def KeyLe (p q : Pt) : Prop := p.1 ≤ q.1
def KeyLt (p q : Pt) : Prop := p.1 < q.1

theorem insertPt_sorted (p : Pt) (l : List Pt) (h : l.Pairwise KeyLe) : (insertPt p l).Pairwise KeyLe := by
  induction l with
  | nil => simp [insertPt]
  | cons q qs ih =>
    unfold insertPt
    rw [List.pairwise_cons] at h
    split
    · rename_i hpq
      refine List.pairwise_cons.mpr ⟨?_, List.pairwise_cons.mpr h⟩
      intro x hx
      rcases List.mem_cons.mp hx with rfl | hx
      · exact hpq
      · exact le_trans hpq (h.1 x hx)
    · rename_i hpq
      refine List.pairwise_cons.mpr ⟨?_, ih h.2⟩
      intro x hx
      rcases List.mem_cons.mp ((insertPt_perm p qs).mem_iff.mp hx) with rfl | hx
      · exact le_of_lt (not_le.mp hpq)
      · exact h.1 x hx

theorem sortPts_sorted (l : List Pt) : (sortPts l).Pairwise KeyLe := by
  induction l with
  | nil => exact List.Pairwise.nil
  | cons p ps ih => exact insertPt_sorted p _ ih

theorem strictInc_iff (l : List Pt) : strictInc l = true ↔ l.Pairwise KeyLt := by
  induction l with
  | nil => simp [strictInc]
  | cons p rest ih =>
    cases rest with
    | nil => simp [strictInc]
    | cons q rest =>
      simp only [strictInc, Bool.and_eq_true, decide_eq_true_eq, ih]
      constructor
      · rintro ⟨h1, h2⟩
        refine List.pairwise_cons.mpr ⟨?_, h2⟩
        intro x hx
        rcases List.mem_cons.mp hx with rfl | hx
        · exact h1
        · exact lt_trans h1 ((List.pairwise_cons.mp h2).1 x hx)
      · intro h
        rw [List.pairwise_cons] at h
        exact ⟨h.1 q (List.mem_cons_self ..), h.2⟩

/-- two key-sorted lists with the same elements and pairwise distinct keys are equal -/
theorem sorted_perm_eq : ∀ (l₁ l₂ : List Pt), l₁.Pairwise KeyLe → l₂.Pairwise KeyLe → l₁.Perm l₂ →
    (l₁.map (·.1)).Nodup → l₁ = l₂
  | [], l₂, _, _, hp, _ => by simpa using hp.symm.eq_nil
  | a :: l₁, [], _, _, hp, _ => by simpa using hp.eq_nil
  | a :: l₁, b :: l₂, h1, h2, hp, hn => by
    rw [List.pairwise_cons] at h1 h2
    have hn' := hn
    rw [List.map_cons, List.nodup_cons] at hn
    have hab : a = b := by
      have ha : a ∈ b :: l₂ := hp.mem_iff.mp (List.mem_cons_self ..)
      have hb : b ∈ a :: l₁ := hp.mem_iff.mpr (List.mem_cons_self ..)
      rcases List.mem_cons.mp ha with h | ha
      · exact h
      · rcases List.mem_cons.mp hb with h | hb
        · exact h.symm
        · have k1 : a.1 ≤ b.1 := h1.1 b hb
          have k2 : b.1 ≤ a.1 := h2.1 a ha
          have : a.1 = b.1 := le_antisymm k1 k2
          exact absurd (this ▸ List.mem_map_of_mem (f := (·.1)) hb) hn.1
    subst hab
    rw [sorted_perm_eq l₁ l₂ h1.2 h2.2 (List.Perm.cons_inv hp) hn.2]

theorem sortPts_perm_eq (l₁ l₂ : List Pt) (hp : l₁.Perm l₂) (hn : (l₁.map (·.1)).Nodup) :
    sortPts l₁ = sortPts l₂ := by
  apply sorted_perm_eq _ _ (sortPts_sorted _) (sortPts_sorted _)
  · exact (sortPts_perm l₁).trans (hp.trans (sortPts_perm l₂).symm)
  · exact ((sortPts_perm l₁).map _).nodup_iff.mpr hn

theorem sortPts_of_sorted : ∀ (l : List Pt), l.Pairwise KeyLe → sortPts l = l
  | [], _ => rfl
  | p :: ps, h => by
    rw [List.pairwise_cons] at h
    show insertPt p (sortPts ps) = p :: ps
    rw [sortPts_of_sorted ps h.2]
    cases ps with
    | nil => rfl
    | cons q qs => unfold insertPt; rw [if_pos (show p.1 ≤ q.1 from h.1 q (List.mem_cons_self ..))]

theorem sortPts_idem (l : List Pt) : sortPts (sortPts l) = sortPts l := sortPts_of_sorted _ (sortPts_sorted l)

theorem lastPt_mem (p0 : Pt) (l : List Pt) : lastPt p0 l ∈ p0 :: l := by
  induction l generalizing p0 with
  | nil => simp [lastPt]
  | cons q qs ih => exact List.mem_cons_of_mem _ (ih q)

theorem le_lastPt (p0 : Pt) (l : List Pt) (h : (p0 :: l).Pairwise KeyLe) : ∀ x ∈ p0 :: l, x.1 ≤ (lastPt p0 l).1 := by
  induction l generalizing p0 with
  | nil => intro x hx; simp at hx; subst hx; exact le_refl _
  | cons q qs ih =>
    intro x hx
    rw [List.pairwise_cons] at h
    have hl := ih q h.2
    rcases List.mem_cons.mp hx with rfl | hx
    · exact le_trans (h.1 q (List.mem_cons_self ..)) (hl q (List.mem_cons_self ..))
    · exact hl x hx

/-! ### construction -/


theorem outsideR_false {r : Range} {T : Rat} : outsideR r T = false ↔ r.1 ≤ T ∧ T ≤ r.2 := by
  simp [outsideR, not_lt]

theorem outsideR_true {r : Range} {T : Rat} : outsideR r T = true ↔ T < r.1 ∨ r.2 < T := by
  simp [outsideR]

/-- what a successful construction establishes -/
structure RawData.Built (ip : Interp) (Href Sref : Rat) (pts : List Pt) (Tref : Rat) (range : Option Range)
    (d : RawData) : Prop where
  sorted : ∃ p0 rest, sortPts pts = p0 :: rest ∧ d.pts = p0 :: rest ∧ d.minT = p0.1 ∧ d.minCp = p0.2 ∧
    d.maxT = (lastPt p0 rest).1 ∧ d.maxCp = (lastPt p0 rest).2 ∧
    (rest = [] → d.ip = constInterp p0.2 ip) ∧ (rest ≠ [] → d.ip = ip ∧ strictInc (p0 :: rest) = true)
  href : d.Href = Href
  sref : d.Sref = Sref
  tref : d.Tref = Tref
  range_none : range = none → d.range = (d.minT, d.maxT)
  range_some : ∀ r, range = some r → d.range = r
  lo_le_min : d.range.1 ≤ d.minT
  max_le_hi : d.maxT ≤ d.range.2
  lo_le_ref : d.range.1 ≤ d.Tref
  ref_le_hi : d.Tref ≤ d.range.2

theorem RawData.mk_built {ip : Interp} {Href Sref : Rat} {pts : List Pt} {Tref : Rat} {range : Option Range}
    {d : RawData} (h : RawData.mk ip Href Sref pts Tref range = .ok d) :
    RawData.Built ip Href Sref pts Tref range d := by
  unfold RawData.mk at h
  split at h
  · cases h
  · rename_i p0 rest hs
    simp only at h
    split at h
    · cases h
    · rename_i r hr
      split at h
      · cases h
      · rename_i ho
        split at h
        · cases h
        · have ho' := outsideR_false.mp (by simpa using ho)
          have hrange : (range = none → r = (p0.1, (lastPt p0 rest).1)) ∧ (∀ r', range = some r' → r = r') ∧
              r.1 ≤ p0.1 ∧ (lastPt p0 rest).1 ≤ r.2 := by
            cases range with
            | none => simp only [Except.ok.injEq] at hr; subst hr; simp
            | some r' =>
              simp only at hr
              split at hr
              · cases hr
              · rename_i hc
                simp only [Except.ok.injEq] at hr; subst hr
                simp only [Bool.or_eq_true, decide_eq_true_eq, not_or, not_lt] at hc
                exact ⟨by simp, by simp, hc.1, hc.2⟩
          split at h
          · simp only [Except.ok.injEq] at h; subst h
            exact ⟨⟨p0, [], hs, rfl, rfl, rfl, rfl, rfl, fun _ => rfl, fun hne => absurd rfl hne⟩, rfl, rfl, rfl,
              hrange.1, hrange.2.1, hrange.2.2.1, hrange.2.2.2, ho'.1, ho'.2⟩
          · rename_i q qs
            split at h
            · rename_i hinc
              simp only [Except.ok.injEq] at h; subst h
              exact ⟨⟨p0, q :: qs, hs, rfl, rfl, rfl, rfl, rfl, (fun hh => by cases hh), fun _ => ⟨rfl, hinc⟩⟩, rfl, rfl, rfl,
                hrange.1, hrange.2.1, hrange.2.2.1, hrange.2.2.2, ho'.1, ho'.2⟩
            · cases h

/-- `RawData.mk` sees the points only through their sorted order -/
theorem mk_sortPts (ip : Interp) (Href Sref : Rat) (pts : List Pt) (Tref : Rat) (range : Option Range) :
    RawData.mk ip Href Sref (sortPts pts) Tref range = RawData.mk ip Href Sref pts Tref range := by
  unfold RawData.mk
  rw [sortPts_idem]

/-! ### the analytic identities

Each stage of `get_HoRT` / `get_SoR` splits on one end of the tabulated span; written with `min`/`max` a stage is one
expression, and the two stages together are the three terms of `intCp` / `intCpT`. -/

namespace Interp.Good
variable {ip : Interp}

theorem I_self (hg : ip.Good) (a : Rat) : ip.I a a = 0 := add_eq_left.mp (hg.I_add a a a)

theorem J_self (hg : ip.Good) {a : Rat} (h : 0 < a) : ip.J a a = 0 := add_eq_left.mp (hg.J_add a a a h h h)

theorem lg_self (hg : ip.Good) {a : Rat} (h : 0 < a) : ip.lg a a = 0 := add_eq_left.mp (hg.lg_add a a a h h h)

end Interp.Good

namespace RawData
variable {d : RawData} {t : Rat}

/-! `intCp` / `intCpT` see a temperature `t` through `min t minT`, `clamp t`, `max t maxT`; what these are by the
position of `t` relative to the table (`coords_ge_min` leaves `max t maxT` as it is): -/

theorem coords_below (hmm : d.minT ≤ d.maxT) (h : t ≤ d.minT) :
    min t d.minT = t ∧ d.clamp t = d.minT ∧ max t d.maxT = d.maxT :=
  ⟨min_eq_left h, by rw [clamp, min_eq_left (h.trans hmm), max_eq_left h], max_eq_right (h.trans hmm)⟩

theorem coords_ge_min (hmm : d.minT ≤ d.maxT) (h : d.minT ≤ t) : min t d.minT = d.minT ∧ d.clamp t = min t d.maxT :=
  ⟨min_eq_right h, max_eq_right (le_min h hmm)⟩

theorem coords_inside (h₁ : d.minT ≤ t) (h₂ : t ≤ d.maxT) :
    min t d.minT = d.minT ∧ d.clamp t = t ∧ max t d.maxT = d.maxT :=
  ⟨min_eq_right h₁, by rw [clamp, min_eq_left h₂, max_eq_right h₁], max_eq_right h₂⟩

theorem coords_above (hmm : d.minT ≤ d.maxT) (h : d.maxT ≤ t) :
    min t d.minT = d.minT ∧ d.clamp t = d.maxT ∧ max t d.maxT = t :=
  ⟨min_eq_right (hmm.trans h), by rw [clamp, min_eq_right h, max_eq_right hmm], max_eq_left h⟩

theorem hStage2_eq (d : RawData) (h0 : d.ip.I d.maxT d.maxT = 0) (rH Ta Tb : Rat) :
    d.hStage2 rH Ta Tb =
      rH + d.maxCp * (max Tb d.maxT - max Ta d.maxT) + d.ip.I (min Ta d.maxT) (min Tb d.maxT) := by
  unfold hStage2 hFin
  split_ifs with ha hb hb
  · rw [max_eq_left ha, max_eq_left hb, min_eq_right ha, min_eq_right hb, h0, add_zero]
  · rw [max_eq_left ha, max_eq_right (le_of_not_ge hb), min_eq_right ha, min_eq_left (le_of_not_ge hb)]
  · rw [max_eq_right (le_of_not_ge ha), max_eq_left hb, min_eq_left (le_of_not_ge ha), min_eq_right hb]
  · rw [max_eq_right (le_of_not_ge ha), max_eq_right (le_of_not_ge hb), min_eq_left (le_of_not_ge ha),
      min_eq_left (le_of_not_ge hb), sub_self, mul_zero, add_zero]

theorem sStage2_eq (d : RawData) (hJ : d.ip.J d.maxT d.maxT = 0) (hL : d.ip.lg d.maxT d.maxT = 0) (S Ta Tb : Rat) :
    d.sStage2 S Ta Tb =
      S + d.maxCp * d.ip.lg (max Ta d.maxT) (max Tb d.maxT) + d.ip.J (min Ta d.maxT) (min Tb d.maxT) := by
  unfold sStage2 sFin
  split_ifs with ha hb hb
  · rw [max_eq_left ha, max_eq_left hb, min_eq_right ha, min_eq_right hb, hJ, add_zero]
  · rw [max_eq_left ha, max_eq_right (le_of_not_ge hb), min_eq_right ha, min_eq_left (le_of_not_ge hb)]
  · rw [max_eq_right (le_of_not_ge ha), max_eq_left hb, min_eq_left (le_of_not_ge ha), min_eq_right hb]
  · rw [max_eq_right (le_of_not_ge ha), max_eq_right (le_of_not_ge hb), min_eq_left (le_of_not_ge ha),
      min_eq_left (le_of_not_ge hb), hL, mul_zero, add_zero]

/-- `T·H/RT(T) = T_ref·H_ref/RT_ref + ∫_{T_ref}^{T} CpExt`, for every placement of `T_ref` and `T` -/
theorem hNum_eq (d : RawData) (hmm : d.minT ≤ d.maxT) (h0 : ∀ a, d.ip.I a a = 0) (T : Rat) :
    d.hNum T = d.Href * d.Tref + d.intCp d.Tref T := by
  unfold hNum intCp
  split_ifs with hr hT hT
  · simp only [coords_below hmm hr, coords_below hmm hT, h0, sub_self, mul_zero, add_zero]
  · simp only [hStage2_eq d (h0 _), coords_below hmm hr, coords_ge_min hmm (le_of_not_ge hT), max_eq_right hmm,
      min_eq_left hmm]
    ring
  · simp only [hStage2_eq d (h0 _), coords_ge_min hmm (le_of_not_ge hr), coords_below hmm hT, max_eq_right hmm,
      min_eq_left hmm]
    ring
  · simp only [hStage2_eq d (h0 _), coords_ge_min hmm (le_of_not_ge hr), coords_ge_min hmm (le_of_not_ge hT)]
    ring

/-- `S/R(T) = S_ref/R + ∫_{T_ref}^{T} CpExt/t`, for every placement of `T_ref` and `T` -/
theorem sVal_eq (d : RawData) (hmm : d.minT ≤ d.maxT) (hg : d.ip.Good) (p1 : 0 < d.minT) (T : Rat) :
    d.sVal T = d.Sref + d.intCpT d.Tref T := by
  have p2 : 0 < d.maxT := p1.trans_le hmm
  have s2 := d.sStage2_eq (hg.J_self p2) (hg.lg_self p2)
  unfold sVal intCpT
  split_ifs with hr hT hT
  · simp only [coords_below hmm hr, coords_below hmm hT, hg.J_self p1, hg.lg_self p2, mul_zero, add_zero]
  · simp only [s2, coords_below hmm hr, coords_ge_min hmm (le_of_not_ge hT), max_eq_right hmm, min_eq_left hmm]
    ring
  · simp only [s2, coords_ge_min hmm (le_of_not_ge hr), coords_below hmm hT, max_eq_right hmm, min_eq_left hmm]
    ring
  · simp only [s2, coords_ge_min hmm (le_of_not_ge hr), coords_ge_min hmm (le_of_not_ge hT), hg.lg_self p1]
    ring

theorem intCp_add (d : RawData) (hadd : ∀ a b c, d.ip.I a b + d.ip.I b c = d.ip.I a c) (a b c : Rat) :
    d.intCp a b + d.intCp b c = d.intCp a c := by
  unfold intCp
  rw [← hadd (d.clamp a) (d.clamp b) (d.clamp c)]
  ring

theorem intCp_self (d : RawData) (hadd : ∀ a b c, d.ip.I a b + d.ip.I b c = d.ip.I a c) (a : Rat) : d.intCp a a = 0 :=
  add_eq_left.mp (d.intCp_add hadd a a a)

theorem intCpT_add (d : RawData) (hg : d.ip.Good) (p1 : 0 < d.minT) {a b c : Rat} (pa : 0 < a) (pb : 0 < b)
    (pc : 0 < c) : d.intCpT a b + d.intCpT b c = d.intCpT a c := by
  have pcl : ∀ t, 0 < d.clamp t := fun t => lt_max_of_lt_left p1
  unfold intCpT
  rw [← hg.lg_add _ (min b d.minT) _ (lt_min pa p1) (lt_min pb p1) (lt_min pc p1),
    ← hg.J_add _ (d.clamp b) _ (pcl a) (pcl b) (pcl c),
    ← hg.lg_add _ (max b d.maxT) _ (lt_max_of_lt_left pa) (lt_max_of_lt_left pb) (lt_max_of_lt_left pc)]
  ring

theorem intCpT_self (d : RawData) (hg : d.ip.Good) (p1 : 0 < d.minT) {a : Rat} (pa : 0 < a) : d.intCpT a a = 0 :=
  add_eq_left.mp (d.intCpT_add hg p1 pa pa pa)

end RawData

/-! ### consequences of a successful construction -/


theorem constInterp_good {ip : Interp} (c : Rat) (hg : ip.Good) : (constInterp c ip).Good :=
  ⟨fun a b c' => by simp only [constInterp]; ring, hg.J_add, hg.lg_add⟩

namespace RawData.Built
variable {ip : Interp} {Href Sref : Rat} {pts : List Pt} {Tref : Rat} {range : Option Range} {d : RawData}

theorem mem_pts (hb : Built ip Href Sref pts Tref range d) (p : Pt) : p ∈ d.pts ↔ p ∈ pts := by
  obtain ⟨p0, rest, hs, hp, _⟩ := hb.sorted
  rw [hp, ← hs]; exact (sortPts_perm pts).mem_iff

theorem min_le (hb : Built ip Href Sref pts Tref range d) : ∀ p ∈ pts, d.minT ≤ p.1 := by
  obtain ⟨p0, rest, hs, hp, hmin, _⟩ := hb.sorted
  intro p hp'
  have hsrt := sortPts_sorted pts
  rw [hs] at hsrt
  have : p ∈ p0 :: rest := hs ▸ (sortPts_perm pts).mem_iff.mpr hp'
  rw [hmin]
  rcases List.mem_cons.mp this with rfl | h
  · exact le_refl _
  · exact (List.pairwise_cons.mp hsrt).1 p h

theorem le_max (hb : Built ip Href Sref pts Tref range d) : ∀ p ∈ pts, p.1 ≤ d.maxT := by
  obtain ⟨p0, rest, hs, hp, _, _, hmax, _⟩ := hb.sorted
  intro p hp'
  have hsrt := sortPts_sorted pts
  rw [hs] at hsrt
  have : p ∈ p0 :: rest := hs ▸ (sortPts_perm pts).mem_iff.mpr hp'
  rw [hmax]
  exact le_lastPt p0 rest hsrt p this

theorem min_mem (hb : Built ip Href Sref pts Tref range d) : (d.minT, d.minCp) ∈ pts := by
  obtain ⟨p0, rest, hs, hp, hmin, hminc, _⟩ := hb.sorted
  rw [hmin, hminc]
  exact (sortPts_perm pts).mem_iff.mp (hs ▸ List.mem_cons_self ..)

theorem max_mem (hb : Built ip Href Sref pts Tref range d) : (d.maxT, d.maxCp) ∈ pts := by
  obtain ⟨p0, rest, hs, hp, _, _, hmax, hmaxc, _⟩ := hb.sorted
  rw [hmax, hmaxc]
  exact (sortPts_perm pts).mem_iff.mp (hs ▸ lastPt_mem p0 rest)

theorem min_le_max (hb : Built ip Href Sref pts Tref range d) : d.minT ≤ d.maxT :=
  hb.le_max _ hb.min_mem

theorem good (hb : Built ip Href Sref pts Tref range d) (hg : ip.Good) : d.ip.Good := by
  obtain ⟨p0, rest, _, _, _, _, _, _, h1, h2⟩ := hb.sorted
  cases rest with
  | nil => rw [h1 rfl]; exact constInterp_good _ hg
  | cons q qs => rw [(h2 (by simp)).1]; exact hg

theorem hits (hb : Built ip Href Sref pts Tref range d) (hh : ip.Hits pts) : d.ip.Hits pts := by
  obtain ⟨p0, rest, hs, _, _, _, _, _, h1, h2⟩ := hb.sorted
  cases rest with
  | nil =>
    rw [h1 rfl]
    intro p hp
    have : p ∈ [p0] := hs ▸ (sortPts_perm pts).mem_iff.mpr hp
    simp at this
    subst this; rfl
  | cons q qs => rw [(h2 (by simp)).1]; exact hh

end RawData.Built

/-! ### evaluation in range -/

theorem checkRange_ok {r : Range} {T : Rat} : checkRange (some r) T = .ok () ↔ r.1 ≤ T ∧ T ≤ r.2 := by
  unfold checkRange
  simp only
  split
  · rename_i h
    constructor
    · intro h'; cases h'
    · rintro ⟨h1, h2⟩
      rcases outsideR_true.mp h with h | h
      · exact absurd h1 (not_le.mpr h)
      · exact absurd h2 (not_le.mpr h)
  · rename_i h
    simpa using outsideR_false.mp (by simpa using h)

theorem checkRange_err {r : Range} {T : Rat} (h : ¬ (r.1 ≤ T ∧ T ≤ r.2)) : checkRange (some r) T = .error .outside := by
  unfold checkRange
  simp only
  split
  · rfl
  · rename_i h'
    exact absurd (outsideR_false.mp (by simpa using h')) h

section
variable {ip : Interp} {Href Sref : Rat} {pts : List Pt} {Tref : Rat} {range : Option Range} {d : RawData}

/-- in-range evaluation of H/RT returns the enthalpy numerator divided by `T`, which is not zero -/
theorem HoRT_in_range (hpos : 0 < d.range.1)
    {T : Rat} (hT : inRange T (some d.range)) : d.HoRT T = .ok (d.hNum T / T) ∧ T ≠ 0 := by
  have hne : T ≠ 0 := ne_of_gt (lt_of_lt_of_le hpos hT.1)
  unfold RawData.HoRT
  rw [checkRange_ok.mpr hT]
  simp [hne]

theorem CpoR_in_range {T : Rat} (hT : inRange T (some d.range)) : d.CpoR T = .ok (d.CpExt T) := by
  unfold RawData.CpoR RawData.CpExt
  rw [checkRange_ok.mpr hT]
  split_ifs <;> rfl

theorem SoR_in_range {T : Rat} (hT : inRange T (some d.range)) : d.SoR T = .ok (d.sVal T) := by
  unfold RawData.SoR
  rw [checkRange_ok.mpr hT]

theorem hNum_integral (hmk : RawData.mk ip Href Sref pts Tref range = .ok d) (hg : ip.Good) (T : Rat) :
    d.hNum T = Href * Tref + d.intCp Tref T := by
  have hb := RawData.mk_built hmk
  rw [d.hNum_eq hb.min_le_max (hb.good hg).I_self, hb.href, hb.tref]

theorem sVal_integral (hmk : RawData.mk ip Href Sref pts Tref range = .ok d) (hg : ip.Good) (hpos : 0 < d.range.1)
    (T : Rat) : d.sVal T = Sref + d.intCpT Tref T := by
  have hb := RawData.mk_built hmk
  rw [d.sVal_eq hb.min_le_max (hb.good hg) (hpos.trans_le hb.lo_le_min), hb.sref, hb.tref]

end

end PGA.Thermo
