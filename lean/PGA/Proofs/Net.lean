import PGA.Spec.Net
import Mathlib.Data.List.Perm.Subperm
import Mathlib.Data.List.Induction
/-! Helper lemmas for C17: the duplicate elimination, the push of new species, one pass over the rules, and the
invariants of the work-list loop (`processed` / `unprocessed`). -/
namespace PGA.Net
variable {α : Type} [DecidableEq α]

/-! ### duplicate elimination inside one product list (lines 130-139) -/

theorem mem_dedupRev (l : List α) (x : α) : x ∈ dedupRev l ↔ x ∈ l := by
  induction l with
  | nil => rfl
  | cons a l ih =>
    rw [dedupRev, List.mem_cons]
    split
    · rename_i h
      exact ih.trans ⟨.inr, fun hx => hx.elim (fun e => e ▸ h) id⟩
    · rw [List.mem_cons, ih]

theorem nodup_dedupRev (l : List α) : (dedupRev l).Nodup := by
  induction l with
  | nil => simp [dedupRev]
  | cons a l ih =>
    unfold dedupRev
    split
    · exact ih
    · rename_i h
      exact List.nodup_cons.mpr ⟨fun hx => h ((mem_dedupRev l a).mp hx), ih⟩

theorem mem_dedup (l : List α) (x : α) : x ∈ dedup l ↔ x ∈ l := by
  simp [dedup, mem_dedupRev]

theorem nodup_dedup (l : List α) : (dedup l).Nodup := by
  unfold dedup
  exact (List.reverse_perm _).nodup_iff.mpr (nodup_dedupRev _)

/-! ### pushing the new species (lines 142-155: compared with both work lists) -/

theorem mem_pushNew (p ms u : List α) (x : α) :
    x ∈ pushNew p ms u ↔ x ∈ u ∨ (x ∈ ms ∧ x ∉ p) := by
  induction ms generalizing u with
  | nil => simp [pushNew]
  | cons m ms ih =>
    rw [pushNew]
    split
    · rename_i h
      rw [ih]
      constructor
      · exact Or.imp_right (And.imp_left (List.mem_cons_of_mem _))
      · rintro (hx | ⟨hx, hp⟩)
        · exact .inl hx
        · rcases List.mem_cons.1 hx with rfl | hx
          · exact .inl ((List.mem_append.1 h).resolve_left hp)
          · exact .inr ⟨hx, hp⟩
    · rename_i h
      rw [ih]
      constructor
      · rintro (hx | ⟨hx, hp⟩)
        · rcases List.mem_cons.1 hx with rfl | hx
          · exact .inr ⟨List.mem_cons_self, fun hp => h (List.mem_append_left _ hp)⟩
          · exact .inl hx
        · exact .inr ⟨List.mem_cons_of_mem _ hx, hp⟩
      · rintro (hx | ⟨hx, hp⟩)
        · exact .inl (List.mem_cons_of_mem _ hx)
        · rcases List.mem_cons.1 hx with rfl | hx
          · exact .inl List.mem_cons_self
          · exact .inr ⟨hx, hp⟩

theorem nodup_pushNew (p ms u : List α) (h : (p ++ u).Nodup) : (p ++ pushNew p ms u).Nodup := by
  induction ms generalizing u with
  | nil => simpa [pushNew] using h
  | cons m ms ih =>
    unfold pushNew
    split
    · exact ih u h
    · rename_i hm
      apply ih
      exact (List.perm_middle.nodup_iff).mpr (List.nodup_cons.mpr ⟨hm, h⟩)

/-! ### the duplicate elimination inside one product list is redundant once new species are compared with both work lists -/

theorem pushNew_append (p l1 l2 u : List α) : pushNew p (l1 ++ l2) u = pushNew p l2 (pushNew p l1 u) := by
  induction l1 generalizing u with
  | nil => rfl
  | cons m ms ih =>
    simp only [List.cons_append, pushNew]
    split <;> exact ih _

theorem dedup_snoc (l : List α) (x : α) : dedup (l ++ [x]) = if x ∈ l then dedup l else dedup l ++ [x] := by
  simp only [dedup, List.reverse_append, List.reverse_cons, List.reverse_nil, List.nil_append, List.singleton_append, dedupRev,
    List.mem_reverse]
  split <;> simp

theorem pushNew_dedup (p l u : List α) : pushNew p (dedup l) u = pushNew p l u := by
  induction l using List.reverseRecOn with
  | nil => rfl
  | append_singleton l x ih =>
    rw [dedup_snoc, pushNew_append]
    by_cases hx : x ∈ l
    · rw [if_pos hx, ih]
      have : x ∈ p ++ pushNew p l u := by
        by_cases hp : x ∈ p
        · exact List.mem_append_left _ hp
        · exact List.mem_append_right _ ((mem_pushNew p l u x).mpr (Or.inr ⟨hx, hp⟩))
      simp [pushNew, this]
    · rw [if_neg hx, pushNew_append, ih]

/-! ### one pass over the rules for the popped species (lines 87-155) -/

/-- for unimolecular rules one pass pushes the products of all rules, in rule order -/
theorem rulesStep_unary (r0 : α) (p : List α) (rs : List (Rule α)) (hU : ∀ r ∈ rs, r.arity = 1) (u : List α) :
    rulesStep pushNew r0 p rs u = .ok (pushNew p (rs.flatMap (·.run r0)) u) := by
  induction rs generalizing u with
  | nil => rfl
  | cons rule rest ih =>
    rw [rulesStep, ruleStep, if_neg (by rw [hU rule List.mem_cons_self]; decide), if_pos (hU rule List.mem_cons_self),
      pushNew_dedup, List.flatMap_cons, pushNew_append]
    exact ih (fun r hr => hU r (List.mem_cons_of_mem _ hr)) _

theorem mem_pass (rules : List (Rule α)) (r0 : α) (p rest : List α) (x : α) :
    x ∈ pushNew p (rules.flatMap (·.run r0)) rest ↔ x ∈ rest ∨ (Step rules r0 x ∧ x ∉ p) := by
  rw [mem_pushNew, List.mem_flatMap]; rfl

/-- a rule that is not unimolecular makes the pass end in `ValueError` / `TypeError` -/
theorem rulesStep_nonunary (push : List α → List α → List α → List α) (r0 : α) (p : List α) (rs : List (Rule α))
    (h : ∃ r ∈ rs, r.arity ≠ 1) (u : List α) :
    rulesStep push r0 p rs u = .error .value ∨ rulesStep push r0 p rs u = .error .type := by
  induction rs generalizing u with
  | nil => obtain ⟨r, hr, _⟩ := h; cases hr
  | cons rule rest ih =>
    by_cases h1 : rule.arity = 1
    · have : ∃ r ∈ rest, r.arity ≠ 1 := by
        obtain ⟨r, hr, hne⟩ := h
        rcases List.mem_cons.mp hr with e | hr
        · subst e; exact absurd h1 hne
        · exact ⟨r, hr, hne⟩
      simp only [rulesStep, ruleStep, h1]
      exact ih this _
    · by_cases h0 : rule.arity = 0
      · left; simp [rulesStep, ruleStep, h0]
      · right; simp [rulesStep, ruleStep, h0, h1]

/-! ### the loop -/

theorem loop_nil (rules : List (Rule α)) (f : Nat) (p : List α) : loop rules f [] p = .ok p := by
  cases f <;> simp [loop, loopWith]

theorem loop_zero_cons (rules : List (Rule α)) (r0 : α) (rest p : List α) :
    loop rules 0 (r0 :: rest) p = .error .fuel := by
  simp [loop, loopWith]

theorem loop_succ_cons {rules : List (Rule α)} (hU : Unary rules) (f : Nat) (r0 : α) (rest p : List α) :
    loop rules (f + 1) (r0 :: rest) p =
      loop rules f (pushNew (r0 :: p) (rules.flatMap (·.run r0)) rest) (r0 :: p) := by
  simp only [loop, loopWith, rulesStep_unary _ _ _ hU]

/-- Induction along the loop: a relation between the work lists that every iteration preserves holds, at the end,
between `[]` and the result.  One iteration pops `r0` and replaces the remaining `rest` by a list `u'` that holds the
members of `rest` and those products of `r0` that are not yet processed, keeping the two lists jointly duplicate-free. -/
theorem loop_rec (rules : List (Rule α)) (hU : Unary rules) (Inv : List α → List α → Prop)
    (hstep : ∀ r0 rest p u', (∀ x, x ∈ u' ↔ x ∈ rest ∨ (Step rules r0 x ∧ x ∉ r0 :: p)) →
      ((r0 :: p ++ rest).Nodup → (r0 :: p ++ u').Nodup) → Inv (r0 :: rest) p → Inv u' (r0 :: p))
    (f : Nat) (u p res : List α) (h : loop rules f u p = .ok res) (h0 : Inv u p) : Inv [] res := by
  induction f generalizing u p with
  | zero =>
    cases u with
    | nil => rw [loop_nil] at h; cases h; exact h0
    | cons r0 rest => rw [loop_zero_cons] at h; cases h
  | succ f ih =>
    cases u with
    | nil => rw [loop_nil] at h; cases h; exact h0
    | cons r0 rest =>
      rw [loop_succ_cons hU] at h
      exact ih _ (r0 :: p) h (hstep r0 rest p _ (mem_pass rules r0 _ rest) (nodup_pushNew _ _ rest) h0)

omit [DecidableEq α] in
/-- a predicate that holds on both work lists and is preserved by rule application still holds after an iteration -/
theorem iter_ind {rules : List (Rule α)} {r0 : α} {rest p u' : List α} {R : α → Prop}
    (hm : ∀ x, x ∈ u' ↔ x ∈ rest ∨ (Step rules r0 x ∧ x ∉ r0 :: p)) (hR : ∀ x, x ∈ p ∨ x ∈ r0 :: rest → R x)
    (hstep : ∀ a b, R a → Step rules a b → R b) : ∀ x, x ∈ r0 :: p ∨ x ∈ u' → R x := by
  rintro x (hx | hx)
  · exact hR x ((List.mem_cons.1 hx).elim (fun e => .inr (e ▸ List.mem_cons_self)) .inl)
  · rcases (hm x).1 hx with hx | ⟨hx, _⟩
    · exact hR x (.inr (List.mem_cons_of_mem _ hx))
    · exact hstep r0 x (hR r0 (.inr List.mem_cons_self)) hx

section
variable {rules : List (Rule α)} (hU : Unary rules) {f : Nat} {u p res : List α} (h : loop rules f u p = .ok res)
include hU h

/-- everything that was in either work list is in the result -/
theorem loop_mem (x : α) (hx : x ∈ p ∨ x ∈ u) : x ∈ res := by
  refine (loop_rec rules hU (fun u p => x ∈ p ∨ x ∈ u) ?_ f u p res h hx).resolve_right List.not_mem_nil
  rintro r0 rest p u' hm _ (hx | hx)
  · exact .inl (List.mem_cons_of_mem _ hx)
  · exact (List.mem_cons.1 hx).elim (fun e => .inl (e ▸ List.mem_cons_self)) fun hx => .inr ((hm x).2 (.inl hx))

/-- if the processed species have all their successors in the work lists, the result is closed -/
theorem loop_closed (hc : ∀ a ∈ p, ∀ b, Step rules a b → b ∈ p ∨ b ∈ u) : ∀ a ∈ res, ∀ b, Step rules a b → b ∈ res := by
  intro a ha b hs
  refine (loop_rec rules hU (fun u p => ∀ a ∈ p, ∀ b, Step rules a b → b ∈ p ∨ b ∈ u) ?_ f u p res h hc a ha b
    hs).resolve_right List.not_mem_nil
  intro r0 rest p u' hm _ hc a ha b hs
  by_cases hbp : b ∈ r0 :: p
  · exact .inl hbp
  · refine .inr ((hm b).2 ?_)
    rcases List.mem_cons.1 ha with rfl | ha
    · exact .inr ⟨hs, hbp⟩
    · have := (hc a ha b hs).resolve_left fun hb => hbp (List.mem_cons_of_mem _ hb)
      exact .inl ((List.mem_cons.1 this).resolve_left fun e => hbp (e ▸ List.mem_cons_self))

/-- a predicate that holds on the work lists and is preserved by rule application holds on the result -/
theorem loop_ind (R : α → Prop) (hR : ∀ x, x ∈ p ∨ x ∈ u → R x) (hstep : ∀ a b, R a → Step rules a b → R b) :
    ∀ x ∈ res, R x := fun x hx =>
  loop_rec rules hU (fun u p => ∀ x, x ∈ p ∨ x ∈ u → R x) (fun _ _ _ _ hm _ hR => iter_ind hm hR hstep) f u p res h hR x
    (.inl hx)

/-- jointly duplicate-free work lists give a duplicate-free result -/
theorem loop_nodup (hn : (p ++ u).Nodup) : res.Nodup := by
  have := loop_rec rules hU (fun u p => (p ++ u).Nodup) (fun _ _ _ _ _ hn h => hn (List.perm_middle.nodup_iff.1 h))
    f u p res h hn
  rwa [List.append_nil] at this

end

/-- Termination: if the work lists are jointly duplicate-free and inside a finite closed list `C`, the loop ends
within `C.length - processed.length` further iterations. -/
theorem loop_terminates (rules : List (Rule α)) (hU : Unary rules) (C : List α) (hC : Closed rules (· ∈ C))
    (f : Nat) (u p : List α) (hnd : (p ++ u).Nodup) (hsub : ∀ x, x ∈ p ∨ x ∈ u → x ∈ C)
    (hf : C.length ≤ f + p.length) : ∃ res, loop rules f u p = .ok res := by
  induction f generalizing u p with
  | zero =>
    cases u with
    | nil => exact ⟨p, loop_nil _ _ _⟩
    | cons r0 rest =>
      have := List.Nodup.length_le_of_subset hnd fun x hx => hsub x (List.mem_append.1 hx)
      simp at this
      omega
  | succ f ih =>
    cases u with
    | nil => exact ⟨p, loop_nil _ _ _⟩
    | cons r0 rest =>
      rw [loop_succ_cons hU]
      exact ih _ (r0 :: p) (nodup_pushNew _ _ rest (List.perm_middle.nodup_iff.1 hnd))
        (iter_ind (R := (· ∈ C)) (mem_pass rules r0 _ rest) hsub hC) (by simp; omega)

theorem loopWith_fuel_mono {push : List α → List α → List α → List α} {rules : List (Rule α)} {f g : Nat} (hfg : f ≤ g)
    {u p res : List α} (h : loopWith push rules f u p = .ok res) : loopWith push rules g u p = .ok res := by
  induction f generalizing g u p with
  | zero =>
    cases u with
    | nil => cases g <;> exact h
    | cons r0 rest => cases h
  | succ f ih =>
    cases u with
    | nil => cases g <;> exact h
    | cons r0 rest =>
      cases g with
      | zero => omega
      | succ g =>
        simp only [loopWith] at h ⊢
        split at h
        · cases h
        · exact ih (by omega) h

/-! ### `generate` -/

/-- what `generate` is when the input is not rejected at the door -/
theorem generate_eq_loop (fuel : Nat) {seeds : List α} {rules : List (Rule α)} (hs : seeds ≠ []) (hr : rules ≠ []) :
    generate fuel seeds rules = loop rules fuel seeds [] := by
  cases seeds with
  | nil => exact absurd rfl hs
  | cons s ss =>
    cases rules with
    | nil => exact absurd rfl hr
    | cons r rs => simp [generate]

theorem generate_ok_ne {fuel : Nat} {seeds : List α} {rules : List (Rule α)} {res : List α}
    (h : generate fuel seeds rules = .ok res) : seeds ≠ [] ∧ rules ≠ [] := by
  constructor
  · rintro rfl; simp [generate] at h
  · rintro rfl
    cases seeds <;> simp [generate] at h

theorem generate_ok {fuel : Nat} {seeds : List α} {rules : List (Rule α)} {res : List α}
    (h : generate fuel seeds rules = .ok res) : loop rules fuel seeds [] = .ok res := by
  obtain ⟨hs, hr⟩ := generate_ok_ne h
  rwa [generate_eq_loop fuel hs hr] at h

end PGA.Net
