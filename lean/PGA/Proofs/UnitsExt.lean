import PGA.Spec.SIExt
import PGA.Proofs.UnitsDen
/-!
# Growing a unit table: what a new unit may not change (general lemmas for C10)

`lookup_extend`: adding a unit none of whose spellings (bare, or with a prefix of the table) had a meaning leaves
the meaning of every name that had one unchanged; `evalTree_extend` / `evalStr_extend`: hence the value of every
expression that had one.  `judgeAll_conservative`: the units `PGA.SI.judgeAll` accepts are of that kind, whatever
the definitions are — so the extended reference is a conservative extension of the reference *by construction*.
`evalTree_congr`: two tables that agree on the names an expression mentions agree on the expression.
-/
namespace PGA.Units

/-- the first, else the second -/
def orElse' {α} : Option α → Option α → Option α
  | some x, _ => some x
  | none, b => b

theorem Table.find_append {α} (t : Table α) (n k : Name) (v : α) :
    Table.find (t ++ [(n, v)]) k = orElse' (Table.find t k) (if n = k then some v else none) := by
  induction t with
  | nil => simp [Table.find, orElse']
  | cons kv rest ih =>
    obtain ⟨k', w⟩ := kv
    simp only [List.cons_append, Table.find]
    split
    · rfl
    · exact ih

/-- no spelling of `n` — bare, or with a prefix of `c` — has a meaning over `c` -/
def Fresh (c : Cfg) (n : Name) : Prop :=
  ∀ p : Name, (p = [] ∨ (c.prefixes.find p).isSome = true) → ∀ w, lookup c (p ++ n) ≠ .ok w

/-- `units_db.add(n, v)` for a name that is not in the table -/
def addUnit (c : Cfg) (n : Name) (v : Val) : Cfg := { c with db := c.db ++ [(n, v)] }

/-- one prefix step of `UnitsDB.lookup` -/
def lookupStep (thr : Rat) (a : Option Val) (b : Option Rat) (k : Res Val) : Res Val :=
  match a, b with
  | some v, some p => .ok (scale thr p v)
  | _, _ => k

theorem lookup_eq (c : Cfg) (s : Name) :
    lookup c s =
      match c.db.find s with
      | some v => .ok v
      | none => lookupStep c.thr (c.db.find (s.drop 1)) (c.prefixes.find (s.take 1))
          (lookupStep c.thr (c.db.find (s.drop 2)) (c.prefixes.find (s.take 2)) perr) := by
  unfold lookup lookupStep
  rfl

theorem lookupStep_none_left (thr : Rat) (b : Option Rat) (k : Res Val) : lookupStep thr none b k = k := by
  unfold lookupStep; split <;> simp_all

theorem lookupStep_none_right (thr : Rat) (a : Option Val) (k : Res Val) : lookupStep thr a none k = k := by
  unfold lookupStep; split <;> simp_all

/-- the table after `addUnit` finds what the table found, and the new name -/
theorem find_addUnit (c : Cfg) (n : Name) (v : Val) (k : Name) :
    (addUnit c n v).db.find k = orElse' (c.db.find k) (if n = k then some v else none) :=
  Table.find_append _ _ _ _

/-- one step over the grown table, when the spelling it would newly resolve is not the one looked up -/
theorem lookupStep_addUnit {c : Cfg} {n : Name} (v : Val) {s : Name} (i : Nat)
    (hns : (c.prefixes.find (s.take i)).isSome = true → s.take i ++ n ≠ s) (k k' : Res Val) (w : Val)
    (hk : k = .ok w → k' = .ok w)
    (h : lookupStep c.thr (c.db.find (s.drop i)) (c.prefixes.find (s.take i)) k = .ok w) :
    lookupStep c.thr ((addUnit c n v).db.find (s.drop i)) (c.prefixes.find (s.take i)) k' = .ok w := by
  rw [find_addUnit]
  cases h1 : c.db.find (s.drop i) with
  | some x =>
    rw [h1] at h
    cases h2 : c.prefixes.find (s.take i) with
    | some p => rw [h2] at h; exact h
    | none => rw [h2, lookupStep_none_right] at h; rw [lookupStep_none_right]; exact hk h
  | none =>
    rw [h1, lookupStep_none_left] at h
    cases h2 : c.prefixes.find (s.take i) with
    | none => rw [lookupStep_none_right]; exact hk h
    | some p =>
      have : n ≠ s.drop i := by
        intro he
        apply hns (by simp [h2])
        rw [he, List.take_append_drop]
      simp only [this, if_false]
      exact hk h

/-- **a fresh unit changes no meaning**: every name that resolves over `c` (as a unit, a one-letter prefix and a
unit, or `da` and a unit) resolves to the same value after a unit whose spellings were all free has been added -/
theorem lookup_extend {c : Cfg} {n : Name} (v : Val) (hf : Fresh c n) {s : Name} {w : Val}
    (h : lookup c s = .ok w) : lookup (addUnit c n v) s = .ok w := by
  have hns : ∀ p, (p = [] ∨ (c.prefixes.find p).isSome = true) → p ++ n ≠ s :=
    fun p hp he => hf p hp w (he ▸ h)
  have hn : n ≠ s := by simpa using hns [] (Or.inl rfl)
  rw [lookup_eq] at h ⊢
  rw [find_addUnit]
  cases h0 : c.db.find s with
  | some x => rw [h0] at h; exact h
  | none =>
    rw [h0] at h
    simp only [hn, if_false]
    refine lookupStep_addUnit v 1 (fun hp => hns _ (Or.inr hp)) _ _ w (fun hk => ?_) h
    exact lookupStep_addUnit v 2 (fun hp => hns _ (Or.inr hp)) _ _ w (fun hk => hk) hk

/-- `c'` gives every name that has a meaning over `c` the same meaning, with the same snapping threshold -/
def Conservative (c c' : Cfg) : Prop :=
  c'.thr = c.thr ∧ ∀ s w, lookup c s = .ok w → lookup c' s = .ok w

theorem Conservative.refl (c : Cfg) : Conservative c c := ⟨rfl, fun _ _ h => h⟩

theorem Conservative.trans {a b c : Cfg} (h1 : Conservative a b) (h2 : Conservative b c) : Conservative a c :=
  ⟨h2.1.trans h1.1, fun s w h => h2.2 s w (h1.2 s w h)⟩

theorem conservative_addUnit {c : Cfg} {n : Name} (v : Val) (hf : Fresh c n) : Conservative c (addUnit c n v) :=
  ⟨rfl, fun _ _ h => lookup_extend v hf h⟩

/-- **every expression keeps its value**: a tree of any size that evaluates over `c` evaluates to the same value
over a conservative extension of `c` -/
theorem evalTree_extend {c c' : Cfg} (hc : Conservative c c') (t : Tree) (w : Val)
    (h : evalTree c t = .ok w) : evalTree c' t = .ok w := by
  induction t generalizing w with
  | num q => exact h
  | name s => exact hc.2 s w h
  | mul a b iha ihb =>
    obtain ⟨x, ha, h⟩ := bind_ok h
    obtain ⟨y, hb, h⟩ := bind_ok h
    simp only [evalTree, iha x ha, ihb y hb, hc.1]
    exact h
  | div a b iha ihb =>
    obtain ⟨x, ha, h⟩ := bind_ok h
    obtain ⟨y, hb, h⟩ := bind_ok h
    simp only [evalTree, iha x ha, ihb y hb, hc.1]
    exact h
  | pow a e iha =>
    obtain ⟨x, ha, h⟩ := bind_ok h
    simp only [evalTree, iha x ha, hc.1]
    exact h

/-- the same for texts (scanner and parser do not look at the table) -/
theorem evalStr_extend {c c' : Cfg} (hc : Conservative c c') (s : List Char) (w : Val)
    (h : evalStr c s = .ok w) : evalStr c' s = .ok w := by
  obtain ⟨t, hp, h⟩ := bind_ok h
  simp only [evalStr, evalTokens, hp]
  exact evalTree_extend hc t w h

/-- the names a tree mentions -/
def Tree.names : Tree → List Name
  | .num _ => []
  | .name s => [s]
  | .mul a b => a.names ++ b.names
  | .div a b => a.names ++ b.names
  | .pow a _ => a.names

/-- two tables with the same threshold that agree on the names of a tree agree on the tree (value or error) -/
theorem evalTree_congr {c c' : Cfg} (ht : c'.thr = c.thr) (t : Tree)
    (h : ∀ s ∈ t.names, lookup c' s = lookup c s) : evalTree c' t = evalTree c t := by
  induction t with
  | num q => rfl
  | name s => exact h s (by simp [Tree.names])
  | mul a b iha ihb =>
    have ha := iha (fun s hs => h s (by simp [Tree.names, hs]))
    have hb := ihb (fun s hs => h s (by simp [Tree.names, hs]))
    simp only [evalTree, ha, hb, ht]
  | div a b iha ihb =>
    have ha := iha (fun s hs => h s (by simp [Tree.names, hs]))
    have hb := ihb (fun s hs => h s (by simp [Tree.names, hs]))
    simp only [evalTree, ha, hb, ht]
  | pow a e iha =>
    have ha := iha (fun s hs => h s (by simp [Tree.names, hs]))
    simp only [evalTree, ha, ht]

end PGA.Units

namespace PGA.SI
open PGA.Units

theorem cfgOf_append (refs : List Ref) (r : Ref) :
    cfgOf (refs ++ [r]) = addUnit (cfgOf refs) r.name ⟨.exact r.value, r.dim⟩ := by
  simp [cfgOf, addUnit]

theorem prefix_mem {p : Name} (refs : List Ref) (h : ((cfgOf refs).prefixes.find p).isSome = true) :
    ∃ pk ∈ prefixes, pk.1 = p := by
  cases hf : (cfgOf refs).prefixes.find p with
  | none => rw [hf] at h; simp at h
  | some x =>
    have := Table.find_mem _ _ _ hf
    simp only [cfgOf, List.mem_map] at this
    obtain ⟨pk, hm, he⟩ := this
    exact ⟨pk, hm, by injection he⟩

/-- what `firstTaken = none` means -/
theorem fresh_of_firstTaken {refs : List Ref} {n : Name} (h : firstTaken refs n = none) : Fresh (cfgOf refs) n := by
  intro p hp w hl
  have hall := List.find?_eq_none.mp h
  have hm : p ++ n ∈ ownSpellings n := by
    rcases hp with rfl | hp
    · simp [ownSpellings]
    · obtain ⟨pk, hk, he⟩ := prefix_mem refs hp
      simp only [ownSpellings, List.mem_cons, List.mem_map]
      exact Or.inr ⟨pk, hk, by rw [he]⟩
  have := hall _ hm
  simp [hasMeaning, hl] at this

theorem judge_word {refs : List Ref} {n : Name} {df : Defn} {r : Ref} (h : judge refs n df = .accepted r) :
    judgeWord refs n df = .accepted r := by
  unfold judge at h
  split at h
  · exact h
  · simp at h

theorem judge_accepted {refs : List Ref} {n : Name} {df : Defn} {r : Ref} (h : judge refs n df = .accepted r) :
    firstTaken refs n = none ∧ r.name = n := by
  have h := judge_word h
  unfold judgeWord at h
  split at h
  · simp at h
  · next hft =>
    refine ⟨hft, ?_⟩
    split at h
    · simp at h
    · split at h
      · injection h with h; rw [← h]
      · simp at h
    · simp at h

/-- **by construction**: whatever the definitions are, the units `judgeAll` accepts leave every meaning unchanged -/
theorem judgeAll_conservative (defs : List (Name × Defn)) :
    ∀ refs, Conservative (cfgOf refs) (cfgOf (refs ++ acceptedOf (judgeAll refs defs))) := by
  induction defs with
  | nil => intro refs; simp only [judgeAll, acceptedOf, List.append_nil]; exact Conservative.refl _
  | cons nd rest ih =>
    intro refs
    obtain ⟨n, df⟩ := nd
    simp only [judgeAll]
    split
    · exact ih refs
    · cases hj : judge refs n df with
      | accepted r =>
        obtain ⟨hft, hname⟩ := judge_accepted hj
        simp only [acceptedOf, grow]
        have h1 : Conservative (cfgOf refs) (cfgOf (refs ++ [r])) := by
          rw [cfgOf_append, hname]
          exact conservative_addUnit _ (fresh_of_firstTaken hft)
        have h2 := ih (refs ++ [r])
        rw [List.append_assoc, List.singleton_append] at h2
        exact h1.trans h2
      | _ => simp only [acceptedOf, grow]; exact ih refs

theorem defValue_text {refs : List Ref} {s : List Char} {v : Val} {tol : Rat}
    (h : defValue refs (.text s) = .ok (v, tol)) : evalStr (cfgOf refs) s = .ok v := by
  simp only [defValue] at h
  simp only [evalStr, evalTokens, bind, Except.bind]
  split at h
  · simp at h
  · next t ht =>
    rw [ht]
    simp only
    split at h
    · simp at h
    · next v' hv =>
      injection h with h
      injection h with h1 h2
      rw [hv, h1]

theorem judge_accepted_value {refs : List Ref} {n : Name} {df : Defn} {r : Ref} (h : judge refs n df = .accepted r) :
    ∃ tol, defValue refs df = .ok (⟨.exact r.value, r.dim⟩, tol) := by
  have h := judge_word h
  unfold judgeWord at h
  split at h
  · simp at h
  · split at h
    · simp at h
    · next q d tol hd =>
      split at h
      · injection h with h; rw [← h]; exact ⟨tol, hd⟩
      · simp at h
    · simp at h

theorem acceptedOf_cons_grow (refs : List Ref) (n : Name) (df : Defn) (v : Verdict) (tl : List (Name × Defn × Verdict)) :
    refs ++ acceptedOf ((n, df, v) :: tl) = grow refs v ++ acceptedOf tl := by
  cases v <;> simp [acceptedOf, grow]

/-- **by construction**: every accepted new unit that is defined by a string means, over the *final* table, what its
definition string evaluates to over the final table (the definition is read over the table as it was when the unit
was accepted, and nothing accepted afterwards changes what it evaluates to) -/
theorem judgeAll_defined (defs : List (Name × Defn)) :
    ∀ refs, ∀ x ∈ judgeAll refs defs, ∀ s r, x.2.1 = .text s → x.2.2 = .accepted r →
      evalStr (cfgOf (refs ++ acceptedOf (judgeAll refs defs))) s = .ok ⟨.exact r.value, r.dim⟩ := by
  induction defs with
  | nil => intro refs x hx; simp [judgeAll] at hx
  | cons nd rest ih =>
    intro refs x hx s r hs hr
    obtain ⟨n, df⟩ := nd
    have hc := judgeAll_conservative ((n, df) :: rest) refs
    by_cases hk : (find n).isSome = true
    · simp only [judgeAll, hk, if_true] at hx ⊢
      exact ih refs x hx s r hs hr
    · simp only [judgeAll, hk] at hx hc ⊢
      simp only [Bool.false_eq_true, if_false] at hx hc ⊢
      rcases List.mem_cons.mp hx with rfl | hx
      · simp only at hs hr
        subst hs
        obtain ⟨tol, hd⟩ := judge_accepted_value hr
        exact evalStr_extend hc s _ (defValue_text hd)
      · rw [acceptedOf_cons_grow]
        exact ih _ x hx s r hs hr

theorem judgeAll_name (defs : List (Name × Defn)) :
    ∀ refs, ∀ x ∈ judgeAll refs defs, ∀ r, x.2.2 = .accepted r → r.name = x.1 := by
  induction defs with
  | nil => intro refs x hx; simp [judgeAll] at hx
  | cons nd rest ih =>
    intro refs x hx r hr
    obtain ⟨n, df⟩ := nd
    by_cases hk : (find n).isSome = true
    · simp only [judgeAll, hk, if_true] at hx
      exact ih refs x hx r hr
    · simp only [judgeAll, hk, Bool.false_eq_true, if_false] at hx
      rcases List.mem_cons.mp hx with rfl | hx
      · exact (judge_accepted hr).2
      · exact ih _ x hx r hr

/-- the extended reference gives every name the reference gives a meaning the same meaning -/
theorem ext_conservative : Conservative (cfgOf units) extCfg := judgeAll_conservative liveDefs units

/-- every accepted new unit of the working tree means what its definition string evaluates to over the extended
reference -/
theorem ext_defined : ∀ x ∈ liveVerdicts, ∀ s r, x.2.1 = .text s → x.2.2 = .accepted r →
    evalStr extCfg s = .ok ⟨.exact r.value, r.dim⟩ ∧ r.name = x.1 :=
  fun x hx s r hs hr => ⟨judgeAll_defined liveDefs units x hx s r hs hr, judgeAll_name liveDefs units x hx r hr⟩

theorem ext_name : ∀ x ∈ liveVerdicts, ∀ r, x.2.2 = .accepted r → r.name = x.1 := judgeAll_name liveDefs units

theorem mem_acceptedOf {vs : List (Name × Defn × Verdict)} {n : Name} {df : Defn} {r : Ref}
    (h : (n, df, Verdict.accepted r) ∈ vs) : r ∈ acceptedOf vs := by
  induction vs with
  | nil => simp at h
  | cons x rest ih =>
    obtain ⟨n', df', v'⟩ := x
    rcases List.mem_cons.mp h with he | hm
    · injection he with _ he; injection he with _ he; subst he; simp [acceptedOf]
    · cases v' <;> simp [acceptedOf, ih hm]

end PGA.SI
