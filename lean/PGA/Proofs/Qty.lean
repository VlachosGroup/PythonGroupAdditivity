import PGA.Spec.Qty
import PGA.Proofs.UnitsSnap
/-! Helper lemmas for C11: the guard, the element-wise operations, snapping of a differing exponent. -/
namespace PGA.Qty
open PGA.Units

theorem hasUnits_iff (d : Dim) : hasUnits d = true ↔ d ≠ Dim.zero := by
  unfold hasUnits
  rw [Bool.not_eq_true', ← Bool.not_eq_true, Dim.isZero_iff]

theorem hasUnits_false_iff (d : Dim) : hasUnits d = false ↔ d = Dim.zero := by
  rw [← Bool.not_eq_true, hasUnits_iff]; exact not_not

theorem absR_sub_comm (x y : Rat) : absR (x - y) = absR (y - x) := by
  rw [absR_eq_abs, absR_eq_abs]; exact abs_sub_comm x y

theorem sameUnits_iff (thr : Rat) (a b : Dim) : sameUnits thr a b = true ↔ Dim.Within thr a b := by
  simp only [sameUnits, Dim.zip, Dim.toList, List.all_cons, List.all_nil, Bool.and_true, Bool.and_eq_true,
    decide_eq_true_eq, Dim.Within]

theorem Dim.within_iff_not_differs (thr : Rat) (a b : Dim) : Dim.Within thr a b ↔ ¬ Dim.Differs thr a b := by
  simp only [Dim.Within, Dim.Differs, not_or, not_lt]

theorem Dim.Within.refl {thr : Rat} (h : 0 ≤ thr) (a : Dim) : Dim.Within thr a a := by
  simp only [Dim.Within, sub_self, absR_zero, h, and_self]

theorem Dim.Within.symm {thr : Rat} {a b : Dim} (h : Dim.Within thr a b) : Dim.Within thr b a := by
  simp only [Dim.Within, absR_sub_comm b.m, absR_sub_comm b.kg, absR_sub_comm b.s, absR_sub_comm b.A, absR_sub_comm b.K,
    absR_sub_comm b.mol, absR_sub_comm b.cd]
  exact h

theorem Dim.Differs.symm {thr : Rat} {a b : Dim} (h : Dim.Differs thr a b) : Dim.Differs thr b a :=
  not_not.mp fun hn =>
    (Dim.within_iff_not_differs thr a b).mp ((Dim.within_iff_not_differs thr b a).mpr hn).symm h

/-- the guard, in the vocabulary of the property -/
theorem compatible_iff (thr : Rat) (a b : Q) : compatible thr a b = true ↔ Compatible thr a b := by
  unfold compatible Compatible
  by_cases hu : hasUnits b.dim = true
  · have hq : IsQty b := (hasUnits_iff _).mp hu
    rw [if_pos hu, sameUnits_iff]
    exact ⟨fun h => Or.inl ⟨hq, h⟩, fun h => h.elim (fun h => h.2) (fun h => absurd h.1 hq)⟩
  · have hz : b.dim = Dim.zero := (hasUnits_false_iff _).mp (by simpa using hu)
    rw [if_neg hu]
    exact ⟨fun h => Or.inr ⟨hz, h⟩, fun h => h.elim (fun h => absurd hz h.1) (fun h => h.2)⟩

theorem compatible_of_bareZero {thr : Rat} {a b : Q} (h : BareZero b) : compatible thr a b = true :=
  (compatible_iff thr a b).mpr (Or.inr h)

theorem compatible_of_same {thr : Rat} (hthr : 0 ≤ thr) {a b : Q} (ha : IsQty a) (h : a.dim = b.dim) :
    Compatible thr a b :=
  Or.inl ⟨fun hb => ha (h.trans hb), h ▸ Dim.Within.refl hthr a.dim⟩

theorem not_compatible_of {thr : Rat} {a b : Q} (hd : Dim.Differs thr a.dim b.dim) (hb : ¬ BareZero b) :
    compatible thr a b = false := by
  rw [← Bool.not_eq_true, compatible_iff]
  rintro (⟨_, hw⟩ | hz)
  · exact (Dim.within_iff_not_differs _ _ _).mp hw hd
  · exact hb hz

theorem not_compatible_of_plain {thr : Rat} {a b : Q} (hb : b.dim = Dim.zero) (hnz : b.val.isZero = false) :
    compatible thr a b = false := by
  rw [← Bool.not_eq_true, compatible_iff]
  rintro (⟨hq, _⟩ | hz)
  · exact hq hb
  · rw [hz.2] at hnz; exact Bool.noConfusion hnz

/-! ## the element-wise operations are the specification's `onMagnitudes` -/

theorem ofCmp_compare (f : Rat → Rat → Bool) (x y : Num) : ofCmp (compare f x y) = cmpOut (onMagnitudes f x y) := by
  cases x <;> cases y <;> simp only [compare, zipNum, onMagnitudes, ofCmp, cmpOut]
  next l m => by_cases h : l.length = m.length <;> simp [h]

theorem build_arith (f : Rat → Rat → Rat) (x y : Num) (d : Dim) : build (arith f x y) d = valOut d (onMagnitudes f x y) := by
  cases x <;> cases y <;> simp only [arith, zipNum, onMagnitudes, build, valOut]
  next l m => by_cases h : l.length = m.length <;> simp [h]

theorem cmpOut_ne_unitsError (r : Option (Bool ⊕ List Bool)) : cmpOut r ≠ .err .unitsError := by
  rcases r with _ | _ | _ <;> simp [cmpOut]

theorem valOut_ne_unitsError (d : Dim) (r : Option (Rat ⊕ List Rat)) : valOut d r ≠ .err .unitsError := by
  rcases r with _ | _ | _ <;> simp [valOut]

theorem onMagnitudes_flip {α} (f : Rat → Rat → α) (x y : Num) :
    onMagnitudes (fun p q => f q p) y x = onMagnitudes f x y := by
  cases x <;> cases y <;> simp [onMagnitudes]
  next l m =>
    by_cases h : l.length = m.length
    · rw [if_pos h, if_pos h.symm, List.zipWith_comm]
    · rw [if_neg h, if_neg (fun h' => h h'.symm)]

/-! ## division, conversion, powers -/

theorem divVal_of_noZero (x : Num) {y : Num} (hnz : y.hasZero = false) : divVal x y = .ok (arith (· / ·) x y) := by
  cases y with
  | scalar q => exact if_neg (by simpa [Num.hasZero] using hnz)
  | array l => exact if_neg (by simp [hnz])

/-- `in_units` with no zero divisor: the quotient if the snapped difference of the exponents is null -/
theorem inUnits_of_noZero (thr : Rat) (a : Q) {u : Q} (hnz : u.val.hasZero = false) :
    inUnits thr a u =
      match arith (· / ·) a.val u.val with
      | some v => if (Dim.div thr a.dim u.dim).isZero then .val v (Dim.div thr a.dim u.dim) else .err .unitsError
      | none => .err .broadcast := by
  simp only [inUnits, div, divVal_of_noZero _ hnz]
  cases arith (· / ·) a.val u.val <;> rfl

theorem inUnits_of_div_zero {thr : Rat} {a u : Q} (hnz : u.val.hasZero = false) (hz : Dim.div thr a.dim u.dim = Dim.zero) :
    inUnits thr a u = valOut Dim.zero (onMagnitudes (fun x y => x / y) a.val u.val) := by
  rw [inUnits_of_noZero thr a hnz, hz, ← build_arith]
  cases arith (· / ·) a.val u.val <;> rfl

/-- the dimension a result carries (`D` for a result without one) -/
def Out.dimOr (D : Dim) : Out → Dim
  | .val _ d | .inexact _ d => d
  | _ => D

/-- whatever `a ** x` for a plain scalar `x` yields, a dimension it carries is the snapped `x · dim a`: every branch of
`pow` that is not an error is built with it -/
theorem pow_scalar_dimOr (thr : Rat) (a : Q) (x : Rat) :
    (pow thr a ⟨.scalar x, Dim.zero⟩).dimOr (Dim.pow thr a.dim x) = Dim.pow thr a.dim x := by
  have hz0 : hasUnits Dim.zero = false := by decide
  obtain ⟨w, da⟩ := a
  cases w <;> simp only [pow, hz0, Bool.false_eq_true, if_false, apply_ite (Out.dimOr (Dim.pow thr da x))] <;>
    simp only [Out.dimOr, ite_self]

/-! ## exponents that differ -/

/-- an exponent farther than the threshold from zero is not snapped to zero -/
theorem snap_ne_zero {thr e : Rat} (h : 0 ≤ thr) (hf : thr < absR e) : snap thr e ≠ 0 := by
  intro h0
  unfold snap at h0
  split at h0
  · rw [h0, absR_zero] at hf; exact not_le.mpr hf h
  · next hn => rw [h0, sub_zero] at hn; exact hn hf

/-- for a threshold below one half, `_build` sends an exponent to zero exactly when it is within the threshold of zero -/
theorem snap_eq_zero_iff {thr e : Rat} (h : 0 ≤ thr) (ht : thr < 1 / 2) : snap thr e = 0 ↔ absR e ≤ thr := by
  constructor
  · intro hs
    exact not_lt.mp fun hn => snap_ne_zero h hn hs
  · intro ha
    have hn : nearest e = (0 : Int) := nearest_eq (by rw [Int.cast_zero, sub_zero]; exact ha.trans_lt ht)
    unfold snap
    rw [hn, Int.cast_zero, sub_zero, if_neg (not_lt.mpr ha)]

/-- equality of units (repaired `__eq__`) is what division followed by `_build` decides: no units remain -/
theorem div_isZero_iff_within {thr : Rat} (h : 0 ≤ thr) (ht : thr < 1 / 2) (a b : Dim) :
    (Dim.div thr a b).isZero = true ↔ Dim.Within thr a b := by
  rw [Dim.isZero_iff, Dim.ext'_iff]
  simp only [Dim.div, Dim.build, Dim.map, Dim.zip, Dim.zero, snap_eq_zero_iff h ht, Dim.Within]

theorem div_ne_zero_of_differs {thr : Rat} (h : 0 ≤ thr) {a b : Dim} (hd : Dim.Differs thr a b) :
    Dim.div thr a b ≠ Dim.zero := by
  intro hz
  simp only [Dim.ext'_iff, Dim.div, Dim.build, Dim.map, Dim.zip, Dim.zero] at hz
  obtain ⟨h1, h2, h3, h4, h5, h6, h7⟩ := hz
  rcases hd with d | d | d | d | d | d | d
  · exact snap_ne_zero h d h1
  · exact snap_ne_zero h d h2
  · exact snap_ne_zero h d h3
  · exact snap_ne_zero h d h4
  · exact snap_ne_zero h d h5
  · exact snap_ne_zero h d h6
  · exact snap_ne_zero h d h7

/-- two integer exponents that differ, differ by at least 1 -/
theorem int_differs {thr x y : Rat} (ht : thr < 1) (hx : isInt x = true) (hy : isInt y = true) (hne : x ≠ y) :
    thr < absR (x - y) := by
  obtain ⟨k, rfl⟩ := (isInt_iff x).mp hx
  obtain ⟨l, rfl⟩ := (isInt_iff y).mp hy
  have hkl : k - l ≠ 0 := sub_ne_zero.mpr fun h => hne (congrArg Int.cast h)
  rw [absR_eq_abs, ← Int.cast_sub, ← Int.cast_abs]
  exact ht.trans_le (by exact_mod_cast Int.one_le_abs hkl)

theorem differs_of_integral {thr : Rat} (ht : thr < 1) {a b : Dim} (ha : a.Integral) (hb : b.Integral) (hne : a ≠ b) :
    Dim.Differs thr a b := by
  obtain ⟨a1, a2, a3, a4, a5, a6, a7⟩ := ha
  obtain ⟨b1, b2, b3, b4, b5, b6, b7⟩ := hb
  by_contra hnd
  obtain ⟨n1, n2, n3, n4, n5, n6, n7⟩ := (Dim.within_iff_not_differs thr a b).mpr hnd
  have key : ∀ {x y : Rat}, isInt x = true → isInt y = true → absR (x - y) ≤ thr → x = y :=
    fun hx hy hle => not_not.mp fun h => not_lt.mpr hle (int_differs ht hx hy h)
  exact hne (Dim.ext' (key a1 b1 n1) (key a2 b2 n2) (key a3 b3 n3) (key a4 b4 n4) (key a5 b5 n5) (key a6 b6 n6)
    (key a7 b7 n7))

end PGA.Qty
