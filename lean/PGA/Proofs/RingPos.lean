import PGA.Proofs.RingParse
/-!
# Position invariant of the RING engine (C09-T3)

`(lineno, colno)` is always the line/column of `sidx`, `sidx ≤ |s|`, and `stream[sidx:]` is what
is left; every error the engine raises or remembers carries the position of some index of the text.
-/
set_option linter.unusedVariables false
namespace PGA.Ring
open PGA.Chars

theorem lineOf_snoc (p : List Char) (ch : Char) :
    lineOf (p ++ [ch]) = if ch = '\n' then lineOf p + 1 else lineOf p := by
  unfold lineOf
  rw [List.count_append, List.count_singleton, ← Nat.add_assoc]
  by_cases h : ch = '\n'
  · rw [if_pos h, if_pos (beq_iff_eq.mpr h)]
  · rw [if_neg h, if_neg (mt beq_iff_eq.mp h)]; rfl

theorem colOf_snoc (p : List Char) (ch : Char) :
    colOf (p ++ [ch]) = if ch = '\n' then 1 else colOf p + 1 := by
  unfold colOf
  rw [List.reverse_append, List.reverse_singleton, List.singleton_append, List.takeWhile_cons]
  by_cases h : ch = '\n'
  · rw [if_pos h, if_neg (by rw [h]; simp)]; rfl
  · rw [if_neg h, if_pos (by simpa using h), List.length_cons, Nat.add_assoc]

theorem lineOf_nil : lineOf [] = 1 := rfl
theorem colOf_nil : colOf [] = 1 := rfl

/-- one character forward -/
theorem inv_step (s : List Char) (ch : Char) (r : List Char) (i l c : Nat) (h : Inv s ⟨ch :: r, i, l, c⟩) :
    Inv s ⟨r, i + 1, if ch = '\n' then l + 1 else l, if ch = '\n' then 1 else c + 1⟩ := by
  obtain ⟨h1, h2, h3, h4⟩ := h
  dsimp only at h2 h3 h4
  have hlt : i < s.length := Nat.lt_of_not_le fun hge => by
    rw [List.drop_eq_nil_iff.mpr hge] at h2; cases h2
  rw [List.drop_eq_getElem_cons hlt] at h2
  injection h2 with ha hb
  have htake : s.take (i + 1) = s.take i ++ [ch] := by rw [List.take_succ_eq_append_getElem hlt, ← ha]
  refine ⟨hlt, hb, ?_, ?_⟩
  · dsimp only; rw [htake, lineOf_snoc, h3]
  · dsimp only; rw [htake, colOf_snoc, h4]

theorem skipFillerAux_inv (s : List Char) (fil : List (List Char)) :
    ∀ (r : List Char) (i l c : Nat) (st' : St), skipFillerAux fil r i l c = some st' →
      Inv s ⟨r, i, l, c⟩ → Inv s st' := by
  intro r
  induction r with
  | nil =>
    intro i l c st' h hi
    simp only [skipFillerAux] at h
    split at h
    · cases h
    · cases h; exact hi
  | cons ch r ih =>
    intro i l c st' h hi
    simp only [skipFillerAux] at h
    have hs := inv_step s ch r i l c hi
    split at h
    · split at h
      · next hn => rw [if_pos hn, if_pos hn] at hs; exact ih _ _ _ _ h hs
      · next hn => rw [if_neg hn, if_neg hn] at hs; exact ih _ _ _ _ h hs
    · cases h; exact hi

theorem advance_cons (ch : Char) (r : List Char) (l c : Nat) :
    advance (ch :: r) l c = advance r (if ch = '\n' then l + 1 else l) (if ch = '\n' then 1 else c + 1) := by
  rw [advance]
  split <;> rfl

theorem advance_inv (s : List Char) :
    ∀ (n : Nat) (rest : List Char) (i l c : Nat), n ≤ rest.length → Inv s ⟨rest, i, l, c⟩ →
      Inv s ⟨rest.drop n, i + n, (advance (rest.take n) l c).1, (advance (rest.take n) l c).2⟩ := by
  intro n
  induction n with
  | zero => intro rest i l c _ h; exact h
  | succ n ih =>
    intro rest i l c hn h
    cases rest with
    | nil => cases hn
    | cons ch r =>
      rw [List.drop_succ_cons, List.take_succ_cons, advance_cons, ← Nat.add_assoc, Nat.add_right_comm]
      exact ih r (i + 1) _ _ (Nat.le_of_succ_le_succ hn) (inv_step s ch r i l c h)

theorem take_inv (s : List Char) (fil : List (List Char)) (st : St) (n : Nat) (t : List Char) (st' : St)
    (h : take fil st n = some (t, st')) (hn : n ≤ st.rest.length) (hi : Inv s st) : Inv s st' := by
  unfold take at h
  simp only [skipFiller] at h
  split at h
  · cases h
  · rename_i st'' hs
    cases h
    exact skipFillerAux_inv s fil _ _ _ _ _ hs (advance_inv s n st.rest st.idx st.line st.col hn hi)

theorem errAt_inside (s : List Char) (st : St) (t : Tok) (hi : Inv s st) : ErrInside s (errAt st t) :=
  ⟨st.idx, hi.1, hi.2.2.1, hi.2.2.2⟩

theorem update_inside (s : List Char) (e c : Err) (he : ErrInside s e) (hc : ErrInside s c) :
    ErrInside s (e.update c) := by
  unfold Err.update
  split
  · exact hc
  · split
    · exact he
    · exact he

theorem catchErr_inside (s : List Char) (e : Err) (cur : Option Err) (he : ErrInside s e) (hc : CurInside s cur) :
    CurInside s (catchErr e cur) := by
  cases cur with
  | none => exact he
  | some c => exact update_inside s e c he hc

/-- what the invariant says about a result -/
def ResInv (s : List Char) : Res → Prop
  | .ok st' _ cur' => Inv s st' ∧ CurInside s cur'
  | .fail e cur' => ErrInside s e ∧ CurInside s cur'
  | .abort _ => True

theorem take_eq_le {α} (l tok : List α) (h : l.take tok.length = tok) : tok.length ≤ l.length := by
  have := congrArg List.length h
  simp only [List.length_take] at this
  omega

theorem identRun_le (G : Grammar) : ∀ r : List Char, identRun G r ≤ r.length := by
  intro r
  induction r with
  | nil => simp [identRun]
  | cons c r ih => simp only [identRun]; split <;> simp <;> omega

/-- a `take` of characters the text has keeps the invariant, whatever is done with them next -/
theorem take_then_inv {s : List Char} {fil : List (List Char)} {st : St} {n : Nat} (hn : n ≤ st.rest.length)
    (hi : Inv s st) {k : List Char → St → Res} (hk : ∀ t st', Inv s st' → ResInv s (k t st')) :
    ResInv s (match take fil st n with | none => .abort .hang | some (t, st') => k t st') := by
  split
  · trivial
  · next t st' ht => exact hk t st' (take_inv s fil st n t st' ht hn hi)

theorem fail_inv {s : List Char} {st : St} {cur : Option Err} (t : Tok) (hi : Inv s st) (hc : CurInside s cur) :
    ResInv s (.fail (errAt st t) cur) :=
  ⟨errAt_inside s st t hi, hc⟩

theorem digitLoop_inv (G : Grammar) (s : List Char) :
    ∀ (n : Nat) (st : St) (acc : List Char) (cur : Option Err), Inv s st → CurInside s cur →
      ResInv s (digitLoop G n st acc cur) := by
  intro n
  induction n with
  | zero =>
    intro st acc cur hi hc
    simp only [digitLoop, pyInt]
    split
    · exact ⟨hi, hc⟩
    · trivial
  | succ n ih =>
    intro st acc cur hi hc
    unfold digitLoop
    split
    · exact fail_inv _ hi hc
    · next c r hrest =>
      split
      · exact take_then_inv (by rw [hrest]; exact Nat.succ_pos _) hi fun _ st' hi' => ih st' _ cur hi' hc
      · exact fail_inv _ hi hc

theorem numberLoop_inv (G : Grammar) (s : List Char) (st : St) (acc : List Char) (st' : St) (out : List Char)
    (h : numberLoop G st acc = some (st', out)) (hi : Inv s st) : Inv s st' := by
  fun_induction numberLoop G st acc with
  | case1 | case4 => cases h; exact hi
  | case2 => cases h
  | case3 st acc c r hr hd t st1 h2 ih =>
    exact ih h (take_inv s G.filler st 1 t st1 h2 (by rw [hr]; exact Nat.succ_pos _) hi)

theorem literalsLoop_inv (G : Grammar) (s : List Char) (st : St) (hi : Inv s st) :
    ∀ (toks : List (List Char)) (cur : Option Err), CurInside s cur → ResInv s (literalsLoop G st toks cur) := by
  intro toks
  induction toks with
  | nil =>
    intro cur hc
    cases cur with
    | none => trivial
    | some c => exact ⟨hc, hc⟩
  | cons tok more ih =>
    intro cur hc
    unfold literalsLoop
    split
    · next hm => exact take_then_inv (take_eq_le _ _ hm) hi fun _ _ hi' => ⟨hi', hc⟩
    · exact ih _ (catchErr_inside s _ cur (errAt_inside s st _ hi) hc)

theorem evalLeaf_inv (G : Grammar) (s : List Char) (e : Expr) (st : St) (cur : Option Err)
    (hi : Inv s st) (hc : CurInside s cur) : ResInv s (evalLeaf G e st cur) := by
  cases e with
  | eos =>
    simp only [evalLeaf]
    split
    · exact ⟨hi, hc⟩
    · exact fail_inv _ hi hc
  | digit n => exact digitLoop_inv G s n st [] cur hi hc
  | number =>
    simp only [evalLeaf]
    split
    · exact fail_inv _ hi hc
    · next c r hrest =>
      split
      · refine take_then_inv (by rw [hrest]; exact Nat.succ_pos _) hi fun t st1 h1 => ?_
        split
        · trivial
        · next st2 out hn =>
          have h2 := numberLoop_inv G s st1 t st2 out hn h1
          split
          · exact ⟨h2, hc⟩
          · exact fail_inv _ h2 hc
      · exact fail_inv _ hi hc
  | string =>
    simp only [evalLeaf]
    split
    · exact fail_inv _ hi hc
    · next c r hrest =>
      split
      · exact take_then_inv (by rw [hrest]; exact Nat.succ_le_succ (identRun_le G r)) hi fun _ _ hi' => ⟨hi', hc⟩
      · exact fail_inv _ hi hc
  | lit tok noErr | filler tok noErr =>
    simp only [evalLeaf]
    split
    · next hm => exact take_then_inv (take_eq_le _ _ hm) hi fun _ _ hi' => ⟨hi', hc⟩
    · exact fail_inv _ hi hc
  | literals toks name =>
    have g := literalsLoop_inv G s st hi toks cur hc
    simp only [evalLeaf]
    generalize literalsLoop G st toks cur = r at g
    cases r with
    | fail =>
      cases name with
      | none => exact g
      | some nm => exact ⟨errAt_inside s st _ hi, g.2⟩
    | _ => exact g
  | _ => trivial

theorem seqPost_inv {s : List Char} {r : Res} (out1 : List Ast) (h : ResInv s r) : ResInv s (seqPost out1 r) := by
  cases r <;> exact h

theorem eval_inv (G : Grammar) (s : List Char) :
    ∀ (e : Expr) (st : St) (cur : Option Err) (bound : Nat), Inv s st → CurInside s cur →
      ResInv s (eval G e st cur bound) := by
  refine eval_induction G ?leaf ?opt ?star ?allNil ?allCons ?anyNil ?anyCons ?ref
  case leaf =>
    intro e st cur b he hi hc
    rw [eval_leaf G st cur b he]
    exact evalLeaf_inv G s e st cur hi hc
  case opt =>
    intro a st cur b ih hi hc
    have g := ih hi hc
    rw [eval_opt]
    generalize eval G a st cur b = r at g
    cases r with
    | fail err cur' => exact ⟨hi, catchErr_inside s err cur' g.1 g.2⟩
    | _ => exact g
  case star =>
    intro a st cur b ih1 ih2 hi hc
    have g := ih1 hi hc
    rw [eval_star]
    generalize h : eval G a st cur b = r at g
    cases r with
    | fail err cur' => exact ⟨hi, catchErr_inside s err cur' g.1 g.2⟩
    | abort => trivial
    | ok st1 out1 cur1 =>
      dsimp only
      split
      · next hlt => exact seqPost_inv out1 (ih2 _ _ _ h hlt g.1 g.2)
      · trivial
  case allNil =>
    intro st cur b hi hc
    rw [eval_allNil]
    exact ⟨hi, hc⟩
  case allCons =>
    intro a rest st cur b ih1 ih2 hi hc
    have g := ih1 hi hc
    rw [eval_allCons]
    generalize h : eval G a st cur b = r at g
    cases r with
    | ok st1 out1 cur1 =>
      dsimp only
      split
      · trivial
      · next hle => exact seqPost_inv out1 (ih2 _ _ _ h (Nat.not_lt.mp hle) g.1 g.2)
    | _ => exact g
  case anyNil =>
    intro st cur b _ hc
    rw [eval_anyNil]
    cases cur with
    | none => trivial
    | some c => exact ⟨hc, hc⟩
  case anyCons =>
    intro a rest st cur b ih1 ih2 hi hc
    have g := ih1 hi hc
    rw [eval_anyCons]
    generalize h : eval G a st cur b = r at g
    cases r with
    | fail err cur' => exact ih2 _ _ h hi (catchErr_inside s err cur' g.1 g.2)
    | _ => exact g
  case ref =>
    intro n st cur b ih hi hc
    rw [eval_ref]
    split
    · next body hb =>
      split
      · next r hr =>
        split
        · next hlt =>
          have g := ih body r hb hr hlt hi hc
          generalize eval G body st cur r = r2 at g
          cases r2 <;> exact g
        · trivial
      · trivial
    · trivial

end PGA.Ring
