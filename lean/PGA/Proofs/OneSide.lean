import PGA.Spec.MolUnion
import PGA.Spec.Embeds
import PGA.Proofs.Neighbours
/-! An embedding of a *connected* query into a graph whose bonds never cross a cut (`n`) lies entirely on one side of
the cut: each atom after the first is bonded to an earlier one, and a bond stays on its side. -/
namespace PGA.Spec
open PGA

theorem connected_iff (q : Query) : q.connected = true ↔
    ∀ k, k < q.atoms.length → k = 0 ∨ ∃ b ∈ q.bonds, (b.i = k ∧ b.j < k) ∨ (b.j = k ∧ b.i < k) := by
  simp only [Query.connected, List.all_eq_true, List.mem_range, Bool.or_eq_true, beq_iff_eq, List.any_eq_true,
    Bool.and_eq_true, decide_eq_true_eq]

theorem same_side (U : Mol) (n : Nat)
    (sides : ∀ e ∈ U.bonds, (e.a < n ↔ e.b < n))
    (q : Query) (hc : q.connected = true) (f : List Nat) (E : Embeds q U f) (x0 : Nat) (h0 : f[0]? = some x0) :
    ∀ (k x : Nat), f[k]? = some x → (x < n ↔ x0 < n) := by
  intro k
  induction k using Nat.strongRecOn with
  | _ k ih =>
    intro x hx
    have hklt : k < q.atoms.length := E.length ▸ (List.getElem?_eq_some_iff.1 hx).1
    rcases (connected_iff q).1 hc k hklt with rfl | ⟨b, hb, hh⟩
    · exact Option.some.inj (hx.symm.trans h0) ▸ Iff.rfl
    · obtain ⟨xi, xj, e, hi, hj, hbb, _⟩ := E.bonds b hb
      obtain ⟨he, hjn⟩ := bondBetween_some hbb
      have hside : xi < n ↔ xj < n := by
        rcases (joins_ends_eq e xi xj).1 hjn with ⟨rfl, rfl⟩ | ⟨rfl, rfl⟩
        · exact sides e he
        · exact (sides e he).symm
      rcases hh with ⟨rfl, hjk⟩ | ⟨rfl, hik⟩
      · cases hi.symm.trans hx
        exact hside.trans (ih b.j hjk xj hj)
      · cases hj.symm.trans hx
        exact hside.symm.trans (ih b.i hik xi hi)
theorem one_side (U : Mol) (n : Nat)
    (sides : ∀ e ∈ U.bonds, (e.a < n ↔ e.b < n))
    (q : Query) (hc : q.connected = true) (f : List Nat) (E : Embeds q U f) :
    (∀ x ∈ f, x < n) ∨ (∀ x ∈ f, n ≤ x) := by
  cases f with
  | nil => exact .inl fun x hx => nomatch hx
  | cons x0 f =>
    have key : ∀ x ∈ x0 :: f, (x < n ↔ x0 < n) := fun x hx =>
      let ⟨k, hk⟩ := List.getElem?_of_mem hx
      same_side U n sides q hc _ E x0 rfl k x hk
    by_cases h : x0 < n
    · exact .inl fun x hx => (key x hx).2 h
    · exact .inr fun x hx => Nat.le_of_not_lt fun hlt => h ((key x hx).1 hlt)

end PGA.Spec
