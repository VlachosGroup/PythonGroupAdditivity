import PGA.Proofs.EmbedsMap
import PGA.Proofs.Aromatize
import PGA.Proofs.Neighbours
import PGA.Proofs.SchemeRelabel
import PGA.Proofs.Decompose
import PGA.Proofs.OneSide
import Mathlib.Algebra.BigOperators.Group.List.Basic
/-! Transport along an injective renaming `π` of the atoms.  First for a graph `m'` that *holds a renamed copy* of `m`:
its bonds are the renamed bonds of `m` and some others (`rest`), none of which touches the renamed atom looked at; its
rings are the renamed rings of `m` between others that avoid that atom.  Then for a renumbering (`Spec.MolIso`, nothing
beside the copy): it is an `OpenMap`, it keeps every molecule-level prefix, and the Benson perception commutes with it.
The two injections into a disjoint union are the other instances (`Proofs/MolUnion.lean`). -/
namespace PGA.Spec
open PGA PGA.Arom PGA.Match

variable {π : Nat → Nat} {m m' : Mol}

/-! ### a renamed bond -/
theorem joins_relabel (hinj : Function.Injective π) (e : Bond) (x y : Nat) :
    (relabelBond π e).joins (π x) (π y) = e.joins x y := by
  simp only [Bond.joins, relabelBond, hinj.beq_eq]

theorem touches_relabel (hinj : Function.Injective π) (e : Bond) (x : Nat) :
    (relabelBond π e).touches (π x) = e.touches x := by
  simp only [Bond.touches, relabelBond, hinj.beq_eq]

theorem other_relabel (hinj : Function.Injective π) (e : Bond) (x : Nat) :
    (relabelBond π e).other (π x) = π (e.other x) := by
  simp only [Bond.other, relabelBond, hinj.beq_eq, apply_ite π]

theorem edgePairs_map (π : Nat → Nat) (r : List Nat) : edgePairs (r.map π) = (edgePairs r).map (Prod.map π π) := by
  by_cases hl : r.length = 6
  · obtain ⟨a0, a1, a2, a3, a4, a5, rfl⟩ := six_of_length hl
    rfl
  · rw [edgePairs_length_ne r hl, edgePairs_length_ne _ (by rwa [List.length_map])]
    rfl

theorem ringEdge_relabel (hinj : Function.Injective π) (r : List Nat) (e : Bond) :
    ringEdge (r.map π) (relabelBond π e) = ringEdge r e := by
  unfold ringEdge
  rw [edgePairs_map, List.any_map]
  exact congrArg _ (funext fun p => joins_relabel hinj e p.1 p.2)

theorem touches_of_joins {e : Bond} {x y : Nat} (h : e.joins x y = true) : e.touches x = true :=
  ((Match.joins_iff e x y).1 h).1

theorem exists_bond_iff (m : Mol) (x : Nat) (P : Bond → Prop) :
    (∃ e ∈ m.bonds, e.touches x = true ∧ P e) ↔ (∃ e ∈ m.bondsOf x, P e) := by
  simp only [Mol.bondsOf, List.mem_filter, and_assoc]

/-! ### a renamed copy inside a graph -/
theorem filter_touches_nil (l : List Bond) (x : Nat) (h : ∀ e ∈ l, e.touches x = false) :
    l.filter (·.touches x) = [] :=
  List.filter_eq_nil_iff.2 fun e he => by rw [h e he]; exact Bool.false_ne_true

section copy
variable {rest : List Bond} {x : Nat}

theorem bondsOf_image (hinj : Function.Injective π) (hb : m'.bonds.Perm (m.bonds.map (relabelBond π) ++ rest))
    (hr : ∀ e ∈ rest, e.touches (π x) = false) :
    (m'.bondsOf (π x)).Perm ((m.bondsOf x).map (relabelBond π)) := by
  unfold Mol.bondsOf
  refine (hb.filter _).trans (.of_eq ?_)
  rw [List.filter_append, filter_touches_nil _ _ hr, List.append_nil, List.filter_map]
  exact congrArg _ (List.filter_congr fun e _ => touches_relabel hinj e x)

/-- without parallel bonds in `m'`, `GetBondBetweenAtoms` at a renamed atom finds the renamed bond -/
theorem bondBetween_image (hinj : Function.Injective π) (hb : m'.bonds.Perm (m.bonds.map (relabelBond π) ++ rest))
    (hp : NoParallel m'.bonds) (hr : ∀ e ∈ rest, e.touches (π x) = false) (y : Nat) :
    m'.bondBetween (π x) (π y) = (m.bondBetween x y).map (relabelBond π) := by
  cases h : m.bondBetween x y with
  | some e =>
    obtain ⟨he, hj⟩ := bondBetween_some h
    exact bondBetween_of_mem m' hp _ (hb.mem_iff.2 (List.mem_append_left _ (List.mem_map_of_mem he))) _ _
      (by rwa [joins_relabel hinj])
  | none =>
    refine List.find?_eq_none.2 fun e' he' hj => ?_
    rcases List.mem_append.1 (hb.mem_iff.1 he') with h1 | h1
    · obtain ⟨e, he, rfl⟩ := List.mem_map.1 h1
      rw [joins_relabel hinj] at hj
      exact List.find?_eq_none.1 h e he hj
    · exact Bool.false_ne_true ((hr e' h1).symm.trans (touches_of_joins hj))

theorem ringsThrough_image (hinj : Function.Injective π) {pre post : List (List Nat)}
    (hrs : m'.rings = pre ++ m.rings.map (List.map π) ++ post) (h1 : ∀ r ∈ pre, π x ∉ r) (h2 : ∀ r ∈ post, π x ∉ r) :
    ringsThrough m' (π x) = (ringsThrough m x).map (List.map π) := by
  unfold ringsThrough
  have hnil : ∀ l : List (List Nat), (∀ r ∈ l, π x ∉ r) → l.filter (fun r => decide (π x ∈ r)) = [] :=
    fun l h => List.filter_eq_nil_iff.2 fun r hr => by simpa using h r hr
  rw [hrs, List.filter_append, List.filter_append, hnil pre h1, hnil post h2, List.nil_append, List.append_nil,
    List.filter_map]
  exact congrArg _ (List.filter_congr fun r _ => decide_eq_decide.2 (List.mem_map_of_injective hinj))

/-- **A renamed copy is open**: with the atoms kept and, at every atom of `m`, no further bond and no further ring. -/
theorem OpenMap.ofCopy (hinj : Function.Injective π) (hm : m.wf = true) (hm' : m'.wf = true)
    (hb : m'.bonds.Perm (m.bonds.map (relabelBond π) ++ rest))
    (hr : ∀ x, x < m.natoms → ∀ e ∈ rest, e.touches (π x) = false)
    (atoms : ∀ x, x < m.natoms → m'.atom? (π x) = m.atom? x)
    (rings : ∀ x, x < m.natoms → ringsThrough m' (π x) = (ringsThrough m x).map (List.map π)) : OpenMap π m m' := by
  have at_image : ∀ x, x < m.natoms → ∀ e', e' ∈ m'.bondsOf (π x) ↔ ∃ e ∈ m.bondsOf x, relabelBond π e = e' :=
    fun x hx e' => (bondsOf_image hinj hb (hr x hx)).mem_iff.trans List.mem_map
  refine OpenMap.ofRingsEq hinj atoms (fun x y hx _ => bondBetween_image hinj hb (m'.wf_iff.1 hm').2.1 (hr x hx) y)
    ?_ ?_ rings
  · intro x y' e' hx hbb
    obtain ⟨he', hj⟩ := bondBetween_some hbb
    obtain ⟨e, he, rfl⟩ := (at_image x hx e').1 (List.mem_filter.2 ⟨he', touches_of_joins hj⟩)
    obtain ⟨ha, hb', _⟩ := (m.wf_iff.1 hm).1 e (List.mem_filter.1 he).1
    rcases (joins_ends_eq _ _ _).1 hj with ⟨_, h2⟩ | ⟨h1, _⟩
    · exact ⟨e.b, hb', h2.symm⟩
    · exact ⟨e.a, ha, h1.symm⟩
  · intro x hx
    rw [exists_bond_iff, exists_bond_iff]
    constructor
    · rintro ⟨e', he', hk⟩
      obtain ⟨e, he, rfl⟩ := (at_image x hx e').1 he'
      exact ⟨e, he, hk⟩
    · rintro ⟨e, he, hk⟩
      exact ⟨_, (at_image x hx _).2 ⟨e, he, rfl⟩, hk⟩

end copy

theorem isC_congr {x x' : Nat} (h : m'.atom? x' = m.atom? x) : isC m' x' = isC m x := by
  unfold isC; rw [h]

theorem kindAt_congr {x y x' y' : Nat} (h : m'.bondBetween x' y' = (m.bondBetween x y).map (relabelBond π)) :
    kindAt m' x' y' = kindAt m x y := by
  unfold kindAt; rw [h]; cases m.bondBetween x y <;> rfl

/-- Benson's check of a ring reads the carbon test of its atoms and the bond kinds between them (`P`: where the two
graphs are known to agree) -/
theorem eligible_map (φ : Nat → Nat) (m m' : Mol) (P : Nat → Prop) (r : List Nat) (hr : ∀ x ∈ r, P x)
    (hC : ∀ x, P x → isC m' (φ x) = isC m x) (hK : ∀ x y, P x → P y → kindAt m' (φ x) (φ y) = kindAt m x y) :
    eligible m' (r.map φ) = eligible m r := by
  by_cases hl : r.length = 6
  · obtain ⟨a0, a1, a2, a3, a4, a5, rfl⟩ := six_of_length hl
    simp only [List.forall_mem_cons] at hr
    simp only [List.map_cons, List.map_nil, eligible_six, hC, hK, hr]
  · rw [eligible_eq_false m r hl, eligible_eq_false m' _ (by rwa [List.length_map])]

/-! ### a renumbering -/
theorem MolIso.copy (h : MolIso π m m') : m'.bonds.Perm (m.bonds.map (relabelBond π) ++ []) := by
  rw [List.append_nil]; exact h.bonds

theorem MolIso.ringsThrough (h : MolIso π m m') (x : Nat) :
    ringsThrough m' (π x) = (ringsThrough m x).map (List.map π) :=
  ringsThrough_image (pre := []) (post := []) h.inj (by rw [h.rings, List.nil_append, List.append_nil])
    (fun _ h => nomatch h) (fun _ h => nomatch h)

theorem MolIso.openMap (h : MolIso π m m') (hm : m.wf = true) (hm' : m'.wf = true) : OpenMap π m m' :=
  OpenMap.ofCopy h.inj hm hm' h.copy (fun _ _ _ h => nomatch h) (fun x _ => h.atoms x) (fun x _ => h.ringsThrough x)

/-! ### molecule-level prefixes -/
theorem map_lookup_range (l : List Atom) : (List.range l.length).map (fun i => l[i]?) = l.map some :=
  List.ext_getElem (by rw [List.length_map, List.length_map, List.length_range]) fun i h1 h2 => by
    rw [List.getElem_map, List.getElem_map, List.getElem_range, List.getElem?_eq_getElem]

theorem MolIso.atoms_perm' (h : MolIso π m m') : m'.atoms.Perm m.atoms := by
  -- the atoms of `m` are the lookups in `m'` along `π` of `range n`, and `π` permutes `range n`
  have := ((PGA.Scheme.range_map_perm m.natoms h.inj h.range).symm).map (fun j => m'.atoms[j]?)
  rw [List.map_map, show ((fun j => m'.atoms[j]?) ∘ π) = fun i => m.atoms[i]? from funext h.atoms,
    show m.natoms = m'.atoms.length from h.natoms.symm, map_lookup_range,
    show m'.atoms.length = m.atoms.length from h.natoms, map_lookup_range] at this
  exact (List.map_perm_map_iff (Option.some_injective _)).1 this

theorem MolIso.molPrefix (h : MolIso π m m') (p : MolPrefix) : MolPrefixHolds m' p ↔ MolPrefixHolds m p := by
  have hperm := h.atoms_perm'
  have htc : m'.totalCharge = m.totalCharge := (hperm.map _).sum_eq
  have hcc : HasCC m' ↔ HasCC m := by
    unfold HasCC
    simp only [h.bonds.mem_iff, List.mem_map]
    constructor
    · rintro ⟨_, ⟨e, he, rfl⟩, hk, a, b, ha, hb, z⟩
      exact ⟨e, he, hk, a, b, (h.atoms e.a).symm.trans ha, (h.atoms e.b).symm.trans hb, z⟩
    · rintro ⟨e, he, hk, a, b, ha, hb, z⟩
      exact ⟨_, ⟨e, he, rfl⟩, hk, a, b, (h.atoms e.a).trans ha, (h.atoms e.b).trans hb, z⟩
  cases p with
  | positive | negative | neutral => simp only [MolPrefixHolds, htc]
  | aromatic => simp only [MolPrefixHolds, hperm.mem_iff]
  | olefinic => exact hcc
  | paraffinic => exact not_congr hcc
  | cyclic | linear => simp only [MolPrefixHolds, h.rings, ne_eq, List.map_eq_nil_iff]

/-! ### the Benson perception commutes with a renumbering -/
theorem MolIso.eligible (h : MolIso π m m') (hm : m.wf = true) (hm' : m'.wf = true) (r : List Nat) :
    Arom.eligible m' (r.map π) = Arom.eligible m r := by
  have _ := hm
  exact eligible_map π m m' (fun _ => True) r (fun _ _ => trivial) (fun x _ => isC_congr (h.atoms x))
    (fun x y _ _ => kindAt_congr (bondBetween_image h.inj h.copy (m'.wf_iff.1 hm').2.1 (fun _ h => nomatch h) y))

theorem MolIso.setAromatic (h : MolIso π m m') (r : List Nat) :
    MolIso π (Arom.setAromatic m r) (Arom.setAromatic m' (r.map π)) := by
  refine ⟨h.inj, h.surj, by simpa only [setAromatic_natoms] using h.range,
    by simpa only [setAromatic_natoms] using h.natoms, fun i => ?_, ?_, h.rings⟩
  · unfold Arom.setAromatic
    simp only [List.getElem?_mapIdx]
    rw [h.atoms i, contains_map_inj h.inj]
  · unfold Arom.setAromatic
    refine (h.bonds.map _).trans (.of_eq ?_)
    rw [List.map_map, List.map_map]
    refine List.map_congr_left fun e _ => ?_
    simp only [Function.comp, ringEdge_relabel h.inj]
    split <;> rfl

theorem MolIso.aromStep (h : MolIso π m m') (hm : m.wf = true) (hm' : m'.wf = true) (r : List Nat) :
    MolIso π (Arom.aromStep m r) (Arom.aromStep m' (r.map π)) := by
  unfold Arom.aromStep
  rw [h.eligible hm hm']
  split
  · exact h.setAromatic r
  · exact h

theorem MolIso.aromatizeRings (rs : List (List Nat)) : ∀ {m m' : Mol}, MolIso π m m' → m.wf = true → m'.wf = true →
    MolIso π (Arom.aromatizeRings rs m) (Arom.aromatizeRings (rs.map (List.map π)) m') := by
  induction rs with
  | nil => intro m m' h _ _; exact h
  | cons r rs ih =>
    intro m m' h hm hm'
    exact ih (h.aromStep hm hm' r) (Decompose.wf_aromStep m r hm) (Decompose.wf_aromStep m' _ hm')

theorem MolIso.aromatizeBenson (h : MolIso π m m') (hm : m.wf = true) (hm' : m'.wf = true) :
    MolIso π (aromatizeBenson m) (aromatizeBenson m') := by
  unfold PGA.aromatizeBenson
  rw [h.rings]
  exact MolIso.aromatizeRings m.rings h hm hm'

/-! ### a renumbering of a well-formed graph is well-formed -/
theorem joins_ends_comm (e e' : Bond) : e.joins e'.a e'.b = e'.joins e.a e.b := by
  simp only [Bond.joins, Bool.beq_comm (a := e.a), Bool.beq_comm (a := e.b)]
  rw [Bool.and_comm (e'.b == e.a)]

theorem pairwise_relabel (hinj : Function.Injective π) (l : List Bond)
    (h : NoParallel l) : NoParallel (l.map (relabelBond π)) :=
  List.pairwise_map.2 (h.imp fun {e e'} hh => (joins_relabel hinj e' e.a e.b).trans hh)

theorem MolIso.wf (h : MolIso π m m') (hm : m.wf = true) : m'.wf = true := by
  obtain ⟨w1, w2, w3⟩ := m.wf_iff.1 hm
  rw [Mol.wf_iff, h.natoms, h.rings]
  refine ⟨fun e' he' => ?_, (h.bonds.pairwise_iff fun {a b} hab => (joins_ends_comm a b).trans hab).2 (pairwise_relabel h.inj _ w2),
    List.forall_mem_map.2 fun r hr => ⟨(List.nodup_map_iff h.inj).2 (w3 r hr).1, List.forall_mem_map.2 fun y hy => ?_⟩⟩
  · obtain ⟨e, he, rfl⟩ := List.mem_map.1 (h.bonds.mem_iff.1 he')
    obtain ⟨a1, a2, a3⟩ := w1 e he
    exact ⟨(h.range _).2 a1, (h.range _).2 a2, fun hh => a3 (h.inj hh)⟩
  · exact (h.range y).2 ((w3 r hr).2 y hy)

end PGA.Spec
