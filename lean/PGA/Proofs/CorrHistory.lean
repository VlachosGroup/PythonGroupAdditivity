import PGA.Spec.CorrHistory
import PGA.Proofs.Merge
import PGA.Proofs.ThermoRange
import PGA.Props.C14Eval
/-! Lemmas for the histories of a correlation object: what the getters see of an object (`sameValues_refs`),
`_setup_correlation()` as an equation (`setup_eq`), the structural invariant `FreshS` call by call, and the translation of
reference values inside `update` as the C05 evaluation. -/
namespace PGA.CorrHistory
open PGA.Thermo PGA.Yaml PGA.Merge

/-! ### the table correlation and its reference values -/

/-- `ThermochemRawData.__init__` does not look at the reference values: with other ones it succeeds or fails alike and
builds the same object but for the two stored values -/
theorem mk_refs (ip : Interp) (h s h' s' : Rat) (pts : List Pt) (Tref : Rat) (range : Option Range) :
    RawData.mk ip h' s' pts Tref range =
      (RawData.mk ip h s pts Tref range).map (fun d => { d with Href := h', Sref := s' }) := by
  unfold RawData.mk
  cases sortPts pts with
  | nil => rfl
  | cons p0 rest =>
    simp only
    split
    · rfl
    · split
      · rfl
      · split
        · rfl
        · cases rest with
          | nil => rfl
          | cons q qs =>
            simp only
            split <;> rfl

-- a getter of the table correlation does not read a reference value of the other kind (`get_CpoR`: neither):
-- `_sref`: `Sref` replaced, `_href`: `Href` replaced, `_refs`: whichever the quantity does not depend on
theorem cpoR_refs (d : RawData) (h s : Rat) (T : Rat) : ({ d with Href := h, Sref := s } : RawData).CpoR T = d.CpoR T := by rfl
theorem hoRT_sref (d : RawData) (s : Rat) (T : Rat) : ({ d with Sref := s } : RawData).HoRT T = d.HoRT T := by rfl
theorem soR_href (d : RawData) (h : Rat) (T : Rat) : ({ d with Href := h } : RawData).SoR T = d.SoR T := by rfl
theorem hNum_refs (d : RawData) (s : Rat) (T : Rat) : ({ d with Sref := s } : RawData).hNum T = d.hNum T := by rfl
theorem sVal_refs (d : RawData) (h : Rat) (T : Rat) : ({ d with Href := h } : RawData).sVal T = d.sVal T := by rfl

/-- **what the getters see of an object**: its reference values, `T_ref`, range, whether there is a table, and of the table
correlation everything but a reference value that the object itself does not hold -/
theorem sameValues_refs {a b : Incomplete} (hH : a.Href = b.Href) (hS : a.Sref = b.Sref) (hcp : a.cp = [] ↔ b.cp = [])
    (hT : a.Tref = b.Tref) (hr : a.range = b.range)
    (hc : a.cp ≠ [] → ∃ d h s, a.corr = some d ∧ b.corr = some { d with Href := h, Sref := s } ∧
      (∀ x, a.Href = some x → h = d.Href) ∧ (∀ x, a.Sref = some x → s = d.Sref)) : SameValues a b := by
  obtain ⟨aH, aS, acp, aT, ar, ac⟩ := a
  obtain ⟨bH, bS, bcp, bT, br, bc⟩ := b
  simp only at hH hS hcp hT hr hc
  subst hH hS hT hr
  cases acp with
  | nil =>
    rw [hcp.mp rfl]
    intro q T
    cases q <;> rfl
  | cons p ps =>
    cases bcp with
    | nil => exact absurd (hcp.mpr rfl) (List.cons_ne_nil _ _)
    | cons p' ps' =>
      obtain ⟨d, h, s, rfl, rfl, hh, hs⟩ := hc (List.cons_ne_nil _ _)
      have eH : ∀ T, Incomplete.HoRT ⟨aH, aS, p :: ps, aT, ar, some d⟩ T =
          Incomplete.HoRT ⟨aH, aS, p' :: ps', aT, ar, some { d with Href := h, Sref := s }⟩ T := fun T => by
        cases aH with
        | none => rfl
        | some x =>
          cases hh x rfl
          exact congrArg (fun r => (convertErr r, false)) (hoRT_sref d s T).symm
      have eS : ∀ T, Incomplete.SoR ⟨aH, aS, p :: ps, aT, ar, some d⟩ T =
          Incomplete.SoR ⟨aH, aS, p' :: ps', aT, ar, some { d with Href := h, Sref := s }⟩ T := fun T => by
        cases aS with
        | none => rfl
        | some x =>
          cases hs x rfl
          exact congrArg (fun r => (convertErr r, false)) (soR_href d h T).symm
      intro q T
      cases q with
      | cp => exact congrArg (fun r => (convertErr r, false)) (cpoR_refs d h s T).symm
      | h => exact eH T
      | s => exact eS T
      | g =>
        simp only [getter, Incomplete.GoRT, eH T, eS T]

/-! ### constructor and `_setup_correlation` -/

theorem setup_eq (S : Spl) (o : Incomplete) : setup S o =
    if o.cp = [] then ({ o with corr := none }, none)
    else match RawData.mk (S (sortPts o.cp)) (o.Href.getD 0) (o.Sref.getD 0) (sortPts o.cp) o.Tref o.range with
      | .ok d => ({ o with corr := some d }, none)
      | .error e => ({ o with corr := none }, some e) := by
  obtain ⟨oH, oS, ocp, oT, orr, oc⟩ := o
  cases ocp <;> rfl

theorem setup_of_ok {S : Spl} {o : Incomplete} (h : (setup S o).2 = none) : setup S o = ((setup S o).1, none) :=
  Prod.ext rfl h

theorem setup_held (S : Spl) (o : Incomplete) : held (setup S o).1 = held o := by
  rw [setup_eq]
  split
  · rfl
  · split <;> rfl

/-- `_setup_correlation()` reads the held data only -/
theorem setup_corr_irrel (S : Spl) (o : Incomplete) (x : Option RawData) : setup S { o with corr := x } = setup S o := by
  rfl

/-- the constructor is the base-class assertion followed by `_setup_correlation()` on the stored data -/
theorem construct_eq (S : Spl) (o : Incomplete) :
    construct S (held o) =
      if baseInitOk o.range = false then .error .assertion
      else match setup S o with
        | (o', none) => .ok o'
        | (_, some e) => .error e := by
  unfold construct Incomplete.mk setup held
  simp only
  split
  · rfl
  · cases o.cp with
    | nil => rfl
    | cons p ps =>
      simp only
      rw [mk_sortPts]
      cases RawData.mk (S (sortPts (p :: ps))) (o.Href.getD 0) (o.Sref.getD 0) (p :: ps) o.Tref o.range <;> rfl

/-! ### the table is a dictionary -/

theorem keys_perm {a b : List Pt} (h : a.Perm b) : (keys a).Perm (keys b) := h.map _

theorem mem_keys_iff {l : List Pt} {k : Rat} : k ∈ keys l ↔ ∃ p ∈ l, p.1 = k := List.mem_map

/-- SciPy accepts the sorted table only when its temperatures are distinct -/
theorem nodup_of_mk {ip : Interp} {h s : Rat} {cp : List Pt} {Tref : Rat} {range : Option Range} {d : RawData}
    (hmk : RawData.mk ip h s (sortPts cp) Tref range = .ok d) : (keys cp).Nodup := by
  obtain ⟨p0, rest, hs, -, -, -, -, -, -, hinc⟩ := (RawData.mk_built hmk).sorted
  rw [sortPts_idem] at hs
  rw [← (keys_perm (sortPts_perm cp)).nodup_iff, hs]
  cases rest with
  | nil => exact List.pairwise_singleton _ _
  | cons q qs =>
    rw [keys, List.Nodup, List.pairwise_map]
    exact ((strictInc_iff _).mp (hinc (List.cons_ne_nil _ _)).2).imp ne_of_lt

theorem keys_nodup_sorted_strict {cp : List Pt} (hn : (keys cp).Nodup) : strictInc (sortPts cp) = true := by
  rw [strictInc_iff]
  have hn' : (keys (sortPts cp)).Nodup := (keys_perm (sortPts_perm cp)).nodup_iff.mpr hn
  rw [keys, List.Nodup, List.pairwise_map] at hn'
  exact ((sortPts_sorted cp).and hn').imp fun ⟨h1, h2⟩ => lt_of_le_of_ne h1 h2

/-- the constructor's check, positively: consistent data whose table is a dictionary are accepted by `ThermochemRawData` -/
theorem mk_ok_of_valid (ip : Interp) (h s : Rat) {cp : List Pt} {Tref : Rat} {range : Option Range}
    (hv : ValidP (keys cp) Tref range) (hn : (keys cp).Nodup) (hne : cp ≠ []) :
    ∃ d, RawData.mk ip h s (sortPts cp) Tref range = .ok d := by
  have hk : keys cp ≠ [] := mt keys_eq_nil.mp hne
  have hmem : ∀ p, p ∈ sortPts cp ↔ p ∈ cp := fun p => (sortPts_perm cp).mem_iff
  refine RawData.mk_ok_of (fun h0 => hne (List.Perm.eq_nil (h0 ▸ (sortPts_perm cp).symm))) (keys_nodup_sorted_strict hn) ?_ ?_
  · rintro ⟨lo, hi⟩ rfl
    obtain ⟨hle, hall⟩ := hv
    obtain ⟨ha, h12⟩ := hall hk
    exact ⟨hle, fun p hp => ha p.1 (mem_keys_iff.mpr ⟨p, (hmem p).mp hp, rfl⟩), h12⟩
  · rintro rfl
    obtain ⟨⟨k1, hk1, h1⟩, k2, hk2, h2⟩ := hv hk
    obtain ⟨p, hp, rfl⟩ := mem_keys_iff.mp hk1
    obtain ⟨q, hq, rfl⟩ := mem_keys_iff.mp hk2
    exact ⟨p, (hmem p).mpr hp, q, (hmem q).mpr hq, h1, h2⟩

/-! ### establishing the invariant -/

theorem freshS_of_setup {S : Spl} {o : Incomplete} (hb : baseInitOk o.range = true) (hs : (setup S o).2 = none) :
    FreshS S (setup S o).1 := by
  rw [setup_eq] at hs ⊢
  by_cases hcp : o.cp = []
  · rw [if_pos hcp]
    exact ⟨hb, by rw [show ({ o with corr := none } : Incomplete).cp = [] from hcp]; exact List.nodup_nil, fun _ => rfl,
      fun h => absurd hcp h⟩
  · rw [if_neg hcp] at hs ⊢
    split at hs
    · rename_i d hmk
      exact ⟨hb, nodup_of_mk hmk, fun h => absurd h hcp, fun _ => ⟨_, _, d, hmk, rfl, fun x hx => by rw [hx]; rfl,
        fun x hx => by rw [hx]; rfl⟩⟩
    · cases hs

theorem setup_ok_of_valid (S : Spl) {o : Incomplete} (hv : ValidP (keys o.cp) o.Tref o.range) (hn : (keys o.cp).Nodup) :
    (setup S o).2 = none := by
  rw [setup_eq]
  by_cases hcp : o.cp = []
  · rw [if_pos hcp]
  · obtain ⟨d, hd⟩ := mk_ok_of_valid (S (sortPts o.cp)) (o.Href.getD 0) (o.Sref.getD 0) hv hn hcp
    rw [if_neg hcp, hd]

theorem baseInitOk_of_valid {ks : List Rat} {Tref : Rat} {range : Option Range} (hv : ValidP ks Tref range) :
    baseInitOk range = true := by
  cases range with
  | none => rfl
  | some r =>
    obtain ⟨lo, hi⟩ := r
    exact decide_eq_true hv.1

/-- what the constructor returns is `_setup_correlation()` of the stored data, and it is fresh -/
theorem construct_ok {S : Spl} {c : Corr} {o : Incomplete} (h : construct S c = .ok o) :
    FreshS S o ∧ held o = c ∧ baseInitOk c.range = true ∧
      setup S ⟨c.H, c.S, c.cp, c.Tref, c.range, none⟩ = (o, none) := by
  have e := construct_eq S ⟨c.H, c.S, c.cp, c.Tref, c.range, none⟩
  rw [show held ⟨c.H, c.S, c.cp, c.Tref, c.range, none⟩ = c from rfl, h] at e
  split at e
  · cases e
  · rename_i hb
    rw [Bool.not_eq_false] at hb
    split at e
    · rename_i o' hs
      cases e
      have hf := freshS_of_setup hb (congrArg Prod.snd hs)
      have hh := setup_held S ⟨c.H, c.S, c.cp, c.Tref, c.range, none⟩
      rw [hs] at hf hh
      exact ⟨hf, hh, hb, hs⟩
    · cases e

/-- a fresh object whose `_correlation` is rebuilt in place stays fresh, holds the same data and answers alike: the
rebuilt table correlation differs from the old one at most in a reference value the object no longer holds -/
theorem FreshS.resetup {S : Spl} {o : Incomplete} (hf : FreshS S o) :
    (setup S o).2 = none ∧ FreshS S (setup S o).1 ∧ held (setup S o).1 = held o ∧ SameValues o (setup S o).1 := by
  have key : (setup S o).2 = none ∧ SameValues o (setup S o).1 := by
    rw [setup_eq]
    by_cases hcp : o.cp = []
    · rw [if_pos hcp]
      exact ⟨rfl, sameValues_refs rfl rfl Iff.rfl rfl rfl fun h => absurd hcp h⟩
    · obtain ⟨h, s, d, hmk, hc, hh, hs⟩ := hf.hascp hcp
      have hb := RawData.mk_built hmk
      have := mk_refs (S (sortPts o.cp)) h s (o.Href.getD 0) (o.Sref.getD 0) (sortPts o.cp) o.Tref o.range
      rw [hmk] at this
      rw [if_neg hcp, this]
      exact ⟨rfl, sameValues_refs rfl rfl Iff.rfl rfl rfl fun _ => ⟨d, _, _, hc, rfl,
        fun x hx => by rw [hx, hb.href, hh x hx]; rfl, fun x hx => by rw [hx, hb.sref, hs x hx]; rfl⟩⟩
  exact ⟨key.1, freshS_of_setup hf.base key.1, setup_held S o, key.2⟩

/-- in a fresh object `_correlation` exists exactly when there is a table: its C13 view is a freshly built object -/
theorem FreshS.toObj_eq {S : Spl} {o : Incomplete} (hf : FreshS S o) : toObj o = fresh (held o) := by
  rw [toObj, fresh]
  congr 1
  by_cases hcp : o.cp = []
  · rw [hf.nocp hcp, show (held o).cp = [] from hcp]; rfl
  · obtain ⟨_, _, _, -, hc, -⟩ := hf.hascp hcp
    rw [hc, show (held o).cp.isEmpty = false from List.isEmpty_eq_false_iff.mpr hcp]; rfl

/-! ### every call preserves the invariant; a call that raises leaves the object as it was -/

/-- `update`: either C13's `update` refuses and nothing is stored, or it stores consistent data with a dictionary for a
table, on which `_setup_correlation()` cannot fail — the state machine refines the C13 model -/
theorem stepUpdate_cases {S : Spl} {o : Incomplete} (hf : FreshS S o) (d : Corr) (ow : Bool) :
    (∃ e, update (rawEvalOf S) (toObj o) d ow = (toObj o, some e) ∧ stepUpdate S o d ow = (o, .raised (.ofU e))) ∨
    ∃ c o', update (rawEvalOf S) (toObj o) d ow = (fresh c, none) ∧ stepUpdate S o d ow = (o', .done) ∧ FreshS S o' ∧
      toObj o' = fresh c := by
  have hu := update_eq (rawEvalOf S) (toObj o) d ow
  unfold stepUpdate
  cases hm : mergeData (rawEvalOf S) (toObj o).c d ow with
  | error e =>
    rw [hm] at hu
    exact Or.inl ⟨e, hu, by rw [hu]⟩
  | ok c =>
    rw [hm] at hu
    obtain ⟨hv, -, hn⟩ := mergeData_inv hm
    have hs := setup_ok_of_valid S (o := ⟨c.H, c.S, c.cp, c.Tref, c.range, none⟩) hv (hn hf.nodup)
    have hfr := freshS_of_setup (S := S) (o := ⟨c.H, c.S, c.cp, c.Tref, c.range, none⟩) (baseInitOk_of_valid hv) hs
    exact Or.inr ⟨c, _, hu, by rw [hu]; simp only [fresh]; rw [setup_of_ok hs], hfr,
      hfr.toObj_eq.trans (congrArg fresh (setup_held S ⟨c.H, c.S, c.cp, c.Tref, c.range, none⟩))⟩

theorem freshS_update {S : Spl} {o : Incomplete} (hf : FreshS S o) (d : Corr) (ow : Bool) :
    FreshS S (stepUpdate S o d ow).1 ∧ ((stepUpdate S o d ow).2.isRaised = true → (stepUpdate S o d ow).1 = o) := by
  rcases stepUpdate_cases hf d ow with ⟨e, -, h⟩ | ⟨c, o', -, h, hf', -⟩ <;> rw [h]
  · exact ⟨hf, fun _ => rfl⟩
  · exact ⟨hf', nofun⟩

theorem update_refines {S : Spl} {o : Incomplete} (hf : FreshS S o) (d : Corr) (ow : Bool) :
    toObj (stepUpdate S o d ow).1 = (update (rawEvalOf S) (toObj o) d ow).1 := by
  rcases stepUpdate_cases hf d ow with ⟨e, hu, h⟩ | ⟨c, o', hu, h, -, ho⟩ <;> rw [h, hu]
  exact ho

theorem keys_derase_sublist (k : Rat) : ∀ l : List Pt, (keys (derase k l)).Sublist (keys l)
  | [] => List.Sublist.slnil
  | (k', v) :: l => by
    unfold derase
    split
    · exact List.sublist_cons_self _ _
    · exact (keys_derase_sublist k l).cons_cons _

/-- `del_ND_Cp(T)`: refused with nothing changed, or the constructor accepted the remaining data and the object is what it
built -/
theorem stepDelCp_cases (S : Spl) (o : Incomplete) (T : Rat) :
    (∃ e, stepDelCp S o (some T) = (o, .raised e)) ∨
    ∃ o', construct S ⟨o.Href, o.Sref, derase T o.cp, o.Tref, o.range⟩ = .ok o' ∧ stepDelCp S o (some T) = (o', .done) := by
  simp only [stepDelCp]
  cases dlookup T o.cp with
  | none => exact Or.inl ⟨_, rfl⟩
  | some v =>
    cases hc : construct S ⟨o.Href, o.Sref, derase T o.cp, o.Tref, o.range⟩ with
    | error e => exact Or.inl ⟨_, rfl⟩
    | ok o' =>
      -- the data just passed the constructor, so `_setup_correlation()` returns normally, with the same object
      have : setup S { o with cp := derase T o.cp } = (o', none) := (construct_ok hc).2.2.2
      exact Or.inr ⟨o', rfl, by simp only [this]⟩

theorem stepDelCp_raised (S : Spl) (o : Incomplete) (T : Option Rat) (h : (stepDelCp S o T).2.isRaised = true) :
    (stepDelCp S o T).1 = o := by
  cases T with
  | none => cases h
  | some T =>
    rcases stepDelCp_cases S o T with ⟨e, h'⟩ | ⟨o', -, h'⟩ <;> rw [h'] at h ⊢
    cases h

theorem freshS_delCp {S : Spl} {o : Incomplete} (hf : FreshS S o) (T : Option Rat) : FreshS S (stepDelCp S o T).1 := by
  cases T with
  | none => exact ⟨hf.base, List.nodup_nil, fun _ => rfl, fun h => absurd rfl h⟩
  | some T =>
    rcases stepDelCp_cases S o T with ⟨e, h'⟩ | ⟨o', hc, h'⟩ <;> rw [h']
    · exact hf
    · exact (construct_ok hc).1

theorem freshS_setRange {S : Spl} {o : Incomplete} (hf : FreshS S o) (r : Option Range) :
    FreshS S (stepSetRange S o r).1 ∧
    ((stepSetRange S o r).2.isRaised = true →
      held (stepSetRange S o r).1 = held o ∧ SameValues o (stepSetRange S o r).1 ∧ (stepSetRange S o r).1 = (setup S o).1 ∨
      (stepSetRange S o r).1 = o) := by
  unfold stepSetRange
  split
  · exact ⟨hf, fun _ => Or.inr rfl⟩
  · rename_i hb
    rw [Bool.not_eq_false] at hb
    cases hs : setup S { o with range := r } with
    | mk o1 e1 =>
      cases e1 with
      | none =>
        have := freshS_of_setup (S := S) (o := { o with range := r }) hb (congrArg Prod.snd hs)
        rw [hs] at this
        exact ⟨this, nofun⟩
      | some e =>
        -- the previous range is stored again and `_correlation` rebuilt from it: a fresh object's own `_setup_correlation()`
        obtain ⟨h1, h2, h3, h4⟩ := hf.resetup
        simp only [hf.base, Bool.true_eq_false, if_false]
        rw [setup_of_ok h1]
        exact ⟨h2, fun _ => Or.inl ⟨h3, h4, rfl⟩⟩

theorem freshS_copy {S : Spl} {o : Incomplete} (hf : FreshS S o) :
    FreshS S (stepCopy S o).1 ∧ (stepCopy S o).2.isRaised = false ∧ held (stepCopy S o).1 = held o ∧
      (stepCopy S o).1 = (setup S o).1 := by
  obtain ⟨h1, h2, h3, -⟩ := hf.resetup
  rw [stepCopy, construct_eq, hf.base, setup_of_ok h1]
  exact ⟨h2, rfl, h3, rfl⟩

theorem freshS_delH {S : Spl} {o : Incomplete} (hf : FreshS S o) : FreshS S { o with Href := none } := by
  refine ⟨hf.base, hf.nodup, hf.nocp, fun hne => ?_⟩
  obtain ⟨h, s, d, hmk, hc, -, hs⟩ := hf.hascp hne
  exact ⟨h, s, d, hmk, hc, nofun, hs⟩

theorem freshS_delS {S : Spl} {o : Incomplete} (hf : FreshS S o) : FreshS S { o with Sref := none } := by
  refine ⟨hf.base, hf.nodup, hf.nocp, fun hne => ?_⟩
  obtain ⟨h, s, d, hmk, hc, hh, -⟩ := hf.hascp hne
  exact ⟨h, s, d, hmk, hc, hh, nofun⟩

theorem freshS_step {S : Spl} {o : Incomplete} (hf : FreshS S o) (op : Op) : FreshS S (step S o op).1 := by
  cases op with
  | update d ow => exact (freshS_update hf d ow).1
  | delCp T => exact freshS_delCp hf T
  | delH => exact freshS_delH hf
  | delS => exact freshS_delS hf
  | setRange r => exact (freshS_setRange hf r).1
  | copy => exact (freshS_copy hf).1
  | eval q T => exact hf

theorem freshS_run {S : Spl} : ∀ (ops : List Op) {o : Incomplete}, FreshS S o → FreshS S (run S o ops)
  | [], _, hf => hf
  | op :: ops, _, hf => freshS_run ops (freshS_step hf op)

theorem freshS_trace {S : Spl} : ∀ (ops : List Op) {o : Incomplete}, FreshS S o → ∀ x ∈ trace S o ops, FreshS S x.1
  | [], _, _, x, hx => by cases hx
  | op :: ops, o, hf, x, hx => by
    rcases List.mem_cons.mp hx with rfl | hx
    · exact freshS_step hf op
    · exact freshS_trace ops (freshS_step hf op) x hx

/-! ### from the structural to the observational notion; independence of the history -/

theorem mem_of_dlookup {T v : Rat} : ∀ {l : List Pt}, dlookup T l = some v → (T, v) ∈ l
  | [], h => by cases h
  | (k, w) :: l, h => by
    rw [dlookup] at h
    split at h
    · rename_i hk
      cases h; cases hk
      exact List.mem_cons_self
    · exact List.mem_cons_of_mem _ (mem_of_dlookup h)

theorem sameData_perm {a b : Incomplete} (ha : (keys a.cp).Nodup) (hb : (keys b.cp).Nodup) (h : SameData a b) :
    a.cp.Perm b.cp := by
  have hcp : ∀ T, dlookup T a.cp = dlookup T b.cp := h.cp
  have nd : ∀ {l : List Pt}, (keys l).Nodup → l.Nodup := List.Pairwise.of_map Prod.fst fun _ _ h e => h (by rw [e])
  rw [List.perm_ext_iff_of_nodup (nd ha) (nd hb)]
  rintro ⟨T, v⟩
  exact ⟨fun hp => mem_of_dlookup (hcp T ▸ dlookup_of_mem_nodup ha hp),
    fun hp => mem_of_dlookup (hcp T ▸ dlookup_of_mem_nodup hb hp)⟩

/-- **two fresh objects holding the same data answer alike**: their table correlations were built from the same sorted
table with the same interpolant, and differ at most in a reference value neither object holds -/
theorem freshS_sameValues {S : Spl} {a b : Incomplete} (ha : FreshS S a) (hb : FreshS S b) (h : SameData a b) :
    SameValues a b := by
  have hnil : a.cp = [] ↔ b.cp = [] := eq_nil_iff_of_dlookup h.cp
  have eH : a.Href = b.Href := h.h
  have eS : a.Sref = b.Sref := h.s
  have eT : a.Tref = b.Tref := h.tref
  have eR : a.range = b.range := h.range
  refine sameValues_refs eH eS hnil eT eR fun hne => ?_
  obtain ⟨h1, s1, d1, m1, c1, hh1, hs1⟩ := ha.hascp hne
  obtain ⟨h2, s2, d2, m2, c2, hh2, hs2⟩ := hb.hascp (mt hnil.mpr hne)
  have := mk_refs (S (sortPts a.cp)) h1 s1 h2 s2 (sortPts a.cp) a.Tref a.range
  rw [m1, sortPts_perm_eq _ _ (sameData_perm ha.nodup hb.nodup h) ha.nodup, eT, eR, m2] at this
  cases this
  exact ⟨d1, h2, s2, c1, c2, fun x hx => by rw [(RawData.mk_built m1).href, hh1 x hx, hh2 x (eH ▸ hx)],
    fun x hx => by rw [(RawData.mk_built m1).sref, hs1 x hx, hs2 x (eS ▸ hx)]⟩

theorem fresh_of_freshS {S : Spl} {o : Incomplete} (hf : FreshS S o) : Fresh S o := by
  obtain ⟨h1, -, h3, h4⟩ := hf.resetup
  exact ⟨(setup S o).1, by rw [construct_eq, hf.base, setup_of_ok h1]; rfl, h3, h4⟩

/-! ### reading does not write -/

theorem run_eval (S : Spl) (o : Incomplete) (q : Getter) (T : Rat) (ops : List Op) :
    run S o (.eval q T :: ops) = run S o ops := rfl

theorem run_filter (S : Spl) : ∀ (ops : List Op) (o : Incomplete),
    run S o (ops.filter (fun op => !op.isEval)) = run S o ops
  | [], _ => rfl
  | op :: ops, o => by
    -- the filter keeps or drops `op` by evaluation; a dropped `eval` does not move the state
    cases op <;> exact run_filter S ops _

theorem run_append (S : Spl) : ∀ (ops ops' : List Op) (o : Incomplete), run S o (ops ++ ops') = run S (run S o ops) ops'
  | [], _, _ => rfl
  | _ :: ops, ops', _ => run_append S ops ops' _

/-! ### estimates -/

theorem sumEval_congr (f : Incomplete → Out) {cs cs' : List (Incomplete × Rat)}
    (h : List.Forall₂ (fun a b => f a.1 = f b.1 ∧ a.2 = b.2) cs cs') :
    ∀ (acc : Rat) (w : Bool), sumEval f cs acc w = sumEval f cs' acc w := by
  induction h with
  | nil => intro _ _; rfl
  | @cons a b l l' h1 _ ih =>
    intro acc w
    obtain ⟨c, n⟩ := a
    obtain ⟨c', n'⟩ := b
    obtain ⟨hf, hn⟩ := h1
    simp only at hf hn
    subst hn
    simp only [sumEval, hf]
    split
    · rfl
    · exact ih _ _

/-- an estimate sees its constituents through their getters, their ranges and the counts -/
theorem estimate_congr {cs cs' : List (Incomplete × Rat)}
    (h : List.Forall₂ (fun a b => SameValues a.1 b.1 ∧ a.1.range = b.1.range ∧ a.2 = b.2) cs cs')
    {e : Estimate} (hmk : Estimate.mk cs = .ok e) :
    ∃ e', Estimate.mk cs' = .ok e' ∧ e'.range = e.range ∧
      ∀ T, e.CpoR T = e'.CpoR T ∧ e.HoRT T = e'.HoRT T ∧ e.SoR T = e'.SoR T ∧ e.GoRT T = e'.GoRT T := by
  have hr : cs.map (fun c => c.1.range) = cs'.map (fun c => c.1.range) := by
    clear hmk
    induction h with
    | nil => rfl
    | cons h1 _ ih => rw [List.map_cons, List.map_cons, h1.2.1, ih]
  unfold Estimate.mk at hmk ⊢
  simp only at hmk ⊢
  rw [← hr]
  split at hmk
  · cases hmk
  · rename_i hb
    cases hmk
    refine ⟨⟨cs', estRange (cs.map fun c => c.1.range)⟩, by rw [if_neg hb], rfl, fun T => ?_⟩
    have key : ∀ q : Getter, sumEval (fun c => getter q c T) cs 0 false = sumEval (fun c => getter q c T) cs' 0 false :=
      fun q => sumEval_congr _ (h.imp fun _ _ hab => ⟨hab.1 q T, hab.2.2⟩) 0 false
    exact ⟨key .cp, key .h, key .s, congrArg₂ gibbs (key .h) (funext fun _ => key .s)⟩

/-! ### the translation of reference values inside `update` is the C05 evaluation -/

/-- exception classes of the getters, read as C13's `UErr` -/
def liftOut : Except Err Rat → Except UErr Rat
  | .ok v => .ok v
  | .error .nonfinite => .error .zeroDiv
  | .error .incomplete => .error .incomplete
  | .error .assertion => .error .assertion
  | .error _ => .error .value

theorem construct_cons {S : Spl} {c : Corr} {o : Incomplete} (h : construct S c = .ok o) {p : Pt} {ps : List Pt}
    (hcp : c.cp = p :: ps) :
    ∃ d, RawData.mk (S (sortPts c.cp)) (c.H.getD 0) (c.S.getD 0) (sortPts c.cp) c.Tref c.range = .ok d ∧
      o = ⟨c.H, c.S, c.cp, c.Tref, c.range, some d⟩ := by
  obtain ⟨-, -, -, hs⟩ := construct_ok h
  rw [setup_eq, if_neg (show c.cp ≠ [] from hcp ▸ List.cons_ne_nil p ps)] at hs
  split at hs
  · rename_i d hmk
    exact ⟨d, hmk, (congrArg Prod.fst hs).symm⟩
  · cases hs

/-- C13's range test of the temporary correlation is the range check of its table correlation -/
theorem inRange_iff {ip : Interp} {h s : Rat} {cp : List Pt} {Tref : Rat} {range : Option Range} {d : RawData}
    (hmk : RawData.mk ip h s (sortPts cp) Tref range = .ok d) (hne : cp ≠ []) (T : Rat) :
    Merge.inRange cp range T = true ↔ d.range.1 ≤ T ∧ T ≤ d.range.2 := by
  have hb := RawData.mk_built hmk
  cases range with
  | some r =>
    obtain ⟨lo, hi⟩ := r
    rw [hb.range_some (lo, hi) rfl]
    simp [Merge.inRange, not_lt]
  | none =>
    rw [hb.range_none rfl]
    obtain ⟨mn, hmn, mnmem, mnle⟩ := exists_minKey hne
    obtain ⟨mx, hmx, mxmem, mxle⟩ := exists_maxKey hne
    have hmem : ∀ q, q ∈ sortPts cp ↔ q ∈ cp := fun q => (sortPts_perm cp).mem_iff
    have e1 : mn = d.minT := by
      apply le_antisymm
      · exact mnle _ (mem_keys_iff.mpr ⟨_, (hmem _).mp hb.min_mem, rfl⟩)
      · obtain ⟨q, hq, rfl⟩ := mem_keys_iff.mp mnmem
        exact hb.min_le q ((hmem q).mpr hq)
    have e2 : mx = d.maxT := by
      apply le_antisymm
      · obtain ⟨q, hq, rfl⟩ := mem_keys_iff.mp mxmem
        exact hb.le_max q ((hmem q).mpr hq)
      · exact mxle _ (mem_keys_iff.mpr ⟨_, (hmem _).mp hb.max_mem, rfl⟩)
    subst e1 e2
    simp [Merge.inRange, hmn, hmx, not_lt]

/-- what `getH`/`getS` share with `Incomplete.HoRT`/`SoR` once the reference value `x` is there: without a table both give
`x` itself; outside the range of the table correlation both are `IncompleteDataError`; inside, `hin` has to say.  The left side
is the body of `Merge.getH`/`getS` under `some x`, the right side that of `Incomplete.HoRT`/`SoR`, written out so that the goal
left by unfolding either pair is an instance (`f` = the raw evaluator, `g` = `RawData.HoRT`/`SoR`). -/
theorem getRef_is_thermo {S : Spl} {c : Corr} {o : Incomplete} (hc : construct S c = .ok o) (T x : Rat)
    {f : Rat → Rat → List (Rat × Rat) → Option (Rat × Rat) → Rat → Rat} {g : RawData → Rat → Except Err Rat}
    (hout : ∀ d : RawData, ¬ (d.range.1 ≤ T ∧ T ≤ d.range.2) → g d T = .error .outside)
    (hin : ∀ d, RawData.mk (S (sortPts c.cp)) (c.H.getD 0) (c.S.getD 0) (sortPts c.cp) c.Tref c.range = .ok d →
      o.corr = some d → d.range.1 ≤ T ∧ T ≤ d.range.2 →
      Merge.evalAt f x c.Tref c.cp c.range T = liftOut (convertErr (g d T))) :
    (if c.cp.isEmpty then .ok x else if Merge.inRange c.cp c.range T then Merge.evalAt f x c.Tref c.cp c.range T
      else .error .incomplete) =
      liftOut (match o.cp with
        | [] => ((.ok x, o.warnNoCp T) : Out)
        | _ :: _ => match o.corr with
          | none => (.error .internal, false)
          | some d => (convertErr (g d T), false)).1 := by
  obtain ⟨cH, cS, ccp, cT, cr⟩ := c
  cases ccp with
  | nil =>
    have hocp : o.cp = [] := congrArg CorrOf.cp (construct_ok hc).2.1
    rw [hocp]; rfl
  | cons p ps =>
    obtain ⟨d, hmk, rfl⟩ := construct_cons hc rfl
    have hi := inRange_iff hmk (List.cons_ne_nil p ps) T
    simp only [List.isEmpty_cons, Bool.false_eq_true, if_false]
    by_cases hr : d.range.1 ≤ T ∧ T ≤ d.range.2
    · rw [if_pos (hi.mpr hr)]
      exact hin d hmk rfl hr
    · rw [if_neg (mt hi.mp hr), hout d hr]; rfl

/-- **away from the reference temperature** (and from 0 K) C13's `getH` over `rawEvalOf S` is the C05 getter of the
constructed correlation -/
theorem getH_is_thermo {S : Spl} {c : Corr} {o : Incomplete} (hc : construct S c = .ok o) (T : Rat)
    (h0 : T = 0 → T = c.Tref)
    (href : T = c.Tref → T ≠ 0 → ∀ d, o.corr = some d → d.HoRT T = .ok d.Href) :
    Merge.getH (rawEvalOf S) c T = liftOut (o.HoRT T).1 := by
  have hH : o.Href = c.H := congrArg CorrOf.H (construct_ok hc).2.1
  unfold Merge.getH Incomplete.HoRT
  rw [hH]
  cases hx : c.H with
  | none => rfl
  | some x =>
    refine getRef_is_thermo hc T x (fun d hr => by rw [RawData.HoRT, checkRange_err hr]) fun d hmk hd hr => ?_
    have hb := RawData.mk_built hmk
    have hd' : d.HoRT T = if T = 0 then .error .nonfinite else .ok (d.hNum T / T) := by
      rw [RawData.HoRT, checkRange_ok.mpr hr]
    rw [hx] at hb hmk
    unfold Merge.evalAt
    by_cases hT : T = c.Tref
    · rw [if_pos hT]
      by_cases hz : T = 0
      · rw [if_pos hz, hd', if_pos hz]; rfl
      · rw [if_neg hz, href hT hz d hd, hb.href]; rfl
    · have hz : T ≠ 0 := fun hz => hT (h0 hz)
      rw [if_neg hT, hd', if_neg hz]
      -- the temporary correlation of `rawEvalOf` is `d` but for the entropy it carries, which `hNum` does not read
      have := mk_refs (S (sortPts c.cp)) ((some x : Option Rat).getD 0) (c.S.getD 0) x 0 (sortPts c.cp) c.Tref c.range
      rw [hmk] at this
      simp only [rawEvalOf, this, Except.map, convertErr, liftOut]
      rw [← show d.Href = x from hb.href]
      exact congrArg (fun v => Except.ok (v / T)) (hNum_refs d 0 T)

theorem getS_is_thermo {S : Spl} {c : Corr} {o : Incomplete} (hc : construct S c = .ok o) (T : Rat)
    (href : T = c.Tref → ∀ d, o.corr = some d → d.SoR T = .ok d.Sref ∧ T ≠ 0) :
    Merge.getS (rawEvalOf S) c T = liftOut (o.SoR T).1 := by
  have hS : o.Sref = c.S := congrArg CorrOf.S (construct_ok hc).2.1
  unfold Merge.getS Incomplete.SoR
  rw [hS]
  cases hx : c.S with
  | none => rfl
  | some x =>
    refine getRef_is_thermo hc T x (fun d hr => by rw [RawData.SoR, checkRange_err hr]) fun d hmk hd hr => ?_
    have hb := RawData.mk_built hmk
    have hd' : d.SoR T = .ok (d.sVal T) := by rw [RawData.SoR, checkRange_ok.mpr hr]
    rw [hx] at hb hmk
    unfold Merge.evalAt
    by_cases hT : T = c.Tref
    · obtain ⟨h1, hz⟩ := href hT d hd
      rw [if_pos hT, if_neg hz, h1, hb.sref]; rfl
    · rw [if_neg hT, hd']
      have := mk_refs (S (sortPts c.cp)) (c.H.getD 0) ((some x : Option Rat).getD 0) 0 x (sortPts c.cp) c.Tref c.range
      rw [hmk] at this
      simp only [rawEvalOf, this, Except.map, convertErr, liftOut]
      rw [← show d.Sref = x from hb.sref]
      exact congrArg Except.ok (sVal_refs d 0 T)

end PGA.CorrHistory
