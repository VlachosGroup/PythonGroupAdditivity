import PGA.Spec.RingParse
/-!
# Lemmas about the RING combinator engine (C09)

* `checkGrammar_sound` — the executable table check implies `WellRanked`.
* `eval_opt` … `eval_ref`, `eval_induction` — what `eval` does for each combinator with the results of its
  parts, and induction along its calls; every invariant of the engine is proved through these.
* `eval_good` — on a well-ranked table the interpreter never aborts (no `stuck`, `missingRule`,
  `hang`, internal exception), never moves backwards, and an expression that succeeds without
  consuming a character is statically nullable (soundness of the nullable / left-call analysis).
-/
set_option linter.unusedVariables false
namespace PGA.Ring
open PGA.Chars

/-! ## the table check -/

theorem checkGrammar_sound (G : Grammar) (nt : List Bool) (h : checkGrammar G nt = true) : WellRanked G nt := by
  simp only [checkGrammar, Bool.and_eq_true, Bool.not_eq_true', List.all_eq_true, List.mem_range] at h
  obtain ⟨⟨hf, hr⟩, hall⟩ := h
  have key : ∀ (n : Nat) body, G.rules[n]? = some (some body) →
      (∃ r, G.rank[n]? = some r ∧ r < G.top ∧ leftOK G nt body r = true) ∧ wfE G nt false body = true ∧
        (nullE nt body = true → nt[n]? = some true) := by
    intro n body hb
    have := hall n (List.getElem?_eq_some_iff.mp hb).1
    simp only [checkRule, hb, Bool.and_eq_true, Bool.or_eq_true, Bool.not_eq_true', beq_iff_eq] at this
    obtain ⟨⟨h1, h2⟩, h3⟩ := this
    refine ⟨?_, h2, fun hn => h3.resolve_left (by rw [hn]; nofun)⟩
    split at h1
    · next r hr => exact ⟨r, hr, by simpa using h1⟩
    · cases h1
  refine ⟨fun hmem => ?_, ?_, fun n body hb => (key n body hb).2.1, fun n body r hb hr' => ?_,
    fun n body hb => (key n body hb).2.2, fun n body hb => ?_⟩
  · rw [List.contains_iff_mem.mpr hmem] at hf; cases hf
  · split at hr
    · next b hb => exact ⟨b, hb⟩
    · cases hr
  · obtain ⟨r', h1, _, h2⟩ := (key n body hb).1
    cases h1.symm.trans hr'
    exact h2
  · obtain ⟨r, h1, h2, _⟩ := (key n body hb).1
    exact ⟨r, h1, h2⟩

/-! ## stream primitives -/

theorem skipFillerAux_isSome (fil : List (List Char)) (hf : [] ∉ fil) :
    ∀ (r : List Char) (i l c : Nat), ∃ st, skipFillerAux fil r i l c = some st := by
  intro r
  induction r with
  | nil => intro i l c; exact ⟨_, if_neg hf⟩
  | cons ch r ih =>
    intro i l c
    simp only [skipFillerAux]
    split
    · split <;> exact ih _ _ _
    · exact ⟨_, rfl⟩

theorem take_isSome (fil : List (List Char)) (hf : [] ∉ fil) (st : St) (n : Nat) :
    ∃ st', take fil st n = some (st.rest.take n, st') := by
  obtain ⟨st', h⟩ := skipFillerAux_isSome fil hf (st.rest.drop n) (st.idx + n)
    (advance (st.rest.take n) st.line st.col).1 (advance (st.rest.take n) st.line st.col).2
  exact ⟨st', by simp only [take, skipFiller, h]⟩

/-- under `hf` a `take` of `n ≥ 1` characters from a non-empty text succeeds and advances: what holds of the
continuation on every state further on holds of the whole step -/
theorem take_then {fil : List (List Char)} (hf : [] ∉ fil) {st : St} {n : Nat} (hn : 0 < n) (hr : st.rest ≠ [])
    {P : Res → Prop} {k : List Char → St → Res}
    (hk : ∀ st', st'.rest.length < st.rest.length → P (k (st.rest.take n) st')) :
    P (match take fil st n with | none => .abort .hang | some (s, st') => k s st') := by
  obtain ⟨st', h⟩ := take_isSome fil hf st n
  rw [h]
  exact hk st' (Nat.lt_of_le_of_lt (take_length fil st n _ st' h) (Nat.sub_lt (List.length_pos_iff.mpr hr) hn))

theorem ne_nil_of_take_eq {l tok : List Char} (hm : l.take tok.length = tok) (ht : tok ≠ []) : l ≠ [] :=
  fun h => ht (by rw [← hm, h, List.take_nil])

/-! ## the interpreter, one combinator at a time -/

/-- `Optional` / `with stream:` — what is done with the body's result -/
def optPost (st : St) : Res → Res
  | .fail err cur' => .ok st [] (catchErr err cur')
  | r => r

/-- append the outputs of a second part -/
def seqPost (out1 : List Ast) : Res → Res
  | .ok st2 out2 cur2 => .ok st2 (out1 ++ out2) cur2
  | r => r

def nodePost (n : Nat) : Res → Res
  | .ok st' out cur' => .ok st' [.node n out] cur'
  | r => r

def isLeaf : Expr → Bool
  | .eos | .digit _ | .number | .string | .lit _ _ | .filler _ _ | .literals _ _ => true
  | _ => false

section
variable (G : Grammar) (st : St) (cur : Option Err) (b : Nat)

theorem eval_leaf {e : Expr} (he : isLeaf e = true) : eval G e st cur b = evalLeaf G e st cur := by
  cases e with
  | opt | star | allNil | allCons | anyNil | anyCons | ref => cases he
  | _ => rw [eval.eq_def]

theorem eval_opt (a : Expr) : eval G (.opt a) st cur b = optPost st (eval G a st cur b) := by
  rw [eval]; cases eval G a st cur b <;> rfl

theorem eval_star (a : Expr) :
    eval G (.star a) st cur b =
      match eval G a st cur b with
      | .fail err cur' => .ok st [] (catchErr err cur')
      | .ok st1 out1 cur1 =>
        if st1.rest.length < st.rest.length then seqPost out1 (eval G (.star a) st1 cur1 G.top) else .abort .hang
      | r => r := by
  rw [eval]
  cases eval G a st cur b with
  | ok st1 out1 cur1 =>
    dsimp only
    split
    · cases eval G (.star a) st1 cur1 G.top <;> rfl
    · rfl
  | _ => rfl

theorem eval_allNil : eval G .allNil st cur b = .ok st [] cur := by rw [eval]

theorem eval_allCons (a rest : Expr) :
    eval G (.allCons a rest) st cur b =
      match eval G a st cur b with
      | .ok st1 out1 cur1 =>
        if st.rest.length < st1.rest.length then .abort .stuck
        else seqPost out1 (eval G rest st1 cur1 (if st1.rest.length < st.rest.length then G.top else b))
      | r => r := by
  rw [eval]
  cases eval G a st cur b with
  | ok st1 out1 cur1 =>
    dsimp only
    rcases Nat.lt_trichotomy st1.rest.length st.rest.length with h | h | h
    · rw [dif_pos h, if_neg (Nat.lt_asymm h), if_pos h]
      cases eval G rest st1 cur1 G.top <;> rfl
    · rw [dif_neg (h ▸ Nat.lt_irrefl _), dif_pos h, if_neg (h ▸ Nat.lt_irrefl _), if_neg (h ▸ Nat.lt_irrefl _)]
      cases eval G rest st1 cur1 b <;> rfl
    · rw [dif_neg (Nat.lt_asymm h), dif_neg (Nat.ne_of_gt h), if_pos h]
  | _ => rfl

theorem eval_anyNil :
    eval G .anyNil st cur b = match cur with | none => .abort (.internal .raiseNone) | some c => .fail c cur := by
  cases cur <;> rw [eval]

theorem eval_anyCons (a rest : Expr) :
    eval G (.anyCons a rest) st cur b =
      match eval G a st cur b with
      | .fail err cur' => eval G rest st (catchErr err cur') b
      | r => r := by
  rw [eval]; cases eval G a st cur b <;> rfl

theorem eval_ref (n : Nat) :
    eval G (.ref n) st cur b =
      match G.rules[n]? with
      | some (some body) =>
        match G.rank[n]? with
        | some r => if r < b then nodePost n (eval G body st cur r) else .abort .stuck
        | none => .abort .stuck
      | _ => .abort (.missingRule n) := by
  rw [eval]
  cases G.rules[n]? with
  | none => rfl
  | some ob =>
    cases ob with
    | none => rfl
    | some body =>
      cases G.rank[n]? with
      | none => rfl
      | some r =>
        dsimp only
        split
        · cases eval G body st cur r <;> rfl
        · rfl

end

section
variable (G : Grammar) {P : Expr → St → Option Err → Nat → Prop}
  (leaf : ∀ e st cur b, isLeaf e = true → P e st cur b)
  (opt : ∀ a st cur b, P a st cur b → P (.opt a) st cur b)
  (star : ∀ a st cur b, P a st cur b →
    (∀ st1 out1 cur1, eval G a st cur b = .ok st1 out1 cur1 → st1.rest.length < st.rest.length →
      P (.star a) st1 cur1 G.top) → P (.star a) st cur b)
  (allNil : ∀ st cur b, P .allNil st cur b)
  (allCons : ∀ a rest st cur b, P a st cur b →
    (∀ st1 out1 cur1, eval G a st cur b = .ok st1 out1 cur1 → st1.rest.length ≤ st.rest.length →
      P rest st1 cur1 (if st1.rest.length < st.rest.length then G.top else b)) → P (.allCons a rest) st cur b)
  (anyNil : ∀ st cur b, P .anyNil st cur b)
  (anyCons : ∀ a rest st cur b, P a st cur b →
    (∀ err cur', eval G a st cur b = .fail err cur' → P rest st (catchErr err cur') b) → P (.anyCons a rest) st cur b)
  (ref : ∀ n st cur b,
    (∀ body r, G.rules[n]? = some (some body) → G.rank[n]? = some r → r < b → P body st cur r) → P (.ref n) st cur b)
include leaf opt star allNil allCons anyNil anyCons ref

/-- induction along the calls of `eval`, one case per combinator: a recursive call comes with the outcome of the
part evaluated before it that led to it -/
theorem eval_induction : ∀ (e : Expr) (st : St) (cur : Option Err) (b : Nat), P e st cur b
  | .opt a, st, cur, b => opt a st cur b (eval_induction a st cur b)
  | .star a, st, cur, b =>
    star a st cur b (eval_induction a st cur b) fun st1 _ cur1 _ hlt => eval_induction (.star a) st1 cur1 G.top
  | .allNil, st, cur, b => allNil st cur b
  | .allCons a rest, st, cur, b =>
    allCons a rest st cur b (eval_induction a st cur b) fun st1 _ cur1 _ hle => eval_induction rest st1 cur1 _
  | .anyNil, st, cur, b => anyNil st cur b
  | .anyCons a rest, st, cur, b =>
    anyCons a rest st cur b (eval_induction a st cur b) fun _ _ _ => eval_induction rest st _ b
  | .ref n, st, cur, b => ref n st cur b fun body r _ _ hlt => eval_induction body st cur r
  | .eos, st, cur, b | .digit _, st, cur, b | .number, st, cur, b | .string, st, cur, b | .lit _ _, st, cur, b
  | .filler _ _, st, cur, b | .literals _ _, st, cur, b => leaf _ st cur b rfl
termination_by e st _ b => (st.rest.length, b, sizeOf e)
decreasing_by
  all_goals simp_wf
  · exact .right _ (.right _ (by omega))
  · exact .right _ (.right _ (by omega))
  · exact .left _ _ hlt
  · exact .right _ (.right _ (by omega))
  · split
    · next h => exact .left _ _ h
    · next h => rw [Nat.le_antisymm hle (Nat.not_lt.mp h)]; exact .right _ (.right _ (by omega))
  · exact .right _ (.right _ (by omega))
  · exact .right _ (.right _ (by omega))
  · exact .right _ (.left _ _ hlt)
end

/-- never an abort; never backwards; success without progress only for a statically nullable expression -/
def Good (nt : List Bool) (e : Expr) (st : St) (r : Res) : Prop :=
  (∀ a, r ≠ .abort a) ∧
  ∀ st' out cur', r = .ok st' out cur' →
    st'.rest.length ≤ st.rest.length ∧ (st'.rest.length = st.rest.length → nullE nt e = true)

section
variable {nt : List Bool} {e e' : Expr} {st st' : St} {out : List Ast} {cur : Option Err} {err : Err} {r : Res}

theorem Good.fail : Good nt e st (.fail err cur) := ⟨nofun, nofun⟩

theorem Good.ok (h1 : st'.rest.length ≤ st.rest.length) (h2 : st'.rest.length = st.rest.length → nullE nt e = true) :
    Good nt e st (.ok st' out cur) :=
  ⟨nofun, fun _ _ _ h => by cases h; exact ⟨h1, h2⟩⟩

theorem Good.mono (g : Good nt e st r) (h : nullE nt e = true → nullE nt e' = true) : Good nt e' st r :=
  ⟨g.1, fun _ _ _ hr => ⟨(g.2 _ _ _ hr).1, fun heq => h ((g.2 _ _ _ hr).2 heq)⟩⟩

/-- a success that has advanced need not be nullable -/
theorem Good.ok_lt (h : st'.rest.length < st.rest.length) : Good nt e st (.ok st' out cur) :=
  Good.ok (Nat.le_of_lt h) fun heq => absurd heq (Nat.ne_of_lt h)

/-- the second part `e2` of a sequence `e`, run from the state `st1` where the first part ended -/
theorem Good.seqPost {e2 : Expr} {st1 : St} (g : Good nt e2 st1 r) (hle : st1.rest.length ≤ st.rest.length)
    (hn : st1.rest.length = st.rest.length → nullE nt e2 = true → nullE nt e = true) (out1 : List Ast) :
    Good nt e st (seqPost out1 r) := by
  cases r with
  | fail => exact Good.fail
  | abort a => exact absurd rfl (g.1 a)
  | ok st2 out2 cur2 =>
    obtain ⟨h1, h2⟩ := g.2 _ _ _ rfl
    exact Good.ok (Nat.le_trans h1 hle) fun heq =>
      hn (Nat.le_antisymm hle (heq ▸ h1)) (h2 (Nat.le_antisymm h1 (heq ▸ hle)))
end

/-! ## `int()` on decimal digits -/

/-- Table obligation shape: every code point of every `isdecimal` range lies in a run of
`int()`-convertible digits. -/
def decimalCovered : Bool :=
  PGA.Gen.RingChars.isdecimalRanges.all fun r =>
    (List.range (r.2 - r.1 + 1)).all fun k =>
      PGA.Gen.Chars.decimalRuns.any fun u => decide (u.1 ≤ r.1 + k) && decide (r.1 + k ≤ u.2.1)

theorem decimalVal_isSome (hc : decimalCovered = true) (c : Char) (h : isDecimalChar c = true) :
    ∃ v, decimalVal c = some v := by
  simp only [isDecimalChar, inRanges, List.any_eq_true, Bool.and_eq_true, decide_eq_true_eq] at h
  obtain ⟨r, hr, h1, h2⟩ := h
  simp only [decimalCovered, List.all_eq_true, List.any_eq_true, Bool.and_eq_true, decide_eq_true_eq,
    List.mem_range] at hc
  obtain ⟨u, hu, h3, h4⟩ := hc r hr (c.toNat - r.1) (by omega)
  unfold decimalVal
  cases hfind : PGA.Gen.Chars.decimalRuns.find? (fun r => decide (r.1 ≤ c.toNat) && decide (c.toNat ≤ r.2.1)) with
  | some x => exact ⟨_, rfl⟩
  | none =>
    have := List.find?_eq_none.mp hfind u hu
    simp only [Bool.and_eq_true, decide_eq_true_eq] at this
    omega

theorem readNatAux_isSome (hc : decimalCovered = true) (s : List Char) (h : ∀ c ∈ s, isDecimalChar c = true) :
    ∀ acc, ∃ v, readNatAux acc s = some v := by
  induction s with
  | nil => intro acc; exact ⟨acc, rfl⟩
  | cons c cs ih =>
    intro acc
    obtain ⟨v, hv⟩ := decimalVal_isSome hc c (h c (List.mem_cons_self ..))
    simp only [readNatAux, hv]
    exact ih (fun c hc' => h c (List.mem_cons_of_mem _ hc')) _

theorem readNat_isSome (hc : decimalCovered = true) (s : List Char) (h : ∀ c ∈ s, isDecimalChar c = true)
    (hl : s.length ≤ PGA.Gen.Chars.intMaxStrDigits) : ∃ v, readNat s = some v := by
  unfold readNat
  rw [if_neg (Nat.not_lt.mpr hl)]
  exact readNatAux_isSome hc s h 0

/-! ## the leaf combinators -/

section
variable {G : Grammar} {nt : List Bool} (hf : [] ∉ G.filler)
include hf


/-- `Good` for every `e`: the loop does not abort and ends further on than `base`, the state `Digit(n)` was entered
at. With no digit left to read (`n = 0`) that rests on one having been read: `wfE` asks `Digit(n)` for `n ≥ 1`. -/
theorem digitLoop_good (hc : decimalCovered = true) {e : Expr} (base : St) :
    ∀ (n : Nat) (st : St) (acc : List Char) (cur : Option Err),
      (∀ c ∈ acc, isDecimalChar c = true) → acc.length + n ≤ PGA.Gen.Chars.intMaxStrDigits →
      st.rest.length ≤ base.rest.length → (n = 0 → st.rest.length < base.rest.length) →
      Good nt e base (digitLoop G n st acc cur) := by
  intro n
  induction n with
  | zero =>
    intro st acc cur hacc hl _ h0
    obtain ⟨v, hv⟩ := readNat_isSome hc acc hacc hl
    simp only [digitLoop, pyInt, hv]
    exact Good.ok_lt (h0 rfl)
  | succ n ih =>
    intro st acc cur hacc hl hb _
    unfold digitLoop
    split
    · exact Good.fail
    · next c r hrest =>
      split
      · next hdec =>
        refine take_then hf Nat.one_pos (by rw [hrest]; nofun) fun st1 hlt => ?_
        rw [hrest]
        exact ih st1 (acc ++ [c]) cur
          (fun x hx => (List.mem_append.mp hx).elim (hacc x) fun hx => by rw [List.mem_singleton.mp hx]; exact hdec)
          (by rw [List.length_append, List.length_singleton]; omega) (by omega) (fun _ => by omega)
      · exact Good.fail

theorem numberLoop_isSome (st : St) (acc : List Char) :
    ∃ st' out, numberLoop G st acc = some (st', out) ∧ st'.rest.length ≤ st.rest.length := by
  fun_induction numberLoop G st acc with
  | case1 | case4 => exact ⟨_, _, rfl, Nat.le_refl _⟩
  | case2 st acc c r h hd h2 =>
    obtain ⟨st1, ht⟩ := take_isSome G.filler hf st 1
    exact nomatch ht.symm.trans h2
  | case3 st acc c r h hd s st1 h2 ih =>
    obtain ⟨st', out, h3, h4⟩ := ih
    have := take_length G.filler st 1 s st1 h2
    exact ⟨st', out, h3, by omega⟩

theorem literalsLoop_good {e : Expr} (st : St) : ∀ (toks : List (List Char)) (cur : Option Err),
    (∀ t ∈ toks, t ≠ []) → (toks ≠ [] ∨ cur ≠ none) → Good nt e st (literalsLoop G st toks cur) := by
  intro toks
  induction toks with
  | nil =>
    intro cur _ h
    cases cur with
    | none => exact absurd rfl (h.resolve_left (absurd rfl))
    | some c => exact Good.fail
  | cons tok more ih =>
    intro cur hne _
    have htok := hne tok (List.mem_cons_self ..)
    unfold literalsLoop
    split
    · next hm =>
      exact take_then hf (List.length_pos_iff.mpr htok) (ne_nil_of_take_eq hm htok) fun _ => Good.ok_lt
    · exact ih _ (fun t ht => hne t (List.mem_cons_of_mem _ ht)) (Or.inr (by cases cur <;> nofun))

/-- the leaf combinators: never an abort; success consumes at least one character, except `EOS` -/
theorem evalLeaf_good (hc : decimalCovered = true) {e : Expr} (he : isLeaf e = true) (hw : wfE G nt false e = true)
    (st : St) (cur : Option Err) : Good nt e st (evalLeaf G e st cur) := by
  cases e with
  | opt | star | allNil | allCons | anyNil | anyCons | ref => cases he
  | eos =>
    simp only [evalLeaf]
    split
    · exact Good.ok (Nat.le_refl _) fun _ => rfl
    · exact Good.fail
  | digit n =>
    obtain ⟨h1, h2⟩ := Bool.and_eq_true_iff.mp hw
    exact digitLoop_good hf hc st n st [] cur nofun (by rw [List.length_nil, Nat.zero_add]; exact of_decide_eq_true h2)
      (Nat.le_refl _) fun h => by rw [h] at h1; cases h1
  | number =>
    simp only [evalLeaf]
    split
    · exact Good.fail
    · next c r hrest =>
      split
      · refine take_then hf Nat.one_pos (by rw [hrest]; nofun) fun st1 hlt => ?_
        obtain ⟨st2, out, hn, hle⟩ := numberLoop_isSome hf st1 (st.rest.take 1)
        simp only [hn]
        split
        · exact Good.ok_lt (Nat.lt_of_le_of_lt hle hlt)
        · exact Good.fail
      · exact Good.fail
  | string =>
    simp only [evalLeaf]
    split
    · exact Good.fail
    · next c r hrest =>
      split
      · exact take_then hf (Nat.succ_pos _) (by rw [hrest]; nofun) fun _ => Good.ok_lt
      · exact Good.fail
  | lit tok noErr | filler tok noErr =>
    have htok : tok ≠ [] := fun h => by rw [h] at hw; cases hw
    simp only [evalLeaf]
    split
    · next hm =>
      exact take_then hf (List.length_pos_iff.mpr htok) (ne_nil_of_take_eq hm htok) fun _ => Good.ok_lt
    · exact Good.fail
  | literals toks name =>
    simp only [wfE, Bool.and_eq_true, Bool.not_eq_true', List.isEmpty_eq_false_iff, List.all_eq_true] at hw
    have g : Good nt (.literals toks name) st _ := literalsLoop_good hf st toks cur hw.2 (Or.inl hw.1)
    simp only [evalLeaf]
    generalize literalsLoop G st toks cur = r at g
    cases r with
    | fail => cases name <;> exact Good.fail
    | _ => exact g

end

/-! ## the interpreter -/

variable {G : Grammar} {nt : List Bool}

/-- what is well formed in tail position (`wfE … true`: the rest of an `Either` list, reached with `current_error`
set) is `anyNil` or well formed outright -/
theorem wf_head {e : Expr} {cur : Option Err}
    (hw : wfE G nt false e = true ∨ (wfE G nt true e = true ∧ cur ≠ none)) (he : e ≠ .anyNil) :
    wfE G nt false e = true := by
  rcases hw with h | ⟨h, _⟩
  · exact h
  · cases e with
    | anyNil => exact absurd rfl he
    | anyCons a r => exact h
    | _ => cases h

/-- with every reference ranked below `top`, `leftOK` holds at the top bound -/
theorem leftOK_top : ∀ {e : Expr} {t : Bool}, wfE G nt t e = true → leftOK G nt e G.top = true := by
  intro e
  induction e with
  | opt a ih =>
    rintro (_ | _) h
    · exact ih h
    · cases h
  | star a ih =>
    rintro (_ | _) h
    · exact ih (Bool.and_eq_true_iff.mp h).1
    · cases h
  | allCons a r iha ihr =>
    rintro (_ | _) h
    · obtain ⟨ha, hr⟩ := Bool.and_eq_true_iff.mp h
      simp only [leftOK, iha ha, ihr hr, ite_self, Bool.and_self]
    · cases h
  | anyCons a r iha ihr =>
    intro t h
    have h' : wfE G nt false a = true ∧ wfE G nt true r = true := by cases t <;> exact Bool.and_eq_true_iff.mp h
    simp only [leftOK, iha h'.1, ihr h'.2, Bool.and_self]
  | ref n =>
    rintro (_ | _) h
    · have h2 := (Bool.and_eq_true_iff.mp h).2
      simp only [leftOK]
      split at h2
      · exact h2
      · cases h2
    · cases h
  | _ => intros; rfl

theorem eval_good (G : Grammar) (nt : List Bool) (hG : WellRanked G nt) (hc : decimalCovered = true) :
    ∀ (e : Expr) (st : St) (cur : Option Err) (bound : Nat),
      (wfE G nt false e = true ∨ (wfE G nt true e = true ∧ cur ≠ none)) → leftOK G nt e bound = true →
      Good nt e st (eval G e st cur bound) := by
  refine eval_induction G ?leaf ?opt ?star ?allNil ?allCons ?anyNil ?anyCons ?ref
  case leaf =>
    intro e st cur b he hw _
    rw [eval_leaf G st cur b he]
    exact evalLeaf_good hG.filler hc he (wf_head hw (by rintro rfl; cases he)) st cur
  case opt =>
    intro a st cur b ih hw hl
    have hw : wfE G nt false (.opt a) = true := wf_head hw nofun
    have g := ih (Or.inl hw) hl
    rw [eval_opt]
    generalize eval G a st cur b = r at g
    cases r with
    | fail => exact Good.ok (Nat.le_refl _) fun _ => rfl
    | _ => exact g.mono fun _ => rfl
  case star =>
    intro a st cur b ih1 ih2 hw hl
    have hw := wf_head hw nofun
    obtain ⟨hwa, hna⟩ : wfE G nt false a = true ∧ (!nullE nt a) = true := Bool.and_eq_true_iff.mp hw
    have g := ih1 (Or.inl hwa) hl
    rw [eval_star]
    generalize h : eval G a st cur b = r at g
    cases r with
    | fail => exact Good.ok (Nat.le_refl _) fun _ => rfl
    | abort a => exact absurd rfl (g.1 a)
    | ok st1 out1 cur1 =>
      obtain ⟨hle, hnul⟩ := g.2 _ _ _ rfl
      dsimp only
      split
      · next hlt => exact (ih2 _ _ _ h hlt (Or.inl hw) (leftOK_top hw)).seqPost hle (fun _ h => h) out1
      · next hnlt => rw [hnul (Nat.le_antisymm hle (Nat.not_lt.mp hnlt))] at hna; cases hna
  case allNil =>
    intro st cur b _ _
    rw [eval_allNil]
    exact Good.ok (Nat.le_refl _) fun _ => rfl
  case allCons =>
    intro a rest st cur b ih1 ih2 hw hl
    obtain ⟨hwa, hwr⟩ : wfE G nt false a = true ∧ wfE G nt false rest = true :=
      Bool.and_eq_true_iff.mp (wf_head hw nofun)
    simp only [leftOK, Bool.and_eq_true] at hl
    have g := ih1 (Or.inl hwa) hl.1
    rw [eval_allCons]
    generalize h : eval G a st cur b = r at g
    cases r with
    | fail => exact Good.fail
    | abort a => exact absurd rfl (g.1 a)
    | ok st1 out1 cur1 =>
      obtain ⟨hle, hnul⟩ := g.2 _ _ _ rfl
      dsimp only
      rw [if_neg (Nat.not_lt.mpr hle)]
      refine (ih2 _ _ _ h hle (Or.inl hwr) ?_).seqPost (e := .allCons a rest) hle
        (fun heq hr => Bool.and_eq_true_iff.mpr ⟨hnul heq, hr⟩) out1
      split
      · exact leftOK_top hwr
      · next hnlt => simpa [hnul (Nat.le_antisymm hle (Nat.not_lt.mp hnlt))] using hl.2
  case anyNil =>
    intro st cur b hw _
    rw [eval_anyNil]
    cases cur with
    | none => exact absurd rfl (hw.resolve_left nofun).2
    | some c => exact Good.fail
  case anyCons =>
    intro a rest st cur b ih1 ih2 hw hl
    obtain ⟨hwa, hwr⟩ : wfE G nt false a = true ∧ wfE G nt true rest = true :=
      Bool.and_eq_true_iff.mp (wf_head hw nofun)
    simp only [leftOK, Bool.and_eq_true] at hl
    have g := ih1 (Or.inl hwa) hl.1
    rw [eval_anyCons]
    generalize h : eval G a st cur b = r at g
    cases r with
    | fail err cur' =>
      exact (ih2 _ _ h (Or.inr ⟨hwr, by cases cur' <;> nofun⟩) hl.2).mono fun hr => Bool.or_eq_true_iff.mpr (.inr hr)
    | _ => exact g.mono fun hr => Bool.or_eq_true_iff.mpr (.inl hr)
  case ref =>
    intro n st cur b ih hw hl
    have hw := wf_head hw nofun
    rw [eval_ref]
    cases hb : G.rules[n]? with
    | none => simp only [wfE, hb, Bool.false_and, Bool.false_eq_true] at hw
    | some ob =>
      cases ob with
      | none => simp only [wfE, hb, Bool.false_and, Bool.false_eq_true] at hw
      | some body =>
        obtain ⟨r, hr, _⟩ := hG.ranked n body hb
        have hlt : r < b := by simpa only [leftOK, hr, decide_eq_true_eq] using hl
        have g := ih body r hb hr hlt (Or.inl (hG.wf n body hb)) (hG.left n body r hb hr)
        simp only [hr, if_pos hlt]
        generalize eval G body st cur r = r2 at g
        cases r2 with
        | fail => exact Good.fail
        | abort a => exact absurd rfl (g.1 a)
        | ok st1 out1 cur1 =>
          obtain ⟨hle, hnul⟩ := g.2 _ _ _ rfl
          exact Good.ok hle fun heq => by simp only [nullE, hG.nul n body hb (hnul heq), Option.getD_some]
end PGA.Ring
