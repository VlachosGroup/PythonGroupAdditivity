import PGA.Spec.Estimate
import Mathlib.Algebra.BigOperators.Group.Finset.Basic
import Mathlib.Algebra.BigOperators.Ring.Finset
import Mathlib.Algebra.BigOperators.Field
import Mathlib.Algebra.BigOperators.Fin
import Mathlib.Data.List.GetD
import Mathlib.Algebra.Order.BigOperators.Group.Finset
import Mathlib.Algebra.Order.Field.Rat
import Mathlib.Algebra.Order.AbsoluteValue.Basic
import Mathlib.Tactic.Linarith
import Mathlib.Tactic.Ring
/-! A symmetric, diagonally dominant matrix (hence with non-negative diagonal) is positive semi-definite — for any size.
First for functions on any finite index set, then for the list representation the model and the generated tables use
(`specQuad`, `PSD` of `PGA/Spec/Estimate.lean`).  The PSD certificate of C14 (`PGA/Proofs/Psd.lean`: M = LLᵀ + E,
E diagonally dominant) uses the first form on `Finset.range n`. -/
namespace PGA.Estimate
open Finset

/-- each off-diagonal term is bounded below: `|x·e·y| = |e|·|x|·|y|` and `2|x||y| ≤ x² + y²` -/
theorem dd_term (e x y : ℚ) : -(|e| * (x ^ 2 + y ^ 2) / 2) ≤ x * e * y :=
  calc -(|e| * (x ^ 2 + y ^ 2) / 2) ≤ -(|e| * (|x| * |y|)) := by
        have := mul_le_mul_of_nonneg_left (two_mul_le_add_sq |x| |y|) (abs_nonneg e)
        simp only [sq_abs] at this
        linarith
    _ = -|x * e * y| := by rw [abs_mul, abs_mul]; ring
    _ ≤ x * e * y := neg_abs_le _

/-- A matrix that is symmetric and diagonally dominant on an index set `s` (`Σ_{j≠i} |E i j| ≤ E i i` in every row,
so the diagonal is non-negative) has a non-negative quadratic form on `s`. -/
theorem diagDominant_psd {ι : Type} [DecidableEq ι] (s : Finset ι) (E : ι → ι → ℚ)
    (hsym : ∀ i ∈ s, ∀ j ∈ s, E i j = E j i)
    (hdd : ∀ i ∈ s, ∑ j ∈ s.erase i, |E i j| ≤ E i i) (x : ι → ℚ) :
    0 ≤ ∑ i ∈ s, ∑ j ∈ s, x i * E i j * x j := by
  have split : ∀ i ∈ s, ∑ j ∈ s, x i * E i j * x j = E i i * x i ^ 2 + ∑ j ∈ s.erase i, x i * E i j * x j :=
    fun i hi => by rw [← add_sum_erase s _ hi]; ring
  -- by symmetry the two halves `|E i j|·x i²/2` and `|E i j|·x j²/2` of the bound `dd_term` have the same total
  have swap : ∑ i ∈ s, ∑ j ∈ s.erase i, |E i j| * x j ^ 2 = ∑ i ∈ s, ∑ j ∈ s.erase i, |E i j| * x i ^ 2 := by
    rw [sum_sigma', sum_sigma']
    refine sum_bij' (fun p _ => ⟨p.2, p.1⟩) (fun p _ => ⟨p.2, p.1⟩) ?_ ?_ (fun _ _ => rfl) (fun _ _ => rfl) ?_
    all_goals simp only [mem_sigma, mem_erase, ne_eq, and_imp, Sigma.forall]
    · exact fun i j hi hne hj => ⟨hj, fun h => hne h.symm, hi⟩
    · exact fun i j hi hne hj => ⟨hj, fun h => hne h.symm, hi⟩
    · intro i j hi _ hj; rw [hsym i hi j hj]
  have off : ∑ i ∈ s, ∑ j ∈ s.erase i, -(|E i j| * (x i ^ 2 + x j ^ 2) / 2)
      = -∑ i ∈ s, (∑ j ∈ s.erase i, |E i j|) * x i ^ 2 := by
    have h : ∀ i j, -(|E i j| * (x i ^ 2 + x j ^ 2) / 2) = -(|E i j| * x i ^ 2 / 2) - |E i j| * x j ^ 2 / 2 :=
      fun i j => by ring
    simp only [h, sum_sub_distrib, sum_neg_distrib, ← sum_div, swap, sum_mul]
    ring
  calc (0 : ℚ) ≤ ∑ i ∈ s, (E i i - ∑ j ∈ s.erase i, |E i j|) * x i ^ 2 :=
        sum_nonneg fun i hi => mul_nonneg (sub_nonneg.mpr (hdd i hi)) (sq_nonneg _)
    _ = ∑ i ∈ s, (E i i * x i ^ 2 + ∑ j ∈ s.erase i, -(|E i j| * (x i ^ 2 + x j ^ 2) / 2)) := by
        rw [sum_add_distrib, off, ← sub_eq_add_neg, ← sum_sub_distrib]
        exact sum_congr rfl fun i _ => sub_mul _ _ _
    _ ≤ ∑ i ∈ s, ∑ j ∈ s, x i * E i j * x j :=
        sum_le_sum fun i hi => by
          rw [split i hi]
          exact add_le_add le_rfl (sum_le_sum fun j _ => dd_term _ _ _)

/-- entry `(i, j)` of a matrix given by rows (0 outside) -/
def entry (M : List (List Rat)) (i j : Nat) : Rat := (M.getD i []).getD j 0

theorem sum_zipWith_fin {α β : Type} (f : α → β → ℚ) (da : α) (db : β) :
    ∀ (n : ℕ) (a : List α) (b : List β), a.length = n → b.length = n →
      (List.zipWith f a b).sum = ∑ i : Fin n, f (a.getD i da) (b.getD i db)
  | 0, a, b, ha, hb => by
    have : a = [] := List.length_eq_zero_iff.mp ha
    subst this; simp
  | n + 1, [], _, ha, _ => by simp at ha
  | n + 1, _ :: _, [], _, hb => by simp at hb
  | n + 1, x :: xs, y :: ys, ha, hb => by
    rw [Fin.sum_univ_succ]
    simp [sum_zipWith_fin f da db n xs ys (by simpa using ha) (by simpa using hb)]

/-- the list quadratic form as a double sum over `Fin n` -/
theorem specQuad_eq_sum (n : ℕ) (M : List (List Rat)) (x : List Rat) (hM : Square n M) (hx : x.length = n) :
    specQuad M x = ∑ i : Fin n, ∑ j : Fin n, x.getD i 0 * entry M i j * x.getD j 0 := by
  unfold specQuad
  rw [sum_zipWith_fin _ 0 [] n x M hx hM.1]
  apply Finset.sum_congr rfl
  intro i _
  have hrow : (M.getD i []).length = n := by
    apply hM.2
    rw [List.getD_eq_getElem (l := M) (d := []) (by rw [hM.1]; exact i.2)]
    exact List.getElem_mem _
  unfold specDot
  rw [sum_zipWith_fin _ 0 0 n _ x hrow hx, Finset.mul_sum]
  apply Finset.sum_congr rfl
  intro j _
  simp only [entry]
  ring

/-- A square matrix that is symmetric and diagonally dominant
(`Σ_{j≠i} |E_ij| ≤ E_ii` for every row, so the diagonal is non-negative) satisfies `0 ≤ xᵀEx` for every `x`. -/
theorem diagDominant_PSD (n : ℕ) (E : List (List Rat)) (hsq : Square n E)
    (hsym : ∀ i j : Fin n, entry E i j = entry E j i)
    (hdd : ∀ i : Fin n, ∑ j ∈ Finset.univ.erase i, |entry E i j| ≤ entry E i i) : PSD n E := by
  intro x hx
  rw [specQuad_eq_sum n E x hsq hx]
  exact diagDominant_psd univ (fun i j : Fin n => entry E i j) (fun i _ j _ => hsym i j) (fun i _ => hdd i) (fun i => x.getD i 0)

end PGA.Estimate
