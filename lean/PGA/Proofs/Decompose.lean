import PGA.Spec.Decompose
import PGA.Spec.Relabel
import PGA.Proofs.Match
import PGA.Proofs.Read
import PGA.Proofs.Aromatize
import PGA.Proofs.SchemeUnion
import PGA.Props.C08
/-! Composition of the matcher theorem (C08) with the decomposition logic.  The Benson perception keeps a graph
well-formed and its atom count; every query of a scheme that loads comes from the reader (`load_queries`, hence
`load_wf`); below the cap each pattern's match list is the set of its embeddings (`mem_capped_scheme`), so the input
`toInput S m` built by the end-to-end model *declares* the scheme on `m` in the sense of `Spec.Declares`; and two inputs
declaring the same scheme on graphs whose embeddings correspond under a renumbering `π` (`id` for one graph) are related
by `Scheme.Relabel … π`. -/
namespace PGA.Decompose
open PGA PGA.Spec PGA.Scheme PGA.Match PGA.Arom

/-! ### the driver's form of the input -/
theorem toInputOfRaws_eq (S : SchemeDef) (m : Mol) :
    toInputOfRaws S m (S.centres.map fun c => rawMatches c.q m) (S.descs.map fun d => rawMatches d.q m) = toInput S m := by
  unfold toInputOfRaws toInput queryMatchesCapped
  rw [List.zipWith_map_right, List.zipWith_self, List.zipWith_map_right, List.zipWith_self]

/-! ### the perception keeps a graph well-formed -/
theorem wf_setAromatic (m : Mol) (r : List Nat) (h : m.wf = true) : (setAromatic m r).wf = true := by
  obtain ⟨h1, h2, h3⟩ := m.wf_iff.1 h
  rw [Mol.wf_iff, setAromatic_natoms, setAromatic_bonds]
  refine ⟨List.forall_mem_map.2 fun e he => ?_, noParallel_stepAny h2 _, h3⟩
  cases ringEdge r e <;> exact h1 e he

theorem wf_aromStep (m : Mol) (r : List Nat) (h : m.wf = true) : (aromStep m r).wf = true := by
  unfold aromStep
  split
  · exact wf_setAromatic m r h
  · exact h

theorem wf_aromatizeRings (rs : List (List Nat)) (m : Mol) (h : m.wf = true) : (aromatizeRings rs m).wf = true := by
  induction rs generalizing m with
  | nil => exact h
  | cons r rs ih => exact ih _ (wf_aromStep m r h)

theorem aromStep_natoms (m : Mol) (r : List Nat) : (aromStep m r).natoms = m.natoms := by
  unfold aromStep
  split
  · exact setAromatic_natoms m r
  · rfl

theorem aromatizeRings_natoms (rs : List (List Nat)) (m : Mol) : (aromatizeRings rs m).natoms = m.natoms := by
  induction rs generalizing m with
  | nil => rfl
  | cons r rs ih => exact (ih _).trans (aromStep_natoms m r)

theorem wf_aromatizeBenson (m : Mol) (h : m.wf = true) : (aromatizeBenson m).wf = true :=
  wf_aromatizeRings _ _ h

/-! ### loading a scheme: every query comes from the reader -/
theorem mapM_ok_mem {α β ε : Type} (f : α → Except ε β) (l : List α) : ∀ (l' : List β),
    l.mapM f = .ok l' → ∀ y ∈ l', ∃ x ∈ l, f x = .ok y := by
  induction l with
  | nil => intro l' h y hy; cases h; cases hy
  | cons a l ih =>
    intro l' h y hy
    rw [List.mapM_cons] at h
    obtain ⟨b, ha, h⟩ := Read.bind_eq_ok h
    obtain ⟨bs, hl, h⟩ := Read.bind_eq_ok h
    cases h
    rcases List.mem_cons.1 hy with rfl | hy
    · exact ⟨a, List.mem_cons_self, ha⟩
    · obtain ⟨x, hx, hfx⟩ := ih bs hl y hy
      exact ⟨x, List.mem_cons_of_mem _ hx, hfx⟩

theorem load_queries (src : SchemeSrc) (S : SchemeDef) (h : src.load = .ok S) :
    (∀ c ∈ S.centres, ∃ t, readFragment t = .ok c.q) ∧ ∀ d ∈ S.descs, ∃ t, readFragment t = .ok d.q := by
  obtain ⟨cs, hc, h⟩ := Read.bind_eq_ok h
  obtain ⟨ds, hd, h⟩ := Read.bind_eq_ok h
  cases h
  refine ⟨fun c hcm => ?_, fun d hdm => ?_⟩
  · obtain ⟨x, _, hx⟩ := mapM_ok_mem _ _ _ hc c hcm
    obtain ⟨q, hr, hx⟩ := Read.bind_eq_ok hx
    cases hx
    exact ⟨_, hr⟩
  · obtain ⟨x, _, hx⟩ := mapM_ok_mem _ _ _ hd d hdm
    obtain ⟨q, hr, hx⟩ := Read.bind_eq_ok hx
    cases hx
    exact ⟨_, hr⟩

theorem SchemeDef.wf_iff (S : SchemeDef) : S.wf = true ↔ (∀ c ∈ S.centres, c.q.wf = true) ∧ ∀ d ∈ S.descs, d.q.wf = true := by
  simp only [SchemeDef.wf, Bool.and_eq_true, List.all_eq_true]

theorem SchemeDef.noStar_iff (S : SchemeDef) :
    S.noStar = true ↔ (∀ c ∈ S.centres, NoStar c.q = true) ∧ ∀ d ∈ S.descs, NoStar d.q = true := by
  simp only [SchemeDef.noStar, Bool.and_eq_true, List.all_eq_true]

theorem load_wf (src : SchemeSrc) (S : SchemeDef) (h : src.load = .ok S) : S.wf = true :=
  have ⟨hc, hd⟩ := load_queries src S h
  S.wf_iff.2 ⟨fun c hcm => let ⟨t, ht⟩ := hc c hcm; C08.C08_read_wf t _ ht,
    fun d hdm => let ⟨t, ht⟩ := hd d hdm; C08.C08_read_wf t _ ht⟩

/-! ### below the cap of 10 000 candidates (`maxRaw`) the matcher returns the embeddings -/
theorem le_foldl_max (l : List Nat) : ∀ (a : Nat), a ≤ l.foldl max a ∧ ∀ x ∈ l, x ≤ l.foldl max a := by
  induction l with
  | nil => exact fun a => ⟨Nat.le_refl _, fun x hx => nomatch hx⟩
  | cons y l ih =>
    intro a
    obtain ⟨h1, h2⟩ := ih (max a y)
    refine ⟨Nat.le_trans (Nat.le_max_left _ _) h1, fun x hx => ?_⟩
    rcases List.mem_cons.1 hx with rfl | hx
    · exact Nat.le_trans (Nat.le_max_right _ _) h1
    · exact h2 x hx

theorem raw_lt_of_maxRaw (S : SchemeDef) (m : Mol) (h : maxRaw S m < maxMatches) :
    (∀ c ∈ S.centres, (rawMatches c.q m).length < maxMatches) ∧ (∀ d ∈ S.descs, (rawMatches d.q m).length < maxMatches) := by
  unfold maxRaw at h
  exact ⟨fun c hc => Nat.lt_of_le_of_lt ((le_foldl_max _ 0).2 _ (List.mem_append_left _ (List.mem_map.2 ⟨c, hc, rfl⟩))) h,
    fun d hd => Nat.lt_of_le_of_lt ((le_foldl_max _ 0).2 _ (List.mem_append_right _ (List.mem_map.2 ⟨d, hd, rfl⟩))) h⟩

/-- below the cap, every pattern's match list is the set of its embeddings -/
theorem mem_capped_scheme (S : SchemeDef) (m : Mol) (hm : m.wf = true) (hq : S.wf = true) (hs : S.noStar = true)
    (hcap : maxRaw S m < maxMatches) :
    (∀ c ∈ S.centres, ∀ f, f ∈ queryMatchesCapped c.q m ↔ Embeds c.q m f) ∧
    ∀ d ∈ S.descs, ∀ f, f ∈ queryMatchesCapped d.q m ↔ Embeds d.q m f := by
  obtain ⟨capC, capD⟩ := raw_lt_of_maxRaw S m hcap
  obtain ⟨hqC, hqD⟩ := S.wf_iff.1 hq
  obtain ⟨hsC, hsD⟩ := S.noStar_iff.1 hs
  exact ⟨fun c hc f => C08.C08_capped_iff_partial c.q m f (hqC c hc) hm (hsC c hc) (capC c hc),
    fun d hd f => C08.C08_capped_iff_partial d.q m f (hqD d hd) hm (hsD d hd) (capD d hd)⟩

/-! ### the model's input declares the scheme -/
theorem forall₂_map_right {α β : Type} (R : α → β → Prop) (g : α → β) (l : List α) (h : ∀ a ∈ l, R a (g a)) :
    List.Forall₂ R l (l.map g) :=
  List.forall₂_map_right_iff.2 (List.forall₂_same.2 h)

theorem nbrs_declares (m : Mol) (hm : m.wf = true) (i : Nat) :
    (((List.range m.natoms).map (neighbours m)).getD i []).Perm (neighbours m i) := by
  rw [List.getD_eq_getElem?_getD, List.getElem?_map]
  by_cases hi : i < m.natoms
  · rw [List.getElem?_range hi]; exact .refl _
  · -- no bond of a well-formed graph touches an index that is not an atom
    rw [List.getElem?_eq_none (by simpa using hi)]
    refine .of_eq (List.map_eq_nil_iff.2 (List.filter_eq_nil_iff.2 fun e he => ?_)).symm
    obtain ⟨ha, hb, _⟩ := (m.wf_iff.1 hm).1 e he
    simp only [Bond.touches, Bool.or_eq_true, beq_iff_eq]
    omega

theorem toInput_declares (S : SchemeDef) (m : Mol) (hm : m.wf = true) (hq : S.wf = true) (hs : S.noStar = true)
    (hcap : maxRaw S m < maxMatches) : Declares S m (toInput S m) := by
  obtain ⟨memC, memD⟩ := mem_capped_scheme S m hm hq hs hcap
  exact ⟨rfl, nbrs_declares m hm, forall₂_map_right _ _ _ fun c hc => ⟨rfl, rfl, memC c hc⟩,
    forall₂_map_right _ _ _ fun d hd => ⟨rfl, memD d hd⟩, rfl⟩

/-! ### two declared inputs on graphs whose embeddings correspond under a renumbering `π` differ by `Relabel … π` -/
theorem forall₂_comp {α β γ : Type} {R : α → β → Prop} {R' : α → γ → Prop} {T : β → γ → Prop}
    (h : ∀ a b c, R a b → R' a c → T b c) {l : List α} {l1 : List β} {l2 : List γ}
    (h1 : List.Forall₂ R l l1) (h2 : List.Forall₂ R' l l2) : List.Forall₂ T l1 l2 := by
  induction h1 generalizing l2 with
  | nil => cases h2; exact .nil
  | cons hab _ ih => cases h2 with | cons hac h2 => exact .cons (h _ _ _ hab hac) (ih h2)

theorem head?_map_inj {π : Nat → Nat} (hinj : Function.Injective π) (f : List Nat) (i : Nat) :
    (f.map π).head? = some (π i) ↔ f.head? = some i := by
  rw [List.head?_map]
  exact (Option.map_injective hinj).eq_iff (b := some i)

theorem toFinset_map' (π : Nat → Nat) (f : List Nat) : (f.map π).toFinset = Finset.image π f.toFinset := by
  ext y
  simp only [List.mem_toFinset, List.mem_map, Finset.mem_image]

/-- what the decomposition logic reads of a match list (first atoms, atom sets) under a renumbering of the matches -/
theorem matches_relabel {π : Nat → Nat} (hinj : Function.Injective π) {ms ms' : List (List Nat)}
    (h : ∀ f', f' ∈ ms' ↔ ∃ f ∈ ms, f.map π = f') :
    (∀ i, π i ∈ firstAtoms ms' ↔ i ∈ firstAtoms ms) ∧
    (ms'.map List.toFinset).toFinset = ((ms.map List.toFinset).toFinset).image (Finset.image π) := by
  refine ⟨fun i => ?_, Finset.ext fun s => ?_⟩
  · simp only [mem_firstAtoms, h, exists_exists_and_eq_and, head?_map_inj hinj]
  · simp only [List.mem_toFinset, List.mem_map, Finset.mem_image, h, exists_exists_and_eq_and, toFinset_map']

theorem relabel_of_declares {S : SchemeDef} {m m' : Mol} {inp inp' : Input} {π : Nat → Nat}
    (hinj : Function.Injective π) (hsurj : Function.Surjective π)
    (hn : m'.natoms = m.natoms) (hrange : ∀ i, π i < m.natoms ↔ i < m.natoms)
    (hnb : ∀ i, (neighbours m' (π i)).Perm ((neighbours m i).map π))
    (hemb : ∀ q f', Embeds q m' f' ↔ ∃ f, Embeds q m f ∧ f.map π = f')
    (h : Declares S m inp) (h' : Declares S m' inp') : Relabel inp inp' π := by
  have key : ∀ (q : Query) (ms ms' : List (List Nat)), (∀ f, f ∈ ms ↔ Embeds q m f) → (∀ f, f ∈ ms' ↔ Embeds q m' f) →
      ∀ f', f' ∈ ms' ↔ ∃ f ∈ ms, f.map π = f' := fun q ms ms' hm hm' f' => by
    simp only [hm, hm', hemb]
  refine ⟨hinj, hsurj, h'.n.trans (hn.trans h.n.symm), by rw [h.n]; exact hrange,
    fun i => (h'.nbrs (π i)).trans ((hnb i).trans ((h.nbrs i).symm.map π)), ?_, ?_, h'.remaps.trans h.remaps.symm⟩
  · refine forall₂_comp ?_ h.centres h'.centres
    rintro c p p' ⟨hc, hp, hm⟩ ⟨hc', hp', hm'⟩
    exact ⟨hc'.trans hc.symm, hp'.trans hp.symm, (matches_relabel hinj (key c.q _ _ hm hm')).1⟩
  · refine forall₂_comp ?_ h.descs h'.descs
    rintro d p p' ⟨hn, hm⟩ ⟨hn', hm'⟩
    exact ⟨hn'.trans hn.symm, (matches_relabel hinj (key d.q _ _ hm hm')).2⟩

theorem declares_relabel (S : SchemeDef) (m : Mol) (inp inp' : Input) (h : Declares S m inp) (h' : Declares S m inp') :
    Relabel inp inp' id :=
  relabel_of_declares Function.injective_id Function.surjective_id rfl (fun _ => Iff.rfl)
    (fun _ => .of_eq (List.map_id _).symm) (fun q f' => by simp only [List.map_id, exists_eq_right]) h h'

end PGA.Decompose
