import Mathlib.Tactic.Linarith
import PGA.Spec.Merge
import PGA.Proofs.Yaml
/-! Helper lemmas for C13: dictionaries, the validity check as a proposition, the merge loop, `update` as "compute the
merged data, then store them in a freshly built object or store nothing". -/
namespace PGA.Merge
open PGA.Yaml

/-! ### dictionaries -/

section dict
variable {V : Type}

theorem dlookup_dinsert (k T : Rat) (v : V) (l : List (Rat × V)) :
    dlookup T (dinsert k v l) = if k = T then some v else dlookup T l := by
  induction l with
  | nil => rfl
  | cons kv l ih =>
    obtain ⟨k', v'⟩ := kv
    simp only [dinsert]
    by_cases h : k' = k
    · subst h
      simp only [if_true, dlookup]
      split <;> rfl
    · simp only [h, if_false, dlookup, ih]
      by_cases h2 : k' = T
      · simp only [if_pos h2, if_neg fun e : k = T => h (h2.trans e.symm)]
      · simp only [if_neg h2]

theorem dlookup_isSome_iff (T : Rat) (l : List (Rat × V)) : (dlookup T l).isSome = true ↔ T ∈ keys l := by
  induction l with
  | nil => exact ⟨nofun, nofun⟩
  | cons kv l ih =>
    obtain ⟨k', v'⟩ := kv
    rw [dlookup, show keys ((k', v') :: l) = k' :: keys l from rfl, List.mem_cons]
    by_cases h : k' = T
    · rw [if_pos h]; exact ⟨fun _ => Or.inl h.symm, fun _ => rfl⟩
    · rw [if_neg h, ih]; exact ⟨Or.inr, fun hm => hm.resolve_left fun e => h e.symm⟩

theorem dlookup_eq_none_iff (T : Rat) (l : List (Rat × V)) : dlookup T l = none ↔ T ∉ keys l := by
  rw [← dlookup_isSome_iff, Option.isSome_iff_ne_none, not_not]

theorem mem_keys_of_dlookup {T : Rat} {v : V} {l : List (Rat × V)} (h : dlookup T l = some v) : T ∈ keys l := by
  rw [← dlookup_isSome_iff, h]; rfl

theorem keys_dinsert (k : Rat) (v : V) (l : List (Rat × V)) :
    keys (dinsert k v l) = if k ∈ keys l then keys l else keys l ++ [k] := by
  induction l with
  | nil => rfl
  | cons kv l ih =>
    obtain ⟨k', v'⟩ := kv
    show keys (if k' = k then (k, v) :: l else (k', v') :: dinsert k v l) =
      if k ∈ k' :: keys l then k' :: keys l else k' :: (keys l ++ [k])
    by_cases h : k' = k
    · rw [if_pos h, if_pos (h ▸ List.mem_cons_self), h]; rfl
    · rw [if_neg h, show keys ((k', v') :: dinsert k v l) = k' :: keys (dinsert k v l) from rfl, ih]
      by_cases hm : k ∈ keys l
      · rw [if_pos hm, if_pos (List.mem_cons_of_mem _ hm)]
      · rw [if_neg hm, if_neg fun hc => (List.mem_cons.mp hc).elim (fun e => h e.symm) hm]

theorem nodup_dinsert (k : Rat) (v : V) (l : List (Rat × V)) (h : (keys l).Nodup) : (keys (dinsert k v l)).Nodup := by
  rw [keys_dinsert]
  split
  · exact h
  · rename_i hk
    exact List.nodup_append.mpr ⟨h, List.pairwise_singleton _ _, fun a ha b hb e => hk (List.mem_singleton.mp hb ▸ e ▸ ha)⟩

theorem mem_keys_dinsert (k T : Rat) (v : V) (l : List (Rat × V)) : T ∈ keys (dinsert k v l) ↔ T = k ∨ T ∈ keys l := by
  rw [keys_dinsert]
  split
  · rename_i hk
    exact ⟨Or.inr, fun h => h.elim (fun e => e ▸ hk) id⟩
  · rw [List.mem_append, List.mem_singleton, or_comm]

theorem dinsert_same (k : Rat) (v : V) (l : List (Rat × V)) (h : dlookup k l = some v) : dinsert k v l = l := by
  induction l with
  | nil => cases h
  | cons kv l ih =>
    obtain ⟨k', v'⟩ := kv
    rw [dlookup] at h
    rw [dinsert]
    by_cases hk : k' = k
    · rw [if_pos hk] at h ⊢
      rw [← hk, Option.some.inj h]
    · rw [if_neg hk] at h ⊢
      rw [ih h]

theorem dlookup_of_mem_nodup {l : List (Rat × V)} (hnd : (keys l).Nodup) {T : Rat} {v : V} (h : (T, v) ∈ l) :
    dlookup T l = some v := by
  induction l with
  | nil => cases h
  | cons kv l ih =>
    obtain ⟨k', v'⟩ := kv
    obtain ⟨hk, hnd⟩ := List.nodup_cons.mp hnd
    rw [dlookup]
    rcases List.mem_cons.mp h with e | hm
    · cases e; rw [if_pos rfl]
    · rw [if_neg fun e : k' = T => hk (e ▸ (List.mem_map_of_mem (f := Prod.fst) hm : T ∈ keys l))]
      exact ih hnd hm

theorem keys_eq_nil {l : List (Rat × V)} : keys l = [] ↔ l = [] := List.map_eq_nil_iff

theorem eq_nil_iff_of_dlookup {a b : List (Rat × V)} (h : ∀ T, dlookup T a = dlookup T b) : a = [] ↔ b = [] := by
  have one : ∀ {a b : List (Rat × V)}, (∀ T, dlookup T a = dlookup T b) → b = [] → a = [] := fun {a b} h hb => by
    subst hb
    cases a with
    | nil => rfl
    | cons kv l =>
      obtain ⟨k, v⟩ := kv
      have : dlookup k ((k, v) :: l) = none := h k
      rw [dlookup, if_pos rfl] at this
      cases this
  exact ⟨one fun T => (h T).symm, one h⟩

theorem isEmpty_eq_false_iff {l : List (Rat × V)} : l.isEmpty = false ↔ keys l ≠ [] := by
  cases l <;> simp [keys]

/-! ### smallest and largest key -/

theorem exists_minKey {l : List (Rat × V)} (h : l ≠ []) : ∃ m, minKey l = some m ∧ m ∈ keys l ∧ ∀ k ∈ keys l, m ≤ k := by
  induction l with
  | nil => exact absurd rfl h
  | cons kv l ih =>
    obtain ⟨k, v⟩ := kv
    cases l with
    | nil => exact ⟨k, rfl, List.mem_singleton_self k, fun x hx => (List.mem_singleton.mp hx).ge⟩
    | cons kv' l' =>
      obtain ⟨m, hm, hmem, hle⟩ := ih (List.cons_ne_nil _ _)
      refine ⟨min k m, by rw [minKey, hm, min_def], ?_, fun x hx => ?_⟩
      · exact (min_choice k m).elim (fun e => by rw [e]; exact List.mem_cons_self) fun e => by rw [e]; exact List.mem_cons_of_mem _ hmem
      · exact (List.mem_cons.mp hx).elim (fun e => e ▸ min_le_left k m) fun hx => (min_le_right k m).trans (hle x hx)

theorem exists_maxKey {l : List (Rat × V)} (h : l ≠ []) : ∃ m, maxKey l = some m ∧ m ∈ keys l ∧ ∀ k ∈ keys l, k ≤ m := by
  induction l with
  | nil => exact absurd rfl h
  | cons kv l ih =>
    obtain ⟨k, v⟩ := kv
    cases l with
    | nil => exact ⟨k, rfl, List.mem_singleton_self k, fun x hx => (List.mem_singleton.mp hx).le⟩
    | cons kv' l' =>
      obtain ⟨m, hm, hmem, hle⟩ := ih (List.cons_ne_nil _ _)
      refine ⟨max m k, by rw [maxKey, hm, max_def], ?_, fun x hx => ?_⟩
      · exact (max_choice m k).elim (fun e => by rw [e]; exact List.mem_cons_of_mem _ hmem) fun e => by rw [e]; exact List.mem_cons_self
      · exact (List.mem_cons.mp hx).elim (fun e => e ▸ le_max_right m k) fun hx => (hle x hx).trans (le_max_left m k)

end dict

/-! ### the constructor's check is the proposition `ValidP` -/

theorem ite_error_eq_ok {ε α : Type} {p : Prop} [Decidable p] {e : ε} {x : Except ε α} {u : α} :
    (if p then .error e else x) = .ok u ↔ ¬ p ∧ x = .ok u := by
  split <;> simp [*]

theorem rawCheck_iff (mn mx T : Rat) (range : Option (Rat × Rat)) :
    rawCheck mn mx T range = .ok () ↔ match range with
      | some (lo, hi) => (lo ≤ mn ∧ mx ≤ hi) ∧ lo ≤ T ∧ T ≤ hi
      | none => mn ≤ T ∧ T ≤ mx := by
  unfold rawCheck
  split <;> simp only [ite_error_eq_ok, not_or, not_lt, and_true]

theorem setupCheck_iff {V : Type} (cp : List (Rat × V)) (T : Rat) (range : Option (Rat × Rat)) :
    setupCheck cp T range = .ok () ↔
      (keys cp ≠ [] → match range with
        | some (lo, hi) => (∀ k ∈ keys cp, lo ≤ k ∧ k ≤ hi) ∧ lo ≤ T ∧ T ≤ hi
        | none => (∃ k ∈ keys cp, k ≤ T) ∧ (∃ k ∈ keys cp, T ≤ k)) := by
  by_cases hcp : cp = []
  · subst hcp
    exact ⟨fun _ h => absurd rfl h, fun _ => rfl⟩
  · obtain ⟨mn, hmn, mnmem, mnle⟩ := exists_minKey hcp
    obtain ⟨mx, hmx, mxmem, mxle⟩ := exists_maxKey hcp
    rw [setupCheck, hmn, hmx, rawCheck_iff, forall_prop_of_true (mt keys_eq_nil.mp hcp)]
    cases range with
    | none =>
      exact ⟨fun h => ⟨⟨mn, mnmem, h.1⟩, mx, mxmem, h.2⟩,
        fun ⟨⟨k1, hk1, h1⟩, k2, hk2, h2⟩ => ⟨(mnle k1 hk1).trans h1, h2.trans (mxle k2 hk2)⟩⟩
    | some lh =>
      obtain ⟨lo, hi⟩ := lh
      exact ⟨fun h => ⟨fun k hk => ⟨h.1.1.trans (mnle k hk), (mxle k hk).trans h.1.2⟩, h.2⟩,
        fun h => ⟨⟨(h.1 mn mnmem).1, (h.1 mx mxmem).2⟩, h.2⟩⟩

theorem checkValid_iff {V : Type} (cp : List (Rat × V)) (T : Rat) (range : Option (Rat × Rat)) :
    checkValid cp T range = .ok () ↔ ValidP (keys cp) T range := by
  unfold checkValid ValidP
  cases range with
  | none => exact setupCheck_iff cp T none
  | some lh =>
    obtain ⟨lo, hi⟩ := lh
    show ((if hi < lo then .error .assertion else .ok ()) >>= fun _ => setupCheck cp T (some (lo, hi))) = .ok () ↔ _
    by_cases h : hi < lo
    · rw [if_pos h]
      exact ⟨nofun, fun hh => absurd h (not_lt.mpr hh.1)⟩
    · rw [if_neg h]
      exact (setupCheck_iff cp T _).trans ⟨fun hh => ⟨not_lt.mp h, hh⟩, fun hh => hh.2⟩

theorem setupCheck_of_checkValid {V : Type} {cp : List (Rat × V)} {T : Rat} {range : Option (Rat × Rat)}
    (h : checkValid cp T range = .ok ()) : setupCheck cp T range = .ok () := by
  unfold checkValid at h
  cases hr : rangeAssert range with
  | error e => rw [hr] at h; cases h
  | ok u => rw [hr] at h; exact h

theorem validP_of_mem_iff {ks ks' : List Rat} (h : ∀ T, T ∈ ks ↔ T ∈ ks') {T : Rat} {r : Option (Rat × Rat)}
    (hv : ValidP ks T r) : ValidP ks' T r := by
  have hne : ks' ≠ [] → ks ≠ [] := fun hk =>
    let ⟨x, hx⟩ := List.exists_mem_of_ne_nil _ hk
    List.ne_nil_of_mem ((h x).mpr hx)
  cases r with
  | none =>
    intro hk
    obtain ⟨⟨k1, m1, l1⟩, k2, m2, l2⟩ := hv (hne hk)
    exact ⟨⟨k1, (h k1).mp m1, l1⟩, k2, (h k2).mp m2, l2⟩
  | some lh =>
    obtain ⟨lo, hi⟩ := lh
    exact ⟨hv.1, fun hk => ⟨fun k hkm => (hv.2 (hne hk)).1 k ((h k).mpr hkm), (hv.2 (hne hk)).2⟩⟩

theorem validP_congr {ks ks' : List Rat} (h : ∀ T, T ∈ ks ↔ T ∈ ks') (T : Rat) (r : Option (Rat × Rat)) :
    ValidP ks T r ↔ ValidP ks' T r :=
  ⟨validP_of_mem_iff h, validP_of_mem_iff fun T => (h T).symm⟩

/-! ### `update` computes the merged data, then stores them or nothing -/

/-- the data `update` stores when it does not raise: the merged table, the new reference values and the united range,
validated -/
def mergeData (ev : RawEval) (c d : Corr) (ow : Bool) : Except UErr Corr :=
  match mergeCp ow c.cp c.cp d.cp with
  | .error e => .error e
  | .ok cp =>
    match mergeRefs ev ow c d cp (unionRange c.range d.range) with
    | .error e => .error e
    | .ok (H, S) =>
      match checkValid cp c.Tref (unionRange c.range d.range) with
      | .error e => .error (UErr.ofC e)
      | .ok () => .ok ⟨H, S, cp, c.Tref, unionRange c.range d.range⟩

theorem setup_ok {c : Corr} (h : setupCheck c.cp c.Tref c.range = .ok ()) : setup c = (fresh c, none) := by
  rw [setup, h]; rfl

/-- the merged data depend on the data fields of the target only; they are stored in a freshly built object, and when
there are none `self` is left exactly as it was -/
theorem update_eq (ev : RawEval) (self : Obj) (d : Corr) (ow : Bool) :
    update ev self d ow = match mergeData ev self.c d ow with
      | .ok c => (fresh c, none)
      | .error e => (self, some e) := by
  unfold update mergeData
  simp only
  cases mergeCp ow self.c.cp self.c.cp d.cp with
  | error e => rfl
  | ok cp =>
    simp only
    cases mergeRefs ev ow self.c d cp (unionRange self.c.range d.range) with
    | error e => rfl
    | ok HS =>
      simp only
      cases hv : checkValid cp self.c.Tref (unionRange self.c.range d.range) with
      | error e => rfl
      | ok u => exact setup_ok (c := ⟨HS.1, HS.2, cp, _, _⟩) (setupCheck_of_checkValid hv)

theorem mergeData_ok {ev : RawEval} {c d : Corr} {ow : Bool} {cp : List (Rat × Rat)} {H S : Option Rat}
    (hcp : mergeCp ow c.cp c.cp d.cp = .ok cp) (hr : mergeRefs ev ow c d cp (unionRange c.range d.range) = .ok (H, S))
    (hv : ValidP (keys cp) c.Tref (unionRange c.range d.range)) :
    mergeData ev c d ow = .ok ⟨H, S, cp, c.Tref, unionRange c.range d.range⟩ := by
  simp only [mergeData, hcp, hr, (checkValid_iff _ _ _).mpr hv]

theorem mergeCp_nodup (ow : Bool) (self : List (Rat × Rat)) : ∀ (other acc r : List (Rat × Rat)),
    mergeCp ow self acc other = .ok r → (keys acc).Nodup → (keys r).Nodup
  | [], acc, r, h, hn => by cases h; exact hn
  | (T, v) :: rest, acc, r, h, hn => by
    rw [mergeCp] at h
    split at h
    · cases h
    · exact mergeCp_nodup ow self rest _ r h (nodup_dinsert T v acc hn)

/-- a merge that is not refused stores data that passed the constructor's check, keeps `T_ref`, and keeps the table a
dictionary — whatever `other` holds -/
theorem mergeData_inv {ev : RawEval} {c d r : Corr} {ow : Bool} (h : mergeData ev c d ow = .ok r) :
    ValidP (keys r.cp) r.Tref r.range ∧ r.Tref = c.Tref ∧ ((keys c.cp).Nodup → (keys r.cp).Nodup) := by
  unfold mergeData at h
  split at h
  · cases h
  · rename_i cp hm
    split at h
    · cases h
    · split at h
      · cases h
      · rename_i hv
        cases h
        exact ⟨(checkValid_iff _ _ _).mp hv, rfl, mergeCp_nodup ow c.cp d.cp c.cp cp hm⟩

/-- whenever `update` raises, `self` is left exactly as it was — for every pair of correlations, equal reference
temperatures or not, with or without `overwrite`, whatever the raw-data evaluator returns -/
theorem update_atomic (ev : RawEval) (self : Obj) (d : Corr) (ow : Bool) (e : UErr)
    (h : (update ev self d ow).2 = some e) : (update ev self d ow).1 = self := by
  rw [update_eq] at h ⊢
  revert h
  cases mergeData ev self.c d ow with
  | error e' => exact fun _ => rfl
  | ok c => exact nofun

/-! ### the merge loop over the table -/

/-- if no datum of `other` meets a different value in `self` (or `overwrite` is set), the loop succeeds and the result
holds `other`'s value where `other` has one and `acc`'s elsewhere -/
theorem mergeCp_spec (ow : Bool) (self : List (Rat × Rat)) :
    ∀ (other acc : List (Rat × Rat)), (keys other).Nodup →
      (ow = false → ∀ T v, dlookup T other = some v → (dlookup T self).isSome = true → dlookup T acc = some v) →
      ∃ r, mergeCp ow self acc other = .ok r ∧
        ∀ T, dlookup T r = match dlookup T other with | some v => some v | none => dlookup T acc := by
  intro other
  induction other with
  | nil => exact fun acc _ _ => ⟨acc, rfl, fun T => rfl⟩
  | cons kv rest ih =>
    intro acc hnd hc
    obtain ⟨T, v⟩ := kv
    obtain ⟨hT, hnd⟩ := List.nodup_cons.mp hnd
    have hTrest : dlookup T rest = none := (dlookup_eq_none_iff T rest).mpr hT
    have hcond : (!ow && (dlookup T self).isSome && dlookup T acc != some v) = false := by
      cases ow with
      | true => rfl
      | false =>
        cases hs : (dlookup T self).isSome with
        | false => rfl
        | true => rw [hc rfl T v (by rw [dlookup, if_pos rfl]) hs]; simp
    have hc' : ow = false → ∀ T' v', dlookup T' rest = some v' → (dlookup T' self).isSome = true →
        dlookup T' (dinsert T v acc) = some v' := by
      intro how T' v' h1 h2
      have hne : T ≠ T' := fun e => by rw [← e, hTrest] at h1; cases h1
      rw [dlookup_dinsert, if_neg hne]
      exact hc how T' v' (by rw [dlookup, if_neg hne]; exact h1) h2
    obtain ⟨r, hr, hl⟩ := ih (dinsert T v acc) hnd hc'
    refine ⟨r, by rw [mergeCp, hcond]; exact hr, fun X => ?_⟩
    rw [hl X, dlookup_dinsert, dlookup]
    by_cases hX : T = X
    · rw [if_pos hX, if_pos hX, ← hX, hTrest]
    · rw [if_neg hX, if_neg hX]

theorem mergeCp_same (ow : Bool) (self : List (Rat × Rat)) :
    ∀ (other acc : List (Rat × Rat)), (∀ T v, (T, v) ∈ other → dlookup T acc = some v) →
      mergeCp ow self acc other = .ok acc := by
  intro other
  induction other with
  | nil => intro acc _; rfl
  | cons kv rest ih =>
    intro acc h
    obtain ⟨T, v⟩ := kv
    have hv := h T v List.mem_cons_self
    have : (!ow && (dlookup T self).isSome && dlookup T acc != some v) = false := by simp [hv]
    rw [mergeCp, this, dinsert_same T v acc hv]
    exact ih acc fun T' v' hm => h T' v' (List.mem_cons_of_mem _ hm)

/-- a heat-capacity point that meets a different value in `self` stops the loop with `ReadOnlyDataError` -/
theorem mergeCp_conflict (self : List (Rat × Rat)) {Tc x y : Rat} (hs : dlookup Tc self = some x) (hxy : x ≠ y) :
    ∀ (other acc : List (Rat × Rat)), (keys other).Nodup → dlookup Tc other = some y → dlookup Tc acc = some x →
      mergeCp false self acc other = .error .readOnly := by
  intro other
  induction other with
  | nil => intro acc _ h; cases h
  | cons kv rest ih =>
    intro acc hnd ho ha
    obtain ⟨T, v⟩ := kv
    rw [mergeCp]
    rw [dlookup] at ho
    by_cases hT : T = Tc
    · rw [if_pos hT, Option.some.injEq] at ho
      subst hT ho
      simp [hs, ha, hxy]
    · rw [if_neg hT] at ho
      split
      · rfl
      · exact ih (dinsert T v acc) (List.nodup_cons.mp hnd).2 ho (by rw [dlookup_dinsert, if_neg hT]; exact ha)

/-! ### reference values through the temporary correlation -/

theorem absR_nonneg (x : Rat) : 0 ≤ absR x := by
  unfold absR; split <;> linarith

theorem le_maxR_left (x y : Rat) : x ≤ maxR x y := by
  unfold maxR; split <;> linarith

theorem isclose_self (x : Rat) : isclose x x = true := by
  have h0 : absR (x - x) = 0 := by rw [sub_self, absR, if_neg (lt_irrefl 0)]
  rw [isclose, h0, decide_eq_true_eq]
  exact mul_nonneg (by norm_num) ((absR_nonneg x).trans (le_maxR_left _ _))

theorem inRange_of_validP {cp : List (Rat × Rat)} {T : Rat} {range : Option (Rat × Rat)}
    (h : ValidP (keys cp) T range) (hne : keys cp ≠ []) : inRange cp range T = true := by
  unfold inRange
  cases range with
  | some lh =>
    obtain ⟨lo, hi⟩ := lh
    obtain ⟨_, h3, h4⟩ := h.2 hne
    simpa only [Bool.not_eq_true', decide_eq_false_iff_not, not_or, not_lt] using And.intro h3 h4
  | none =>
    obtain ⟨⟨k1, hk1, h1⟩, k2, hk2, h2⟩ := h hne
    obtain ⟨mn, hmn, -, mnle⟩ := exists_minKey (mt keys_eq_nil.mpr hne)
    obtain ⟨mx, hmx, -, mxle⟩ := exists_maxKey (mt keys_eq_nil.mpr hne)
    simp only [hmn, hmx, Bool.not_eq_true', decide_eq_false_iff_not, not_or, not_lt]
    exact ⟨(mnle k1 hk1).trans h1, h2.trans (mxle k2 hk2)⟩

theorem evalAt_ref (f : Rat → Rat → List (Rat × Rat) → Option (Rat × Rat) → Rat → Rat) (x : Rat) {T : Rat}
    (cp : List (Rat × Rat)) (range : Option (Rat × Rat)) (hT : T ≠ 0) : evalAt f x T cp range T = .ok x := by
  rw [evalAt, if_pos rfl, if_neg hT]

theorem getH_at_ref (ev : RawEval) {c : Corr} {h : Rat} (hH : c.H = some h) (hv : ValidP (keys c.cp) c.Tref c.range)
    (hT : c.Tref ≠ 0) : getH ev c c.Tref = .ok h := by
  rw [getH, hH]
  cases he : c.cp.isEmpty with
  | true => rfl
  | false => simp only [inRange_of_validP hv (isEmpty_eq_false_iff.mp he), evalAt_ref _ _ _ _ hT, if_true, Bool.false_eq_true, if_false]

theorem getS_at_ref (ev : RawEval) {c : Corr} {s : Rat} (hS : c.S = some s) (hv : ValidP (keys c.cp) c.Tref c.range)
    (hT : c.Tref ≠ 0) : getS ev c c.Tref = .ok s := by
  rw [getS, hS]
  cases he : c.cp.isEmpty with
  | true => rfl
  | false => simp only [inRange_of_validP hv (isEmpty_eq_false_iff.mp he), evalAt_ref _ _ _ _ hT, if_true, Bool.false_eq_true, if_false]

/-- when the temporary correlation is consistent and shares the target's `T_ref ≠ 0`, the value compared with the
target's reference enthalpy is the source's own -/
theorem newH_at_ref (ev : RawEval) (ow : Bool) {c d : Corr} {cp : List (Rat × Rat)} {range : Option (Rat × Rat)}
    (hT : c.Tref = d.Tref) (h0 : d.Tref ≠ 0) (hv : ValidP (keys cp) d.Tref range) :
    newH ev ow c d ⟨d.H, d.S, cp, d.Tref, range⟩ = match d.H with
      | some x => mergeRef ow c.H x
      | none => .ok c.H := by
  unfold newH
  cases hd : d.H with
  | none => rfl
  | some x => simp only [hT, getH_at_ref ev (c := ⟨some x, d.S, cp, d.Tref, range⟩) rfl hv h0]

theorem newS_at_ref (ev : RawEval) (ow : Bool) {c d : Corr} {cp : List (Rat × Rat)} {range : Option (Rat × Rat)}
    (hT : c.Tref = d.Tref) (h0 : d.Tref ≠ 0) (hv : ValidP (keys cp) d.Tref range) :
    newS ev ow c d ⟨d.H, d.S, cp, d.Tref, range⟩ = match d.S with
      | some x => mergeRef ow c.S x
      | none => .ok c.S := by
  unfold newS
  cases hd : d.S with
  | none => rfl
  | some x => simp only [hT, getS_at_ref ev (c := ⟨d.H, some x, cp, d.Tref, range⟩) rfl hv h0]

theorem mergeRef_agree (ow : Bool) (old : Option Rat) (new : Rat) (h : old = none ∨ old = some new) :
    mergeRef ow old new = .ok (some new) := by
  rcases h with rfl | rfl
  · rfl
  · simp [mergeRef, isclose_self]

theorem mergeRef_overwrite (old : Option Rat) (new : Rat) : mergeRef true old new = .ok (some new) := by
  cases old <;> rfl

/-- choice between the new and the old reference value -/
def pick (new old : Option Rat) : Option Rat := if new.isSome then new else old

theorem pick_isSome (n o : Option Rat) : (pick n o).isSome = (n.isSome || o.isSome) := by
  cases n <;> rfl

theorem pick_self (x : Option Rat) : pick x x = x := by
  cases x <;> rfl

theorem mergeRefs_at_ref (ev : RawEval) (ow : Bool) {c d : Corr} {cp : List (Rat × Rat)} {range : Option (Rat × Rat)}
    (hT : c.Tref = d.Tref) (h0 : d.Tref ≠ 0) (hv : ValidP (keys cp) d.Tref range)
    (hH : ∀ x, d.H = some x → mergeRef ow c.H x = .ok (some x)) (hS : ∀ x, d.S = some x → mergeRef ow c.S x = .ok (some x)) :
    mergeRefs ev ow c d cp range = .ok (pick d.H c.H, pick d.S c.S) := by
  unfold mergeRefs
  simp only [(checkValid_iff _ _ _).mpr hv, newH_at_ref ev ow hT h0 hv, newS_at_ref ev ow hT h0 hv]
  cases hdH : d.H with
  | none =>
    cases hdS : d.S with
    | none => rfl
    | some s => simp only [hS s hdS]; rfl
  | some h =>
    simp only [hH h hdH]
    cases hdS : d.S with
    | none => rfl
    | some s => simp only [hS s hdS]; rfl

/-! ### merging two parts of one whole -/

theorem part_some {α : Type} {x w : Option α} (h : x = none ∨ x = w) {v : α} (hv : x = some v) : w = some v := by
  rcases h with h | h
  · rw [h] at hv; cases hv
  · exact h ▸ hv

theorem pick_part {n o w : Option Rat} (hn : n = none ∨ n = w) (ho : o = none ∨ o = w) : pick n o = none ∨ pick n o = w := by
  cases n with
  | none => exact ho
  | some x => exact Or.inr (part_some hn rfl).symm

theorem unionRange_self (r : Option (Rat × Rat)) : unionRange r r = r := by
  cases r with
  | none => rfl
  | some lh => simp [unionRange]

theorem unionRange_isSome (r s : Option (Rat × Rat)) : (unionRange r s).isSome = (r.isSome || s.isSome) := by
  cases r with
  | none => cases s <;> rfl
  | some a => cases s <;> rfl

theorem unionRange_parts {a b W : Corr} (pa : PartOf a W) (pb : PartOf b W) :
    (a.range = none ∧ b.range = none) ∨
      (∃ lo hi, W.range = some (lo, hi) ∧ unionRange a.range b.range = some (lo, hi)) := by
  cases hW : W.range with
  | none => exact Or.inl ⟨pa.range.elim id (·.trans hW), pb.range.elim id (·.trans hW)⟩
  | some lh =>
    obtain ⟨lo, hi⟩ := lh
    rcases pa.range with ha | ha <;> rcases pb.range with hb | hb
    · exact Or.inl ⟨ha, hb⟩
    · exact Or.inr ⟨lo, hi, rfl, by rw [ha, hb, hW]; rfl⟩
    · exact Or.inr ⟨lo, hi, rfl, by rw [ha, hb, hW]; rfl⟩
    · exact Or.inr ⟨lo, hi, rfl, by rw [ha, hb, hW, unionRange_self]⟩

theorem partOf_key {p W : Corr} (pp : PartOf p W) {T : Rat} (h : T ∈ keys p.cp) : T ∈ keys W.cp := by
  rw [← dlookup_isSome_iff] at h
  obtain ⟨v, hv⟩ := Option.isSome_iff_exists.mp h
  exact mem_keys_of_dlookup (pp.cp T v hv)

theorem merged_validP {a b W : Corr} (hW : Valid W) (pa : PartOf a W) (pb : PartOf b W) (va : Valid a) (vb : Valid b) :
    ValidP (keys b.cp ++ keys a.cp) W.Tref (unionRange a.range b.range) := by
  have hsub : ∀ T ∈ keys b.cp ++ keys a.cp, T ∈ keys W.cp := fun T hT =>
    (List.mem_append.mp hT).elim (partOf_key pb) (partOf_key pa)
  rcases unionRange_parts pa pb with ⟨ha, hb⟩ | ⟨lo, hi, hWr, hu⟩
  · -- no range: the part that has a table brackets `T_ref` with its own temperatures
    rw [ha, hb]
    intro hne
    obtain ⟨T, hT⟩ := List.exists_mem_of_ne_nil _ hne
    have va' := va.ok
    have vb' := vb.ok
    rw [ha, pa.tref] at va'
    rw [hb, pb.tref] at vb'
    rcases List.mem_append.mp hT with hTb | hTa
    · obtain ⟨⟨k1, hk1, h1⟩, k2, hk2, h2⟩ := vb' (List.ne_nil_of_mem hTb)
      exact ⟨⟨k1, List.mem_append_left _ hk1, h1⟩, k2, List.mem_append_left _ hk2, h2⟩
    · obtain ⟨⟨k1, hk1, h1⟩, k2, hk2, h2⟩ := va' (List.ne_nil_of_mem hTa)
      exact ⟨⟨k1, List.mem_append_right _ hk1, h1⟩, k2, List.mem_append_right _ hk2, h2⟩
  · -- the whole's range: it contains the whole's table, hence the union's
    have hw := hW.ok
    rw [hWr] at hw
    rw [hu]
    refine ⟨hw.1, fun hne => ?_⟩
    obtain ⟨T, hT⟩ := List.exists_mem_of_ne_nil _ hne
    obtain ⟨hall, h12⟩ := hw.2 (List.ne_nil_of_mem (hsub T hT))
    exact ⟨fun k hk => hall k (hsub k hk), h12⟩

theorem mem_keys_merged {r o a : List (Rat × Rat)}
    (h : ∀ T, dlookup T r = match dlookup T o with | some v => some v | none => dlookup T a) (T : Rat) :
    T ∈ keys r ↔ T ∈ keys o ++ keys a := by
  rw [List.mem_append, ← dlookup_isSome_iff, ← dlookup_isSome_iff, ← dlookup_isSome_iff, h T]
  cases dlookup T o <;> simp

/-- **Merging without conflict is the pointwise union.**  Shared `T_ref ≠ 0`; no table point of the source meets a
different value in the target (or `overwrite`); every reference value of the source is accepted; the union is consistent:
the merge succeeds, and the result holds the source's datum where the source has one and the target's elsewhere. -/
theorem update_union (ev : RawEval) (ow : Bool) {c d : Corr} (hT : c.Tref = d.Tref) (h0 : c.Tref ≠ 0)
    (hnd : (keys d.cp).Nodup)
    (hcp : ow = false → ∀ T v, dlookup T d.cp = some v → (dlookup T c.cp).isSome = true → dlookup T c.cp = some v)
    (hv : ValidP (keys d.cp ++ keys c.cp) c.Tref (unionRange c.range d.range))
    (hH : ∀ x, d.H = some x → mergeRef ow c.H x = .ok (some x)) (hS : ∀ x, d.S = some x → mergeRef ow c.S x = .ok (some x))
    (built : Bool) :
    ∃ r, update ev ⟨c, built⟩ d ow = (fresh r, none) ∧ r.H = pick d.H c.H ∧ r.S = pick d.S c.S ∧
      (∀ T, dlookup T r.cp = match dlookup T d.cp with | some v => some v | none => dlookup T c.cp) ∧
      r.Tref = c.Tref ∧ r.range = unionRange c.range d.range ∧ ((keys c.cp).Nodup → Valid r) := by
  obtain ⟨cp, hm, hlook⟩ := mergeCp_spec ow c.cp d.cp c.cp hnd hcp
  have hvalid : ValidP (keys cp) c.Tref (unionRange c.range d.range) := validP_of_mem_iff (fun T => (mem_keys_merged hlook T).symm) hv
  have hrefs := mergeRefs_at_ref ev ow hT (hT ▸ h0) (hT ▸ hvalid) hH hS
  exact ⟨⟨pick d.H c.H, pick d.S c.S, cp, c.Tref, unionRange c.range d.range⟩, by rw [update_eq, mergeData_ok hm hrefs hvalid],
    rfl, rfl, hlook, rfl, rfl, fun hn => ⟨hvalid, mergeCp_nodup ow c.cp d.cp c.cp cp hm hn⟩⟩

/-- with `overwrite` nothing is read-only: provided the union is consistent, the merge succeeds and every datum of the
source replaces the target's -/
theorem update_overwrite (ev : RawEval) {c d : Corr} (hT : c.Tref = d.Tref) (h0 : c.Tref ≠ 0)
    (hnd : (keys d.cp).Nodup) (hv : ValidP (keys d.cp ++ keys c.cp) c.Tref (unionRange c.range d.range)) (built : Bool) :
    ∃ r, update ev ⟨c, built⟩ d true = (fresh r, none) ∧ r.H = pick d.H c.H ∧ r.S = pick d.S c.S ∧
      (∀ T, dlookup T r.cp = match dlookup T d.cp with | some v => some v | none => dlookup T c.cp) ∧
      r.Tref = c.Tref ∧ r.range = unionRange c.range d.range := by
  obtain ⟨r, h1, h2, h3, h4, h5, h6, -⟩ := update_union ev true hT h0 hnd nofun hv
    (fun x _ => mergeRef_overwrite _ x) (fun x _ => mergeRef_overwrite _ x) built
  exact ⟨r, h1, h2, h3, h4, h5, h6⟩

/-! ### which data a correlation holds -/

theorem covers_self (a : Corr) : Covers [a] a := by
  refine ⟨?_, ?_, fun T => ?_, ?_⟩ <;> simp only [List.mem_singleton, exists_eq_left]

theorem covers_merge {Ea Eb : List Corr} {a b c : Corr} (ca : Covers Ea a) (cb : Covers Eb b)
    (hH : c.H = pick b.H a.H) (hS : c.S = pick b.S a.S)
    (hcp : ∀ T, dlookup T c.cp = match dlookup T b.cp with | some v => some v | none => dlookup T a.cp)
    (hr : c.range = unionRange a.range b.range) : Covers (Ea ++ Eb) c := by
  have ex : ∀ (P : Corr → Prop), ((∃ p ∈ Eb, P p) ∨ (∃ p ∈ Ea, P p)) ↔ ∃ p ∈ Ea ++ Eb, P p := fun P => by
    simp only [List.mem_append, or_and_right, exists_or, or_comm]
  refine ⟨?_, ?_, fun T => ?_, ?_⟩
  · rw [hH, pick_isSome, Bool.or_eq_true, cb.h, ca.h]; exact ex _
  · rw [hS, pick_isSome, Bool.or_eq_true, cb.s, ca.s]; exact ex _
  · have : (dlookup T c.cp).isSome = ((dlookup T b.cp).isSome || (dlookup T a.cp).isSome) := by
      rw [hcp T]; cases dlookup T b.cp <;> rfl
    rw [this, Bool.or_eq_true, cb.cp T, ca.cp T]; exact ex _
  · rw [hr, unionRange_isSome, Bool.or_eq_true, ca.range, cb.range, or_comm]; exact ex _

/-- **Merging a part into a part.**  Two consistent parts of one consistent whole (shared `T_ref ≠ 0`) merge without
error; the result is again a consistent part of the whole and holds a datum exactly when one of the two did. -/
theorem update_parts (ev : RawEval) {a b W : Corr} (hW : Valid W) (hT : W.Tref ≠ 0)
    (pa : PartOf a W) (pb : PartOf b W) (va : Valid a) (vb : Valid b) {Ea Eb : List Corr} (ca : Covers Ea a)
    (cb : Covers Eb b) :
    ∃ c, update ev (fresh a) b false = (fresh c, none) ∧ PartOf c W ∧ Valid c ∧ Covers (Ea ++ Eb) c := by
  have agree : ∀ {x y : Option Rat} {w : Option Rat}, (x = none ∨ x = w) → (y = none ∨ y = w) → ∀ v, y = some v →
      mergeRef false x v = .ok (some v) := fun hx hy v hv =>
    mergeRef_agree _ _ _ (hx.imp_right (·.trans (part_some hy hv)))
  obtain ⟨c, hc, hH, hS, hcp, hTc, hr, hv⟩ := update_union ev false (pa.tref.trans pb.tref.symm) (pa.tref ▸ hT) vb.nodup
    (fun _ T v hb ha => by
      obtain ⟨v', hv'⟩ := Option.isSome_iff_exists.mp ha
      rw [hv', ← pa.cp T v' hv', pb.cp T v hb])
    (pa.tref ▸ merged_validP hW pa pb va vb) (agree pa.h pb.h) (agree pa.s pb.s) (!a.cp.isEmpty)
  refine ⟨c, hc, ⟨hTc.trans pa.tref, hH ▸ pick_part pb.h pa.h, hS ▸ pick_part pb.s pa.s, fun T v hv => ?_, ?_⟩, hv va.nodup,
    covers_merge ca cb hH hS hcp hr⟩
  · rw [hcp T] at hv
    cases hb : dlookup T b.cp with
    | none => rw [hb] at hv; exact pa.cp T v hv
    | some vb' => rw [hb] at hv; cases hv; exact pb.cp T _ hb
  · rw [hr]
    rcases unionRange_parts pa pb with ⟨ha, hb⟩ | ⟨lo, hi, hWr, hu⟩
    · exact Or.inl (by rw [ha, hb]; rfl)
    · exact Or.inr (hu.trans hWr.symm)

/-- merging a consistent correlation into itself (with or without `overwrite`) changes nothing — not even the order of
its table -/
theorem update_self (ev : RawEval) {a : Corr} (va : Valid a) (hT : a.Tref ≠ 0) (ow : Bool) :
    update ev (fresh a) a ow = (fresh a, none) := by
  have hcp : mergeCp ow a.cp a.cp a.cp = .ok a.cp :=
    mergeCp_same ow a.cp a.cp a.cp fun T v hm => dlookup_of_mem_nodup va.nodup hm
  have hv : ValidP (keys a.cp) a.Tref (unionRange a.range a.range) := (unionRange_self a.range).symm ▸ va.ok
  have hrefs := mergeRefs_at_ref ev ow rfl hT hv (fun x hx => mergeRef_agree ow _ x (Or.inr hx))
    (fun x hx => mergeRef_agree ow _ x (Or.inr hx))
  rw [update_eq, show (fresh a).c = a from rfl, mergeData_ok hcp hrefs hv, pick_self, pick_self, unionRange_self]

/-! ### merging a list of parts -/

/-- merging any list of consistent parts of a consistent whole never fails; the result is a consistent part of the whole
that holds a datum exactly when the start or one of the merged parts did -/
theorem mergeAll_parts (ev : RawEval) {W : Corr} (hW : Valid W) (hT : W.Tref ≠ 0) :
    ∀ (ps : List Corr) (a : Corr) (done : List Corr), PartOf a W → Valid a → Covers done a →
      (∀ p ∈ ps, PartOf p W ∧ Valid p) →
      ∃ c, mergeAll ev (fresh a) ps = (fresh c, none) ∧ PartOf c W ∧ Valid c ∧ Covers (done ++ ps) c := by
  intro ps
  induction ps with
  | nil => exact fun a done pa va ca _ => ⟨a, rfl, pa, va, by rwa [List.append_nil]⟩
  | cons b ps ih =>
    intro a done pa va ca hps
    obtain ⟨pb, vb⟩ := hps b List.mem_cons_self
    obtain ⟨c, hc, pc, vc, cc⟩ := update_parts ev hW hT pa pb va vb ca (covers_self b)
    obtain ⟨c', hc', pc', vc', cc'⟩ := ih c (done ++ [b]) pc vc cc fun p hp => hps p (List.mem_cons_of_mem _ hp)
    exact ⟨c', by rw [mergeAll, hc]; exact hc', pc', vc', by rwa [← List.append_cons] at cc'⟩

theorem eq_of_parts {α : Type} {x y w : Option α} (hx : x = none ∨ x = w) (hy : y = none ∨ y = w)
    (h : x.isSome = true ↔ y.isSome = true) : x = y := by
  cases x with
  | none =>
    cases y with
    | none => rfl
    | some v => exact absurd (h.mpr rfl) nofun
  | some u =>
    cases y with
    | none => exact absurd (h.mp rfl) nofun
    | some v => exact (part_some hx rfl).symm.trans (part_some hy rfl)

/-- a part of `W` is determined, up to the order of its table, by which data it holds -/
theorem covers_unique {W c c' : Corr} {ps ps' : List Corr} (pc : PartOf c W) (pc' : PartOf c' W)
    (cc : Covers ps c) (cc' : Covers ps' c') (hmem : ∀ p, p ∈ ps ↔ p ∈ ps') : Same c c' := by
  have ex : ∀ (P : Corr → Prop), (∃ p ∈ ps, P p) ↔ (∃ p ∈ ps', P p) := fun P => by simp only [hmem]
  have part : ∀ {p : Corr}, PartOf p W → ∀ T, dlookup T p.cp = none ∨ dlookup T p.cp = dlookup T W.cp := @fun p pp T => by
    cases h : dlookup T p.cp with
    | none => exact Or.inl rfl
    | some v => exact Or.inr (pp.cp T v h).symm
  exact ⟨eq_of_parts pc.h pc'.h (by rw [cc.h, cc'.h]; exact ex _), eq_of_parts pc.s pc'.s (by rw [cc.s, cc'.s]; exact ex _),
    fun T => eq_of_parts (part pc T) (part pc' T) (by rw [cc.cp T, cc'.cp T]; exact ex _), pc.tref.trans pc'.tref.symm,
    eq_of_parts pc.range pc'.range (by rw [cc.range, cc'.range]; exact ex _)⟩

end PGA.Merge
