import Mathlib.Data.Rat.Floor
import Mathlib.Tactic.Linarith
import PGA.Model.Units
/-!
# The integer-snapping rule of `FundamentalUnits._build` and dimension arithmetic

`snap thr e` leaves `e` alone when `e` is an integer or farther than `thr` from every integer;
on such exponents `Dim.mul/div/pow` are plain addition, subtraction and scaling.
-/
namespace PGA.Units

theorem absR_eq_abs (x : Rat) : absR x = |x| := by
  unfold absR
  split
  · next h => exact (abs_of_neg h).symm
  · next h => exact (abs_of_nonneg (not_lt.mp h)).symm

theorem absR_nonneg (x : Rat) : 0 ≤ absR x := by
  rw [absR_eq_abs]; exact abs_nonneg x

theorem absR_zero : absR 0 = 0 := by
  rw [absR_eq_abs]; exact abs_zero

/-- an exponent less than one half from an integer has that integer as its nearest -/
theorem nearest_eq {e : Rat} {k : Int} (h : absR (e - k) < 1 / 2) : nearest e = k := by
  rw [absR_eq_abs, abs_lt] at h
  have h2 := (add_lt_add_iff_right (1 / 2)).mpr (sub_lt_iff_lt_add'.mp h.2)
  rw [add_assoc, add_halves] at h2
  have : ⌊e + 1 / 2⌋ = k := Int.floor_eq_iff.mpr ⟨(neg_lt_sub_iff_lt_add'.mp h.1).le, h2⟩
  exact congrArg Int.cast this

theorem isInt_intCast (k : Int) : isInt (k : Rat) = true := by
  simp [isInt]

theorem isInt_iff (e : Rat) : isInt e = true ↔ ∃ k : Int, e = k := by
  constructor
  · intro h
    exact ⟨e.num, (Rat.coe_int_num_of_den_eq_one (by simpa [isInt] using h)).symm⟩
  · rintro ⟨k, rfl⟩
    exact isInt_intCast k

/-- an exponent that `_build` leaves unchanged, stated without reference to `snap`: an integer, or
farther than the threshold from every integer -/
def Stable (thr : Rat) (e : Rat) : Prop := isInt e = true ∨ ∀ k : Int, thr < absR (e - k)

theorem snap_int (thr : Rat) (h : 0 ≤ thr) (k : Int) : snap thr (k : Rat) = k := by
  unfold snap
  have h0 : absR ((k : Rat) - k) = 0 := by rw [sub_self, absR_zero]
  rw [nearest_eq (k := k) (by rw [h0]; norm_num), h0, if_neg (not_lt.mpr h)]

theorem snap_stable {thr e : Rat} (h : 0 ≤ thr) (hs : Stable thr e) : snap thr e = e := by
  rcases hs with hi | hf
  · obtain ⟨k, rfl⟩ := (isInt_iff e).mp hi
    exact snap_int thr h k
  · exact if_pos (hf _)

/-- the result of `_build` is stable: building twice is building once -/
theorem snap_idem (thr : Rat) (h : 0 ≤ thr) (e : Rat) : snap thr (snap thr e) = snap thr e := by
  by_cases hc : thr < absR (e - nearest e)
  · have he : snap thr e = e := if_pos hc
    rw [he, he]
  · have he : snap thr e = nearest e := if_neg hc
    rw [he]
    exact snap_int thr h _

namespace Dim

@[ext] theorem ext' {a b : Dim} (h1 : a.m = b.m) (h2 : a.kg = b.kg) (h3 : a.s = b.s) (h4 : a.A = b.A)
    (h5 : a.K = b.K) (h6 : a.mol = b.mol) (h7 : a.cd = b.cd) : a = b := by
  cases a; cases b; simp_all

/-- every exponent satisfies `P` -/
def All (P : Rat → Prop) (d : Dim) : Prop := P d.m ∧ P d.kg ∧ P d.s ∧ P d.A ∧ P d.K ∧ P d.mol ∧ P d.cd

def add (a b : Dim) : Dim := zip (· + ·) a b
def sub (a b : Dim) : Dim := zip (· - ·) a b
def smul (x : Rat) (a : Dim) : Dim := a.map (x * ·)

theorem All.zip {P Q R : Rat → Prop} {f : Rat → Rat → Rat} (h : ∀ x y, P x → Q y → R (f x y)) {a b : Dim} :
    a.All P → b.All Q → (zip f a b).All R :=
  fun ⟨a1, a2, a3, a4, a5, a6, a7⟩ ⟨b1, b2, b3, b4, b5, b6, b7⟩ =>
    ⟨h _ _ a1 b1, h _ _ a2 b2, h _ _ a3 b3, h _ _ a4 b4, h _ _ a5 b5, h _ _ a6 b6, h _ _ a7 b7⟩

theorem map_eq_self {P : Rat → Prop} {f : Rat → Rat} (h : ∀ e, P e → f e = e) {d : Dim} : d.All P → d.map f = d :=
  fun ⟨h1, h2, h3, h4, h5, h6, h7⟩ => Dim.ext' (h _ h1) (h _ h2) (h _ h3) (h _ h4) (h _ h5) (h _ h6) (h _ h7)

theorem build_of_all_stable {thr : Rat} (h : 0 ≤ thr) {d : Dim} (hs : d.All (Stable thr)) : d.build thr = d :=
  map_eq_self (fun _ => snap_stable h) hs

theorem mul_of_stable {thr : Rat} (h : 0 ≤ thr) {a b : Dim} (hs : (add a b).All (Stable thr)) :
    Dim.mul thr a b = add a b := build_of_all_stable h hs

theorem div_of_stable {thr : Rat} (h : 0 ≤ thr) {a b : Dim} (hs : (sub a b).All (Stable thr)) :
    Dim.div thr a b = sub a b := build_of_all_stable h hs

theorem pow_of_stable {thr : Rat} (h : 0 ≤ thr) {a : Dim} {x : Rat} (hs : (smul x a).All (Stable thr)) :
    Dim.pow thr a x = smul x a := build_of_all_stable h hs

def Integral (d : Dim) : Prop := d.All (fun e => isInt e = true)

theorem Integral.stable {thr : Rat} {d : Dim} (h : d.Integral) : d.All (Stable thr) :=
  let ⟨h1, h2, h3, h4, h5, h6, h7⟩ := h
  ⟨.inl h1, .inl h2, .inl h3, .inl h4, .inl h5, .inl h6, .inl h7⟩

theorem isInt_add {a b : Rat} (ha : isInt a = true) (hb : isInt b = true) : isInt (a + b) = true := by
  obtain ⟨k, rfl⟩ := (isInt_iff a).mp ha
  obtain ⟨l, rfl⟩ := (isInt_iff b).mp hb
  rw [← Int.cast_add]; exact isInt_intCast _

theorem isInt_sub {a b : Rat} (ha : isInt a = true) (hb : isInt b = true) : isInt (a - b) = true := by
  obtain ⟨k, rfl⟩ := (isInt_iff a).mp ha
  obtain ⟨l, rfl⟩ := (isInt_iff b).mp hb
  rw [← Int.cast_sub]; exact isInt_intCast _

theorem isInt_mul {a b : Rat} (ha : isInt a = true) (hb : isInt b = true) : isInt (a * b) = true := by
  obtain ⟨k, rfl⟩ := (isInt_iff a).mp ha
  obtain ⟨l, rfl⟩ := (isInt_iff b).mp hb
  rw [← Int.cast_mul]; exact isInt_intCast _

theorem Integral.add {a b : Dim} (ha : a.Integral) (hb : b.Integral) : (Dim.add a b).Integral :=
  All.zip (fun _ _ => isInt_add) ha hb

theorem Integral.sub {a b : Dim} (ha : a.Integral) (hb : b.Integral) : (Dim.sub a b).Integral :=
  All.zip (fun _ _ => isInt_sub) ha hb

theorem Integral.smul {a : Dim} {x : Rat} (hx : isInt x = true) (ha : a.Integral) : (Dim.smul x a).Integral :=
  let ⟨a1, a2, a3, a4, a5, a6, a7⟩ := ha
  ⟨isInt_mul hx a1, isInt_mul hx a2, isInt_mul hx a3, isInt_mul hx a4, isInt_mul hx a5, isInt_mul hx a6, isInt_mul hx a7⟩

theorem integral_zero : Dim.zero.Integral :=
  ⟨rfl, rfl, rfl, rfl, rfl, rfl, rfl⟩

theorem build_integral {thr : Rat} (h : 0 ≤ thr) {d : Dim} (hd : d.Integral) : (d.build thr).Integral := by
  rw [build_of_all_stable h hd.stable]; exact hd

theorem sub_self (a : Dim) : Dim.sub a a = Dim.zero := by
  apply Dim.ext' <;> exact _root_.sub_self _

theorem add_zero (a : Dim) : Dim.add a Dim.zero = a := by
  apply Dim.ext' <;> exact _root_.add_zero _

theorem zero_add (a : Dim) : Dim.add Dim.zero a = a := by
  apply Dim.ext' <;> exact _root_.zero_add _

theorem isZero_iff (d : Dim) : d.isZero = true ↔ d = Dim.zero := by
  unfold isZero; exact beq_iff_eq

/-- `x / x` of any dimension has the null dimension, whatever the threshold (negative ones included: `0` is its own
nearest integer) -/
theorem div_self (thr : Rat) (a : Dim) : Dim.div thr a a = Dim.zero := by
  have h0 : snap thr 0 = 0 := by
    have hn : nearest 0 = (0 : Int) := nearest_eq (by rw [Int.cast_zero, _root_.sub_self, absR_zero]; norm_num)
    unfold snap; rw [hn, Int.cast_zero]; exact ite_self _
  unfold Dim.div Dim.build
  rw [show zip (· - ·) a a = Dim.zero from sub_self a]
  exact map_eq_self (P := (· = 0)) (fun _ he => he ▸ h0) ⟨rfl, rfl, rfl, rfl, rfl, rfl, rfl⟩

end Dim
end PGA.Units
