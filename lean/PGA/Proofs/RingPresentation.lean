import PGA.Spec.RingsSame
import PGA.Proofs.EmbedsMap
import PGA.Proofs.Aromatize
import PGA.Proofs.Decompose
import Mathlib.Data.List.Perm.Basic
/-! How the rings of a graph are *presented* — where each ring's atom list starts, which way round it runs, in which order
the rings are listed — does not matter to the matcher (`embeds_rings`), and matters to the Benson perception only
through the order of rings that share a bond (`aromatizeRings_same`).  Hence, under the guard, the decomposition's input
built from the graph with its rings presented differently is the original input relabelled by the identity
(`PGA.Decompose.toInput_rings_relabel`). -/
namespace PGA.Spec
open PGA PGA.Arom

/-- **A ring list whose rings are written differently** (same order of the rings; each ring rotated/reflected at will):
the perception gives the same molecule. -/
theorem aromatizeRings_equiv (rs rs' : List (List Nat)) (h : List.Forall₂ RingEquiv rs rs') (m : Mol) :
    aromatizeRings rs' m = aromatizeRings rs m := by
  induction h generalizing m with
  | nil => rfl
  | cons hr _ ih =>
    show aromatizeRings _ (aromStep m _) = aromatizeRings _ (aromStep m _)
    rw [aromStep_equiv m hr]
    exact ih _

/-- **the perception and the presentation of the rings** -/
theorem aromatizeRings_same (m : Mol) (rs rs' : List (List Nat)) (h : RingsSame rs rs') (hd : BondDisjointEligible m rs) :
    aromatizeRings rs' m = aromatizeRings rs m := by
  -- reorder first, where the guard is the one given, and rewrite the single rings afterwards, which needs none
  obtain ⟨rs₁, hp, he⟩ : Relation.Comp List.Perm (List.Forall₂ RingEquiv) rs rs' := by
    rw [← List.forall₂_comp_perm_eq_perm_comp_forall₂]; exact h
  rw [aromatizeRings_equiv rs₁ rs' he, aromatizeRings_perm m rs rs₁ hp hd]

/-! ### the matcher does not see the presentation -/
theorem RingsSame.exists_iff {rs rs' : List (List Nat)} (h : RingsSame rs rs') {P : List Nat → Prop}
    (hP : ∀ r r', RingEquiv r r' → (P r ↔ P r')) : (∃ r ∈ rs', P r) ↔ (∃ r ∈ rs, P r) := by
  obtain ⟨rs'', h1, h2⟩ := h
  simp only [← h2.mem_iff]
  clear h2
  induction h1 with
  | nil => rfl
  | cons hab _ ih => simp only [List.mem_cons, exists_eq_or_imp, hP _ _ hab, ih]

theorem RingsSame.forall_iff {rs rs' : List (List Nat)} (h : RingsSame rs rs') {P : List Nat → Prop}
    (hP : ∀ r r', RingEquiv r r' → (P r ↔ P r')) : (∀ r ∈ rs', P r) ↔ (∀ r ∈ rs, P r) := by
  simpa only [not_exists, not_and, not_not] using not_congr (h.exists_iff fun r r' hr => not_congr (hP r r' hr))

theorem RingsSame.filter_length {rs rs' : List (List Nat)} (h : RingsSame rs rs') (p : List Nat → Bool)
    (hp : ∀ r r', RingEquiv r r' → p r = p r') : (rs'.filter p).length = (rs.filter p).length := by
  obtain ⟨rs'', h1, h2⟩ := h
  rw [← (h2.filter p).length_eq]
  exact (List.rel_filter (fun r r' hr => by simp only [hp r r' hr]) h1).length_eq.symm

/-- presenting the rings of a well-formed graph differently is an `OpenMap` (with the identity on atoms) -/
theorem openMap_rings (m : Mol) (hm : m.wf = true) (rs' : List (List Nat)) (h : RingsSame m.rings rs') :
    OpenMap id m { m with rings := rs' } := by
  refine ⟨Function.injective_id, fun _ _ => rfl, ?_, ?_, fun _ _ => Iff.rfl, ?_, ?_, ?_⟩
  · intro x y _ _
    show m.bondBetween x y = (m.bondBetween x y).map (relabelBond id)
    rw [relabelBond_id, Option.map_id, id]
  · intro x y' e' _ hb
    obtain ⟨he', hj⟩ := bondBetween_some (m := m) hb
    obtain ⟨ha, hb2, _⟩ := (m.wf_iff.1 hm).1 e' he'
    refine ⟨y', ?_, rfl⟩
    rcases (joins_ends_eq _ _ _).1 hj with ⟨_, h2⟩ | ⟨h1, _⟩ <;> omega
  · intro x _
    exact h.exists_iff fun r r' hr => hr.perm.mem_iff
  · intro x _ cn
    exact h.exists_iff fun r r' hr => by rw [hr.perm.mem_iff, hr.perm.length_eq]
  · intro x _
    exact h.filter_length _ fun r r' hr => decide_eq_decide.2 hr.perm.mem_iff

theorem molPrefix_rings (m : Mol) (rs' : List (List Nat)) (h : RingsSame m.rings rs') (p : MolPrefix) :
    MolPrefixHolds { m with rings := rs' } p ↔ MolPrefixHolds m p := by
  have hnil : rs' = [] ↔ m.rings = [] := by
    obtain ⟨_, h1, h2⟩ := h
    rw [← List.length_eq_zero_iff, ← List.length_eq_zero_iff, ← h2.length_eq, h1.length_eq]
  cases p with
  | cyclic => exact not_congr hnil
  | linear => exact hnil
  | _ => exact Iff.rfl

/-- **the embeddings of a query do not depend on how the rings are presented** -/
theorem embeds_rings (m : Mol) (hm : m.wf = true) (rs' : List (List Nat)) (h : RingsSame m.rings rs') (q : Query)
    (f : List Nat) : Embeds q { m with rings := rs' } f ↔ Embeds q m f := by
  have key := fun hf => (openMap_rings m hm rs' h).embeds q f hf fun p _ => molPrefix_rings m rs' h p
  rw [List.map_id] at key
  exact ⟨fun E => (key E.range).1 E, fun E => (key E.range).2 E⟩

theorem wf_rings (m : Mol) (hm : m.wf = true) (rs' : List (List Nat)) (h : RingsSame m.rings rs') :
    ({ m with rings := rs' } : Mol).wf = true := by
  obtain ⟨h1, h2, h3⟩ := m.wf_iff.1 hm
  exact (Mol.wf_iff _).2 ⟨h1, h2,
    (h.forall_iff fun r r' hr => by simp only [hr.perm.nodup_iff, hr.perm.mem_iff]).2 h3⟩

end PGA.Spec

namespace PGA.Decompose
open PGA PGA.Spec PGA.Scheme PGA.Match PGA.Arom

theorem aromStep_with_rings (s : Mol) (R : List (List Nat)) (r : List Nat) :
    aromStep { s with rings := R } r = { aromStep s r with rings := R } := by
  unfold aromStep
  rw [eligible_congr (m := s) (m' := { s with rings := R }) (fun _ => rfl) fun _ _ => rfl]
  split <;> rfl

theorem aromatizeRings_rings (rs : List (List Nat)) (s : Mol) : (aromatizeRings rs s).rings = s.rings := by
  induction rs generalizing s with
  | nil => rfl
  | cons r rs ih =>
    show (aromatizeRings rs (aromStep s r)).rings = _
    rw [ih]
    unfold aromStep; split <;> rfl

/-- the perception on a graph whose ring list is replaced: same atoms and bonds as on the original graph with that list -/
theorem aromatizeRings_with_rings (rs : List (List Nat)) (s : Mol) (R : List (List Nat)) :
    aromatizeRings rs { s with rings := R } = { aromatizeRings rs s with rings := R } := by
  induction rs generalizing s with
  | nil => rfl
  | cons r rs ih =>
    show aromatizeRings rs (aromStep { s with rings := R } r) = _
    rw [aromStep_with_rings]
    exact ih _

/-- under the guard, aromatising the graph with its rings presented differently gives the aromatised graph with its rings
presented that way -/
theorem aromatizeBenson_rings (m : Mol) (rs' : List (List Nat)) (h : RingsSame m.rings rs') (hd : EligibleRingsBondDisjoint m) :
    aromatizeBenson { m with rings := rs' } = { aromatizeBenson m with rings := rs' } := by
  unfold aromatizeBenson
  show aromatizeRings rs' { m with rings := rs' } = _
  rw [aromatizeRings_with_rings, aromatizeRings_same m m.rings rs' h hd]

theorem declares_rings (S : SchemeDef) (a : Mol) (ha : a.wf = true) (rs' : List (List Nat)) (h : RingsSame a.rings rs')
    (inp : Input) (D : Declares S { a with rings := rs' } inp) : Declares S a inp := by
  refine ⟨D.n, D.nbrs, ?_, ?_, D.remaps⟩
  · refine D.centres.imp ?_
    intro c p ⟨h1, h2, h3⟩
    exact ⟨h1, h2, fun f => (h3 f).trans (embeds_rings a ha rs' h c.q f)⟩
  · refine D.descs.imp ?_
    intro d p ⟨h1, h3⟩
    exact ⟨h1, fun f => (h3 f).trans (embeds_rings a ha rs' h d.q f)⟩

theorem toInput_rings_relabel (S : SchemeDef) (a : Mol) (ha : a.wf = true) (rs' : List (List Nat)) (h : RingsSame a.rings rs')
    (hq : S.wf = true) (hs : S.noStar = true) (hcap : maxRaw S a < maxMatches)
    (hcap' : maxRaw S { a with rings := rs' } < maxMatches) :
    Relabel (toInput S a) (toInput S { a with rings := rs' }) id :=
  declares_relabel S a _ _ (toInput_declares S a ha hq hs hcap)
    (declares_rings S a ha rs' h _ (toInput_declares S _ (wf_rings a ha rs' h) hq hs hcap'))

end PGA.Decompose
