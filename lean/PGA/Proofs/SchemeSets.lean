import PGA.Proofs.Scheme
import Mathlib.Data.Finset.Card
import Mathlib.Data.Finset.Image
/-! The number of distinct atom sets among matches, as a cardinality. -/
namespace PGA.Scheme
open PGA

theorem mem_insertSorted (x y : Nat) (l : List Nat) : y ∈ insertSorted x l ↔ y = x ∨ y ∈ l := by
  induction l with
  | nil => simp [insertSorted]
  | cons z l ih =>
    rw [insertSorted]
    split
    · exact List.mem_cons
    · split
      · rename_i h; rw [beq_iff_eq.mp h, List.mem_cons, or_self_left]
      · rw [List.mem_cons, ih, List.mem_cons, or_left_comm]

theorem sorted_insertSorted (x : Nat) (l : List Nat) (h : l.Pairwise (· < ·)) :
    (insertSorted x l).Pairwise (· < ·) := by
  induction l with
  | nil => simp [insertSorted]
  | cons z l ih =>
    obtain ⟨hz, hl⟩ := List.pairwise_cons.mp h
    rw [insertSorted]
    split
    · rename_i hxz
      exact List.pairwise_cons.mpr ⟨fun a ha => (List.mem_cons.mp ha).elim (· ▸ hxz) fun ha => Nat.lt_trans hxz (hz a ha), h⟩
    · split
      · exact h
      · rename_i h1 h2
        refine List.pairwise_cons.mpr ⟨fun a ha => ?_, ih hl⟩
        rcases (mem_insertSorted x a l).mp ha with rfl | ha
        · exact Nat.lt_of_le_of_ne (Nat.not_lt.mp h1) (Ne.symm (by simpa using h2))
        · exact hz a ha

theorem mem_atomSet (m : Match) (y : Nat) : y ∈ atomSet m ↔ y ∈ m := by
  induction m with
  | nil => rfl
  | cons x m ih => rw [atomSet, List.foldr_cons, mem_insertSorted, ← atomSet, ih, List.mem_cons]

theorem sorted_atomSet (m : Match) : (atomSet m).Pairwise (· < ·) := by
  induction m with
  | nil => exact List.Pairwise.nil
  | cons x m ih => exact sorted_insertSorted x _ ih

/-- two matches have the same canonical atom list exactly when they cover the same set of atoms -/
theorem atomSet_eq_iff (m m' : Match) : atomSet m = atomSet m' ↔ ∀ y, y ∈ m ↔ y ∈ m' := by
  constructor
  · intro h y; rw [← mem_atomSet m, ← mem_atomSet m', h]
  · intro h
    have hn : ∀ m : Match, (atomSet m).Nodup := fun m => (sorted_atomSet m).imp Nat.ne_of_lt
    refine List.Perm.eq_of_pairwise (fun a b _ _ hab hba => absurd hab (Nat.lt_asymm hba))
      (sorted_atomSet m) (sorted_atomSet m') ((List.perm_ext_iff_of_nodup (hn m) (hn m')).mpr fun y => ?_)
    rw [mem_atomSet, mem_atomSet, h y]

theorem atomSet_toFinset (m : Match) : (atomSet m).toFinset = m.toFinset := by
  ext y; simp [mem_atomSet]

/-- **each correction descriptor counts the distinct sets of matched atoms** -/
theorem distinctSets_card (ms : List Match) :
    distinctSets ms = ((ms.map List.toFinset).toFinset).card := by
  have h2 : ((ms.map List.toFinset).toFinset) = ((ms.map atomSet).toFinset).image List.toFinset := by
    ext s
    simp only [List.mem_toFinset, List.mem_map, Finset.mem_image, exists_exists_and_eq_and, atomSet_toFinset]
  rw [distinctSets, ← List.toFinset_card_of_nodup (nodup_uniq _), h2, Finset.card_image_of_injOn]
  · congr 1; ext l; simp [mem_uniq]
  · simp only [Set.InjOn, List.coe_toFinset, Set.mem_setOf_eq, List.mem_map]
    rintro _ ⟨m, _, rfl⟩ _ ⟨m', _, rfl⟩ he
    rw [atomSet_eq_iff]
    intro y
    simpa [mem_atomSet] using congrArg (y ∈ ·) he

end PGA.Scheme
