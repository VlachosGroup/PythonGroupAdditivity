import PGA.Spec.UnitExpr
import PGA.Proofs.UnitsEval
/-!
# The parser reads back every rendered expression tree (any depth, any length)

`parseTokens (render e) = .ok (toTree e)` for every well-formed `SExpr`, by induction on the size of
the tree: a factor is read by `parse_factor` (a parenthesised one through the induction hypothesis
for its body), a left-nested chain is read by the `while` loop, which stops — by backtracking from a
failed `parse_factor` — exactly at the closing parenthesis or at the end of the input.
-/
namespace PGA.Units
open SExpr PGA.Chars

def pwTree (t : Tree) : Option PowLit → Tree
  | none => t
  | some p => .pow t p.lit.value

def mkBin (op : SOp) (a b : Tree) : Tree :=
  match op with
  | .over => .div a b
  | _ => .mul a b

/-- the syntax tree `parser.py` builds for the expression (wrappers elided) -/
def toTree : SExpr → Tree
  | .num n pw => pwTree (.num n.value) pw
  | .name s pw => pwTree (.name s) pw
  | .paren e pw => pwTree (toTree e) pw
  | .bin e op f => mkBin op (toTree e) (toTree f)

def depth : SExpr → Nat
  | .num _ _ => 0
  | .name _ _ => 0
  | .paren e _ => depth e + 1
  | .bin e _ f => max (depth e) (depth f)

def size : SExpr → Nat
  | .num _ _ => 1
  | .name _ _ => 1
  | .paren e _ => size e + 1
  | .bin e _ f => size e + size f + 1

/-- first factor and the following (operator, factor) items of a left-nested chain -/
def spine : SExpr → SExpr × List (SOp × SExpr)
  | .bin e op f => ((spine e).1, (spine e).2 ++ [(op, f)])
  | e => (e, [])

def renderItems : List (SOp × SExpr) → List Tok
  | [] => []
  | (op, f) :: rest => opToks op ++ (render f ++ renderItems rest)

def foldItems (acc : Tree) : List (SOp × SExpr) → Tree
  | [] => acc
  | (op, f) :: rest => foldItems (mkBin op acc (toTree f)) rest

theorem renderItems_append (a b : List (SOp × SExpr)) : renderItems (a ++ b) = renderItems a ++ renderItems b := by
  induction a with
  | nil => rfl
  | cons x a ih => obtain ⟨op, f⟩ := x; simp [renderItems, ih, List.append_assoc]

theorem foldItems_append (acc : Tree) (a b : List (SOp × SExpr)) :
    foldItems acc (a ++ b) = foldItems (foldItems acc a) b := by
  induction a generalizing acc with
  | nil => rfl
  | cons x a ih => obtain ⟨op, f⟩ := x; simp [foldItems, ih]

theorem spine_render (e : SExpr) : render e = render (spine e).1 ++ renderItems (spine e).2 := by
  induction e with
  | bin e op f ihe _ =>
    simp only [spine, render, renderItems_append, renderItems, List.append_nil]
    rw [ihe]; simp [List.append_assoc]
  | _ => simp [spine, renderItems]

theorem spine_tree (e : SExpr) : toTree e = foldItems (toTree (spine e).1) (spine e).2 := by
  induction e with
  | bin e op f ihe _ => simp only [spine, toTree, foldItems_append, foldItems]; rw [← ihe]
  | _ => simp [spine, foldItems]

/-- facts about the spine of a well-formed tree -/
theorem spine_facts (e : SExpr) (hwf : e.WF) :
    (spine e).1.isFactor = true ∧ (spine e).1.WF ∧ size (spine e).1 ≤ size e ∧ depth (spine e).1 ≤ depth e ∧
    (e.isFactor = false → size (spine e).1 < size e) ∧
    ∀ x ∈ (spine e).2, x.2.isFactor = true ∧ x.2.WF ∧ size x.2 < size e ∧ depth x.2 ≤ depth e := by
  induction e with
  | bin e op f ihe _ =>
    obtain ⟨hwe, hwf', hff⟩ := hwf
    obtain ⟨h1, h2, h3, h4, _, h6⟩ := ihe hwe
    have hs : size e < size (.bin e op f) := Nat.lt_succ_of_le (Nat.le_add_right _ _)
    refine ⟨h1, h2, (h3.trans_lt hs).le, h4.trans (Nat.le_max_left _ _), fun _ => h3.trans_lt hs, fun x hx => ?_⟩
    rcases List.mem_append.mp hx with hx | hx
    · obtain ⟨a, b, c, d⟩ := h6 x hx
      exact ⟨a, b, c.trans hs, d.trans (Nat.le_max_left _ _)⟩
    · rw [List.mem_singleton.mp hx]
      exact ⟨hff, hwf', Nat.lt_succ_of_le (Nat.le_add_left _ _), Nat.le_max_right _ _⟩
  | _ => exact ⟨rfl, hwf, Nat.le_refl _, Nat.le_refl _, fun h => Bool.noConfusion h, fun x hx => (List.not_mem_nil hx).elim⟩

/-! ## tokens that can start a factor, and what may follow one -/

def StartTok (t : Tok) : Prop := (∃ neg body, t = .num neg body) ∨ (∃ s, t = .word s) ∨ t = .sym '('

theorem StartTok.ne_sym {t : Tok} (h : StartTok t) {c : Char} (hc : c ≠ '(') : t ≠ .sym c := by
  rcases h with ⟨_, _, rfl⟩ | ⟨_, rfl⟩ | rfl
  · simp
  · simp
  · intro h'; injection h' with h'; exact hc h'.symm

theorem render_start (e : SExpr) : ∃ t r, render e = t :: r ∧ StartTok t := by
  induction e with
  | num n pw => exact ⟨_, _, rfl, Or.inl ⟨_, _, rfl⟩⟩
  | name s pw => exact ⟨_, _, rfl, Or.inr (Or.inl ⟨_, rfl⟩)⟩
  | paren e pw _ => exact ⟨_, _, rfl, Or.inr (Or.inr rfl)⟩
  | bin e op f ihe _ =>
    obtain ⟨t, r, h, hs⟩ := ihe
    exact ⟨t, r ++ (opToks op ++ render f), by simp [render, h], hs⟩

/-- the next token is not `^` -/
def NoCaret (tail : List Tok) : Prop := ∀ r, tail ≠ .sym '^' :: r

/-- end of input or a closing parenthesis -/
def Closing (tail : List Tok) : Prop := tail = [] ∨ ∃ r, tail = .sym ')' :: r

theorem Closing.noCaret {tail : List Tok} (h : Closing tail) : NoCaret tail := by
  intro r hr
  rcases h with rfl | ⟨r', rfl⟩
  · simp at hr
  · injection hr with h1 _; injection h1 with h1; revert h1; decide

theorem noCaret_items (items : List (SOp × SExpr)) (tail : List Tok) (h : Closing tail) :
    NoCaret (renderItems items ++ tail) := by
  cases items with
  | nil => simpa [renderItems] using h.noCaret
  | cons x rest =>
    obtain ⟨op, f⟩ := x
    obtain ⟨t, r, hr, hs⟩ := render_start f
    intro r' h'
    cases op <;> simp only [renderItems, opToks, hr, List.cons_append, List.nil_append] at h'
    · injection h' with h1 _; injection h1 with h1; revert h1; decide
    · injection h' with h1 _; injection h1 with h1; revert h1; decide
    · injection h' with h1 _; exact hs.ne_sym (by decide) h1

theorem items_length (items : List (SOp × SExpr)) : items.length ≤ (renderItems items).length := by
  induction items with
  | nil => simp
  | cons x rest ih =>
    obtain ⟨op, f⟩ := x
    obtain ⟨t, r, hr, _⟩ := render_start f
    simp only [renderItems, List.length_append, List.length_cons, hr]
    omega

/-! ## reading numbers, bases, factors -/

theorem numberOf_lit (n : NumLit) (h : n.WF) (rest : List Tok) : numberOf n.tok rest = .ok (n.value, rest) := by
  unfold numberOf NumLit.tok
  simp only [h.1, if_true]
  rw [if_neg (by intro hc; have := h.2; omega)]
  rfl

theorem parseNumber_pw (p : PowLit) (h : p.lit.WF) (tail : List Tok) :
    parseNumber ((if p.paren then [.sym '(', p.lit.tok, .sym ')'] else [p.lit.tok]) ++ tail) = .ok (p.lit.value, tail) := by
  cases hp : p.paren
  · simp only [Bool.false_eq_true, if_false, List.cons_append, List.nil_append, parseNumber]
    rw [if_neg (by simp [NumLit.tok])]
    exact numberOf_lit _ h _
  · simp only [if_true, List.cons_append, List.nil_append, parseNumber]
    exact numberOf_lit _ h _

theorem factor_of_base (pe : List Tok → PRes) (ts : List Tok) (left : Tree) (pw : Option PowLit) (tail : List Tok)
    (hb : parseBaseWith pe ts = .ok (left, renderPw pw ++ tail)) (hpw : pwWF pw) (hnc : NoCaret tail) :
    parseFactorWith pe ts = .ok (pwTree left pw, tail) := by
  unfold parseFactorWith
  rw [hb]
  cases pw with
  | none =>
    simp only [renderPw, List.nil_append, pwTree]
    cases tail with
    | nil => rfl
    | cons c r2 =>
      have : c ≠ .sym '^' := fun hc => hnc r2 (by rw [hc])
      simp [this]
  | some p =>
    simp only [renderPw, List.cons_append, pwTree, if_true]
    rw [parseNumber_pw p hpw tail]

theorem base_num (pe : List Tok → PRes) (n : NumLit) (h : n.WF) (r : List Tok) :
    parseBaseWith pe (n.tok :: r) = .ok (.num n.value, r) := by
  unfold parseBaseWith
  have h1 : n.tok ≠ .sym '(' := by simp [NumLit.tok]
  have h2 : n.tok.isNumber = true := by simp [NumLit.tok, Tok.isNumber, h.1]
  simp only [h1, if_false, h2, if_true, numberOf_lit n h r]

theorem base_name (pe : List Tok → PRes) (s : Name) (r : List Tok) :
    parseBaseWith pe (.word s :: r) = .ok (.name s, r) := by
  unfold parseBaseWith
  simp [Tok.isNumber, Tok.isAlpha, Tok.text]

theorem base_paren (pe : List Tok → PRes) (inner : List Tok) (te : Tree) (r : List Tok)
    (h : pe (inner ++ .sym ')' :: r) = .ok (te, .sym ')' :: r)) :
    parseBaseWith pe (.sym '(' :: (inner ++ .sym ')' :: r)) = .ok (te, r) := by
  unfold parseBaseWith
  simp [h]

theorem isAlpha_close : isAlphaChar ')' = false := by decide +kernel

theorem factor_close (pe : List Tok → PRes) (r : List Tok) :
    parseFactorWith pe (.sym ')' :: r) = .error .unitsParse := by
  unfold parseFactorWith parseBaseWith
  have h1 : (Tok.sym ')') ≠ .sym '(' := by decide
  simp [h1, Tok.isNumber, Tok.isAlpha, isAlpha_close, perr]

/-! ## the loop reads a chain of items and stops at the closing token -/

theorem loop_items (pf : List Tok → PRes) (hclose : ∀ r, pf (.sym ')' :: r) = .error .unitsParse) :
    ∀ (items : List (SOp × SExpr)) (acc : Tree) (n : Nat) (tail : List Tok),
      items.length < n → Closing tail →
      (∀ x ∈ items, ∀ tl, NoCaret tl → pf (render x.2 ++ tl) = .ok (toTree x.2, tl)) →
      parseLoopWith pf n acc (renderItems items ++ tail) = .ok (foldItems acc items, tail) := by
  intro items
  induction items with
  | nil =>
    intro acc n tail hn hc _
    obtain ⟨n, rfl⟩ : ∃ m, n = m + 1 := ⟨n - 1, by omega⟩
    rcases hc with rfl | ⟨r, rfl⟩
    · simp [renderItems, parseLoopWith, foldItems]
    · simp only [renderItems, List.nil_append, parseLoopWith, foldItems]
      have h1 : (Tok.sym ')') ≠ .sym '*' := by decide
      have h2 : (Tok.sym ')') ≠ .sym '/' := by decide
      simp only [h1, h2, if_false, hclose r]
  | cons x rest ih =>
    intro acc n tail hn hc hF
    obtain ⟨op, f⟩ := x
    obtain ⟨n, rfl⟩ : ∃ m, n = m + 1 := ⟨n - 1, by omega⟩
    have hlen : rest.length < n := by simp at hn; omega
    have hnc := noCaret_items rest tail hc
    have hf := hF (op, f) List.mem_cons_self (renderItems rest ++ tail) hnc
    have hrest := ih (mkBin op acc (toTree f)) n tail hlen hc (fun y hy => hF y (List.mem_cons_of_mem _ hy))
    cases op with
    | times =>
      simp only [renderItems, opToks, List.cons_append, List.nil_append, List.append_assoc, parseLoopWith, if_true]
      simp only [] at hf
      rw [hf]
      exact hrest
    | over =>
      have h1 : (Tok.sym '/') ≠ .sym '*' := by decide
      simp only [renderItems, opToks, List.cons_append, List.nil_append, List.append_assoc, parseLoopWith, h1,
        if_false, if_true]
      simp only [] at hf
      rw [hf]
      exact hrest
    | juxt =>
      obtain ⟨t, r, hr, hs⟩ := render_start f
      simp only [renderItems, opToks, List.nil_append, List.append_assoc] at hf ⊢
      rw [hr] at hf ⊢
      simp only [List.cons_append, parseLoopWith, hs.ne_sym (show '*' ≠ '(' by decide),
        hs.ne_sym (show '/' ≠ '(' by decide), if_false]
      simp only [List.cons_append] at hf
      rw [hf]
      exact hrest

/-! ## the main induction -/

def ReadsExpr (e : SExpr) : Prop :=
  ∀ d, depth e < d → ∀ tail, Closing tail → parseExpr d (render e ++ tail) = .ok (toTree e, tail)

def ReadsFactor (f : SExpr) : Prop :=
  ∀ d, depth f ≤ d → ∀ tail, NoCaret tail → parseFactorWith (parseExpr d) (render f ++ tail) = .ok (toTree f, tail)

theorem reads_factor_of (f : SExpr) (hf : f.isFactor = true) (hwf : f.WF)
    (ih : ∀ e, size e < size f → e.WF → ReadsExpr e) : ReadsFactor f := by
  intro d hd tail hnc
  cases f with
  | bin e op g => simp [isFactor] at hf
  | num n pw =>
    apply factor_of_base _ _ _ pw tail _ hwf.2 hnc
    simp only [render, List.cons_append]
    exact base_num _ n hwf.1 _
  | name s pw =>
    apply factor_of_base _ _ _ pw tail _ hwf hnc
    simp only [render, List.cons_append]
    exact base_name _ s _
  | paren e pw =>
    apply factor_of_base _ _ _ pw tail _ hwf.2 hnc
    simp only [render, List.cons_append, List.append_assoc]
    apply base_paren
    have := ih e (by simp [size]) hwf.1 d (by simp only [depth] at hd; omega) (.sym ')' :: (renderPw pw ++ tail))
      (Or.inr ⟨_, rfl⟩)
    exact this

theorem reads_expr_of (e : SExpr) (hwf : e.WF)
    (hF : ∀ f, size f ≤ size e → f.isFactor = true → f.WF → ReadsFactor f) : ReadsExpr e := by
  intro d hd tail hc
  obtain ⟨d, rfl⟩ : ∃ m, d = m + 1 := ⟨d - 1, by omega⟩
  obtain ⟨h1, h2, h3, h4, _, h6⟩ := spine_facts e hwf
  have hhead := hF _ h3 h1 h2 d (by omega) (renderItems (spine e).2 ++ tail) (noCaret_items _ _ hc)
  simp only [parseExpr]
  rw [spine_render e, List.append_assoc, hhead]
  simp only []
  rw [spine_tree e]
  apply loop_items _ (factor_close _)
  · have := items_length (spine e).2
    simp only [List.length_append]; omega
  · exact hc
  · intro x hx tl hnc
    obtain ⟨a, b, c, dd⟩ := h6 x hx
    exact hF x.2 (by omega) a b d (by omega) tl hnc

theorem reads_all : ∀ (n : Nat) (e : SExpr), size e ≤ n → e.WF →
    ReadsExpr e ∧ (e.isFactor = true → ReadsFactor e) := by
  intro n
  induction n with
  | zero =>
    intro e h
    cases e <;> simp [size] at h
  | succ n ih =>
    intro e hsz hwf
    have hfac : ∀ f, size f ≤ size e → f.isFactor = true → f.WF → ReadsFactor f := by
      intro f hsf hff hwff
      exact reads_factor_of f hff hwff (fun e' he' hwe' => (ih e' (by omega) hwe').1)
    exact ⟨reads_expr_of e hwf hfac, fun hf => hfac e (Nat.le_refl _) hf hwf⟩

theorem depth_lt_length (e : SExpr) : depth e < (render e).length := by
  induction e with
  | paren e pw ih => simp only [depth, render, List.length_cons, List.length_append]; omega
  | bin e op f ihe ihf => simp only [depth, render, List.length_append]; omega
  | _ => exact Nat.succ_pos _

/-- the parser reads back every well-formed expression tree -/
theorem parseTokens_render (e : SExpr) (hwf : e.WF) : parseTokens (render e) = .ok (toTree e) := by
  have h := (reads_all (size e) e (Nat.le_refl _) hwf).1 ((render e).length + 1)
    (by have := depth_lt_length e; omega) [] (Or.inl rfl)
  simp only [List.append_nil] at h
  simp [parseTokens, h]

end PGA.Units
