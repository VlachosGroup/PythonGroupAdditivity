import PGA.Props.C04
/-! Which *names* a decomposition lists (not only which counts it gives them): `GroupLibrary.Estimate` looks every
listed name up — a name listed with the count 0 must still have data — so the composition theorems need the key set
of the dictionary `GetDescriptors` returns, under a renumbering (C03) and for a disjoint union (C04). -/
namespace PGA.Scheme
open PGA

/-! ### the dictionary operations -/

theorem mem_keys_countGroups (a : Assign) (nbrs : List (List Nat)) (is : List Nat) (c : Counts) (t : String) :
    t ∈ Counts.keys (countGroups a nbrs is c) ↔ t ∈ Counts.keys c ∨ ∃ i ∈ is, groupName a nbrs i = some t := by
  induction is generalizing c with
  | nil => simp [countGroups]
  | cons i is ih =>
    unfold countGroups
    cases hg : groupName a nbrs i with
    | none => simp only [ih, List.mem_cons, exists_eq_or_imp, hg, reduceCtorEq, false_or]
    | some g => simp only [ih, Counts.mem_keys_add, List.mem_cons, exists_eq_or_imp, hg, Option.some.injEq, eq_comm (a := g),
        or_assoc, or_left_comm (a := t = g)]

/-- a name is listed by the group loop exactly when some atom contributes it -/
theorem mem_keys_countGroups_iff_count (a : Assign) (nbrs : List (List Nat)) (is : List Nat) (t : String) :
    t ∈ Counts.keys (countGroups a nbrs is []) ↔
      (is.filter fun i => decide (groupName a nbrs i = some t)).length ≠ 0 := by
  rw [mem_keys_countGroups]
  simp only [Counts.keys, List.map_nil, List.not_mem_nil, false_or, ne_eq, List.length_eq_zero_iff,
    List.filter_eq_nil_iff, decide_eq_true_eq, not_forall, Classical.not_not]
  constructor
  · rintro ⟨i, hi, h⟩; exact ⟨i, hi, h⟩
  · rintro ⟨i, hi, h⟩; exact ⟨i, hi, h⟩

theorem mem_keys_countDescs (ds : List DescPat) (c : Counts) (t : String) (h : t ∈ Counts.keys (countDescs ds c)) :
    t ∈ Counts.keys c ∨ ∃ d ∈ ds, d.name = t := by
  induction ds generalizing c with
  | nil => exact Or.inl (by simpa [countDescs] using h)
  | cons d ds ih =>
    unfold countDescs at h
    simp only at h
    split at h
    · rcases ih c h with h' | ⟨d', hd', e⟩
      · exact Or.inl h'
      · exact Or.inr ⟨d', List.mem_cons_of_mem _ hd', e⟩
    · rcases ih _ h with h' | ⟨d', hd', e⟩
      · rcases (Counts.mem_keys_add c d.name t _).mp h' with e | h''
        · exact Or.inr ⟨d, List.mem_cons_self, e.symm⟩
        · exact Or.inl h''
      · exact Or.inr ⟨d', List.mem_cons_of_mem _ hd', e⟩

/-- `d[k] = v` keeps the list of keys when `k` is one of them and appends it otherwise -/
theorem Counts.keys_set (c : Counts) (k : String) (v : Rat) :
    Counts.keys (c.set k v) = if k ∈ Counts.keys c then Counts.keys c else Counts.keys c ++ [k] := by
  induction c with
  | nil => rfl
  | cons p c ih =>
    unfold Counts.set
    by_cases h0 : p.1 = k
    · rw [if_pos h0, if_pos (by rw [← h0]; exact List.mem_cons_self)]
      rfl
    · have : k ∈ Counts.keys (p :: c) ↔ k ∈ Counts.keys c := by simp [Counts.keys, Ne.symm h0]
      rw [if_neg h0, if_congr this rfl rfl]
      show p.1 :: Counts.keys (Counts.set c k v) = _
      rw [ih]
      split <;> rfl

theorem Counts.mem_keys_set (c : Counts) (k x : String) (v : Rat) :
    x ∈ Counts.keys (c.set k v) ↔ x = k ∨ x ∈ Counts.keys c := by
  rw [Counts.keys_set]
  split
  · exact ⟨Or.inr, fun h => h.elim (fun e => e ▸ ‹_›) id⟩
  · rw [List.mem_append, List.mem_singleton, or_comm]

theorem Counts.nodup_set (c : Counts) (k : String) (v : Rat) (h : (Counts.keys c).Nodup) :
    (Counts.keys (c.set k v)).Nodup := by
  rw [Counts.keys_set]
  split
  · exact h
  · rw [List.nodup_append]
    exact ⟨h, List.nodup_singleton k, fun a ha b hb => by rw [List.mem_singleton.mp hb]; rintro rfl; contradiction⟩

/-- `all = groups.copy(); all.update(descs)` lists the names of both -/
theorem mem_keys_mergeUpdate (g d : Counts) (t : String) :
    t ∈ Counts.keys (mergeUpdate g d) ↔ t ∈ Counts.keys g ∨ t ∈ Counts.keys d := by
  induction d generalizing g with
  | nil => simp [mergeUpdate, Counts.keys]
  | cons p d ih =>
    show t ∈ Counts.keys (mergeUpdate (g.set p.1 p.2) d) ↔ t ∈ Counts.keys g ∨ t ∈ p.1 :: Counts.keys d
    rw [ih, Counts.mem_keys_set, List.mem_cons, or_comm (a := t = p.1), or_assoc]

theorem nodup_mergeUpdate (g d : Counts) (hg : (Counts.keys g).Nodup) : (Counts.keys (mergeUpdate g d)).Nodup := by
  induction d generalizing g with
  | nil => simpa [mergeUpdate]
  | cons p d ih =>
    obtain ⟨k, v⟩ := p
    simp only [mergeUpdate]
    exact ih _ (Counts.nodup_set g k v hg)

/-! ### the dictionary `GetDescriptors` returns -/

theorem nodup_keys_nil : (Counts.keys ([] : Counts)).Nodup := List.nodup_nil

theorem getDescriptors_ok (inp : Input) (res : Counts) (hr : getDescriptors inp = .ok res) :
    ∃ a, assignCentres inp = .ok a ∧ res = mergeUpdate (groupsOf inp a) (descsOf inp) := by
  unfold getDescriptors at hr
  cases ha : assignCentres inp with
  | error e => simp [ha] at hr
  | ok a =>
    simp only [ha, Except.ok.injEq] at hr
    exact ⟨a, rfl, hr.symm⟩

/-- it is a dictionary: no name twice -/
theorem getDescriptors_nodup (inp : Input) (res : Counts) (hr : getDescriptors inp = .ok res) :
    (Counts.keys res).Nodup := by
  obtain ⟨a, _, rfl⟩ := getDescriptors_ok inp res hr
  exact nodup_mergeUpdate _ _ (remapAll_nodup _ _ (countGroups_nodup _ _ _ _ nodup_keys_nil))

theorem getDescriptors_keys (inp : Input) (res : Counts) (hr : getDescriptors inp = .ok res) :
    ∃ a, assignCentres inp = .ok a ∧
      ∀ t, t ∈ Counts.keys res ↔ t ∈ Counts.keys (groupsOf inp a) ∨ t ∈ Counts.keys (descsOf inp) := by
  obtain ⟨a, ha, rfl⟩ := getDescriptors_ok inp res hr
  exact ⟨a, ha, mem_keys_mergeUpdate _ _⟩

/-! ### renumbering (C03) -/

/-- **the names listed do not depend on the numbering of the atoms** -/
theorem descriptors_relabel_keys {inp inp' : Input} {π : Nat → Nat} (R : Relabel inp inp' π) (hcf : ChainFree inp.remaps)
    (res res' : Counts) (hr : getDescriptors inp = .ok res) (hr' : getDescriptors inp' = .ok res') (t : String) :
    t ∈ Counts.keys res' ↔ t ∈ Counts.keys res := by
  obtain ⟨a, ha, hk⟩ := getDescriptors_keys inp res hr
  obtain ⟨a', ha', hk'⟩ := getDescriptors_keys inp' res' hr'
  have hg : t ∈ Counts.keys (groupsOf inp' a') ↔ t ∈ Counts.keys (groupsOf inp a) := by
    unfold groupsOf
    rw [R.remaps, mem_keys_remapAll _ hcf _ (countGroups_nodup _ _ _ _ nodup_keys_nil),
      mem_keys_remapAll _ hcf _ (countGroups_nodup _ _ _ _ nodup_keys_nil)]
    simp only [mem_keys_countGroups_iff_count, groupCount_relabel R a a' ha ha']
  have hd : descsOf inp' = descsOf inp := by
    unfold descsOf
    rw [countDescs_relabel_aux R.inj _ _ R.descs [], R.remaps]
  rw [hk, hk', hg, hd]

/-! ### disjoint union (C04) -/

/-- **the names listed for a disjoint union are those listed for either part** (no hypothesis on the separation of group
and correction-descriptor names is needed for the names, only for the counts) -/
theorem descriptors_union_keys {A B : Input} (hs : SameScheme A B) (hA : WF A) (hB : WF B) (hcf : ChainFree A.remaps)
    (rU rA rB : Counts) (hU : getDescriptors (union A B) = .ok rU) (hrA : getDescriptors A = .ok rA)
    (hrB : getDescriptors B = .ok rB) (t : String) :
    t ∈ Counts.keys rU ↔ t ∈ Counts.keys rA ∨ t ∈ Counts.keys rB := by
  obtain ⟨u, hu, hkU⟩ := getDescriptors_keys _ rU hU
  obtain ⟨a, ha, hkA⟩ := getDescriptors_keys _ rA hrA
  obtain ⟨b, hb, hkB⟩ := getDescriptors_keys _ rB hrB
  -- the union's remap table is `A`'s, and so is `B`'s
  have hdk : t ∈ Counts.keys (descsOf (union A B)) ↔ t ∈ Counts.keys (descsOf A) ∨ t ∈ Counts.keys (descsOf B) := by
    unfold descsOf
    rw [hs.remaps]
    exact mem_keys_remapAll_union A.remaps hcf _ _ _ (countDescs_nodup _ [] nodup_keys_nil) (countDescs_nodup _ [] nodup_keys_nil)
      (countDescs_nodup _ [] nodup_keys_nil)
      (countDescs_union_aux A.n A.descs B.descs hs.descs hA.desc_lt (fun d hd m hm => (hB.desc_lt d hd m hm).1) [] [] []
        (fun _ => (add_zero _).symm) (fun _ => (or_self_iff).symm)).2 t
  have hgk : t ∈ Counts.keys (groupsOf (union A B) u) ↔ t ∈ Counts.keys (groupsOf A a) ∨ t ∈ Counts.keys (groupsOf B b) := by
    unfold groupsOf
    rw [hs.remaps]
    apply mem_keys_remapAll_union A.remaps hcf _ _ _ (countGroups_nodup _ _ _ _ nodup_keys_nil)
      (countGroups_nodup _ _ _ _ nodup_keys_nil) (countGroups_nodup _ _ _ _ nodup_keys_nil)
    intro g
    rw [mem_keys_countGroups_iff_count, mem_keys_countGroups_iff_count, mem_keys_countGroups_iff_count,
      groupCount_union hs hA u a b hu ha hb g, ne_eq, Nat.add_eq_zero_iff, not_and_or]
  rw [hkU, hkA, hkB, hgk, hdk, or_or_or_comm]

end PGA.Scheme

/-! ## end to end: `decompose` -/
namespace PGA.Decompose
open PGA PGA.Spec PGA.Scheme PGA.Match

theorem decompose_nodup {S : SchemeDef} {m : Mol} {res : Counts} (h : decompose S m = .ok res) :
    (Counts.keys res).Nodup := getDescriptors_nodup _ res h

/-- **C03, names**: the decomposition of a renumbered graph lists the same names -/
theorem decompose_relabel_keys (S : SchemeDef) {π : Nat → Nat} {m m' : Mol} (iso : MolIso π m m')
    (hm : m.wf = true) (hq : S.wf = true) (hs : S.noStar = true)
    (hcap : maxRaw S (aromatizeBenson m) < maxMatches) (hcap' : maxRaw S (aromatizeBenson m') < maxMatches)
    (hcf : ChainFree S.remaps) (res res' : Counts) (h : decompose S m = .ok res) (h' : decompose S m' = .ok res') (t : String) :
    t ∈ Counts.keys res' ↔ t ∈ Counts.keys res := by
  have hm' := iso.wf hm
  have R := toInput_relabel S (iso.aromatizeBenson hm hm') (wf_aromatizeBenson m hm) (wf_aromatizeBenson m' hm') hq hs hcap hcap'
  exact descriptors_relabel_keys R hcf res res' h h' t

/-- **C03, names, presentation of the rings**: under the guard of `C03_decompose_ring_presentation_partial` the decomposition
lists the same names however the rings are presented -/
theorem decompose_ring_presentation_keys (S : SchemeDef) (m : Mol) (rs' : List (List Nat))
    (h : RingsSame m.rings rs') (hd : EligibleRingsBondDisjoint m)
    (hm : m.wf = true) (hq : S.wf = true) (hs : S.noStar = true)
    (hcap : maxRaw S (aromatizeBenson m) < maxMatches)
    (hcap' : maxRaw S { aromatizeBenson m with rings := rs' } < maxMatches) (hcf : ChainFree S.remaps)
    (res res' : Counts) (h1 : decompose S m = .ok res) (h2 : decompose S { m with rings := rs' } = .ok res') (t : String) :
    t ∈ Counts.keys res' ↔ t ∈ Counts.keys res := by
  have ha := wf_aromatizeBenson m hm
  have hr : RingsSame (aromatizeBenson m).rings rs' := by
    have : (aromatizeBenson m).rings = m.rings := aromatizeRings_rings m.rings m
    rw [this]; exact h
  have R := toInput_rings_relabel S (aromatizeBenson m) ha rs' hr hq hs hcap hcap'
  unfold decompose at h2
  rw [aromatizeBenson_rings m rs' h hd] at h2
  exact descriptors_relabel_keys R hcf res res' h1 h2 t

/-- **C04, names**: the decomposition of `A ⊔ B` lists exactly the names listed for `A` or for `B` -/
theorem decompose_union_keys (S : SchemeDef) (A B : Mol) (hA : A.wf = true) (hB : B.wf = true)
    (hq : S.wf = true) (hs : S.noStar = true) (hmp : S.noMolPrefix = true) (hcn : S.connected = true)
    (capa : maxRaw S (aromatizeBenson A) < maxMatches) (capb : maxRaw S (aromatizeBenson B) < maxMatches)
    (capu : maxRaw S ((aromatizeBenson A).union (aromatizeBenson B)) < maxMatches)
    (hcf : ChainFree S.remaps) (rU rA rB : Counts)
    (hU : decompose S (A.union B) = .ok rU) (hrA : decompose S A = .ok rA) (hrB : decompose S B = .ok rB) (t : String) :
    t ∈ Counts.keys rU ↔ t ∈ Counts.keys rA ∨ t ∈ Counts.keys rB := by
  have ha := wf_aromatizeBenson A hA
  have hb := wf_aromatizeBenson B hB
  have R := toInput_union_relabel S _ _ ha hb hq hs hmp hcn capa capb capu
  have hss := sameScheme_toInput S (aromatizeBenson A) (aromatizeBenson B)
  have wA := wF_toInput S _ ha hq hs hcn capa
  have wB := wF_toInput S _ hb hq hs hcn capb
  have hdec : decompose S (A.union B) = getDescriptors (toInput S ((aromatizeBenson A).union (aromatizeBenson B))) := by
    unfold decompose; rw [aromatizeBenson_union A B hA hB]
  rw [hdec] at hU
  have hcfA : ChainFree (toInput S (aromatizeBenson A)).remaps := hcf
  cases hu' : getDescriptors (Scheme.union (toInput S (aromatizeBenson A)) (toInput S (aromatizeBenson B))) with
  | error e =>
    cases e
    have Rl := PGA.Scheme.C03_descriptors_relabel R (show ChainFree (Scheme.union _ _).remaps from hcf)
    have := Rl.1.2 hu'
    rw [hU] at this; cases this
  | ok rU' =>
    rw [descriptors_relabel_keys R (show ChainFree (Scheme.union _ _).remaps from hcf) rU' rU hu' hU t]
    exact descriptors_union_keys hss wA wB hcfA rU' rA rB hu' hrA hrB t

end PGA.Decompose
