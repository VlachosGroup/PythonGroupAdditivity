import PGA.Spec.Estimate
import Mathlib.Tactic.Ring
import Mathlib.Tactic.Linarith
import Mathlib.Algebra.BigOperators.Group.List.Basic
import Mathlib.Algebra.Order.Field.Rat
/-! Helper lemmas for C01 / C07 / C20 (model `PGA.Model.Estimate`), in the order of the model:
the weighted sum `wsum` (value: every term has the datum and the value is `specSum`; error: the first term without it);
`Estimate` stage by stage (`collect` ↔ `Terms` ↔ the mapping with each descriptor replaced by its correlation, `finish`,
the uncertainty block, `construct`, `estimate` itself: one iff for success and one for the three ways of failing);
reorderings of the mapping; the common range; the getters that are computed from two others (`seq_ok_iff`);
the estimate as the sum `specEstimate`. -/
namespace PGA.Estimate

/-! ### the weighted sum -/

theorem valD_ok {get : Corr → Val} {c : Corr} {w : Rat} (h : get c = .ok w) : valD get c = w := by
  simp [valD, h]
theorem allOk_cons {get : Corr → Val} {p : Corr × Rat} {cs : List (Corr × Rat)} :
    AllOk get (p :: cs) ↔ (∃ w, get p.1 = .ok w) ∧ AllOk get cs := List.forall_mem_cons

theorem specSum_cons (get : Corr → Val) (p : Corr × Rat) (cs : List (Corr × Rat)) :
    specSum get (p :: cs) = p.2 * valD get p.1 + specSum get cs := rfl

theorem wsumFrom_ok_iff (get : Corr → Val) (cs : List (Corr × Rat)) (acc v : Rat) :
    wsumFrom get acc cs = .ok v ↔ AllOk get cs ∧ v = acc + specSum get cs := by
  induction cs generalizing acc with
  | nil => simp [wsumFrom, AllOk, specSum, eq_comm]
  | cons p rest ih =>
    obtain ⟨c, n⟩ := p
    rw [wsumFrom, allOk_cons, specSum_cons]
    cases hg : get c with
    | error e => simp
    | ok w => simp [ih, valD_ok hg, add_assoc]

theorem wsum_ok_iff (get : Corr → Val) (cs : List (Corr × Rat)) (v : Rat) :
    wsum get cs = .ok v ↔ AllOk get cs ∧ v = specSum get cs := by
  rw [wsum, wsumFrom_ok_iff, zero_add]

/-- "the first element that is not `ok` is `bad`", one element peeled off -/
theorem firstBad_cons {α : Type} (ok bad : α → Prop) (x : α) (l : List α) :
    (∃ pre y post, x :: l = pre ++ y :: post ∧ (∀ z ∈ pre, ok z) ∧ bad y) ↔
      bad x ∨ ok x ∧ ∃ pre y post, l = pre ++ y :: post ∧ (∀ z ∈ pre, ok z) ∧ bad y := by
  constructor
  · rintro ⟨_ | ⟨z, pre⟩, y, post, h, hpre, hy⟩
    · cases h; exact Or.inl hy
    · cases h
      exact Or.inr ⟨hpre _ List.mem_cons_self, pre, y, post, rfl, fun z hz => hpre z (List.mem_cons_of_mem _ hz), hy⟩
  · rintro (hx | ⟨hx, pre, y, post, rfl, hpre, hy⟩)
    · exact ⟨[], x, l, rfl, by simp, hx⟩
    · exact ⟨x :: pre, y, post, rfl, List.forall_mem_cons.mpr ⟨hx, hpre⟩, hy⟩

theorem firstBad_map {α β : Type} (f : α → β) (ok bad : β → Prop) (l : List α) :
    (∃ pre y post, l.map f = pre ++ y :: post ∧ (∀ z ∈ pre, ok z) ∧ bad y) ↔
      ∃ pre y post, l = pre ++ y :: post ∧ (∀ z ∈ pre, ok (f z)) ∧ bad (f y) := by
  induction l with
  | nil => exact ⟨fun ⟨pre, _, _, h, _⟩ => (by cases pre <;> cases h), fun ⟨pre, _, _, h, _⟩ => by cases pre <;> cases h⟩
  | cons x l ih => rw [List.map_cons, firstBad_cons, firstBad_cons (fun z => ok (f z)) (fun z => bad (f z)), ih]

theorem wsumFrom_error_iff (get : Corr → Val) (cs : List (Corr × Rat)) (acc : Rat) (e : Err) :
    wsumFrom get acc cs = .error e ↔
      ∃ pre p post, cs = pre ++ p :: post ∧ AllOk get pre ∧ get p.1 = .error e := by
  induction cs generalizing acc with
  | nil => exact ⟨nofun, fun ⟨pre, _, _, h, _⟩ => by cases pre <;> cases h⟩
  | cons p rest ih =>
    obtain ⟨c, n⟩ := p
    refine Iff.trans ?_ (firstBad_cons (fun p : Corr × Rat => ∃ w, get p.1 = .ok w) (fun p => get p.1 = .error e) _ _).symm
    rw [wsumFrom]
    cases get c with
    | error e' => exact ⟨Or.inl, fun h => h.elim id nofun⟩
    | ok w => exact (ih _).trans ⟨fun h => Or.inr ⟨⟨w, rfl⟩, h⟩, fun h => h.elim nofun (·.2)⟩
theorem wsum_error_iff (get : Corr → Val) (cs : List (Corr × Rat)) (e : Err) :
    wsum get cs = .error e ↔ ∃ pre p post, cs = pre ++ p :: post ∧ AllOk get pre ∧ get p.1 = .error e :=
  wsumFrom_error_iff get cs 0 e

theorem allOk_append {get : Corr → Val} {a b : List (Corr × Rat)} :
    AllOk get (a ++ b) ↔ AllOk get a ∧ AllOk get b := List.forall_mem_append

theorem specSum_append (get : Corr → Val) (a b : List (Corr × Rat)) :
    specSum get (a ++ b) = specSum get a + specSum get b := by
  simp [specSum]

theorem allOk_perm {get : Corr → Val} {a b : List (Corr × Rat)} (h : a.Perm b) : AllOk get a ↔ AllOk get b := by
  simp only [AllOk, h.mem_iff]

theorem specSum_perm (get : Corr → Val) {a b : List (Corr × Rat)} (h : a.Perm b) : specSum get a = specSum get b :=
  (h.map _).sum_eq

theorem wsum_perm (get : Corr → Val) {a b : List (Corr × Rat)} (h : a.Perm b) (v : Rat) :
    wsum get a = .ok v ↔ wsum get b = .ok v := by
  rw [wsum_ok_iff, wsum_ok_iff, allOk_perm h, specSum_perm get h]

theorem wsum_append (get : Corr → Val) (a b : List (Corr × Rat)) (v : Rat) :
    wsum get (a ++ b) = .ok v ↔ ∃ va vb, wsum get a = .ok va ∧ wsum get b = .ok vb ∧ v = va + vb := by
  simp only [wsum_ok_iff, allOk_append, specSum_append]
  constructor
  · rintro ⟨⟨ha, hb⟩, rfl⟩; exact ⟨_, _, ⟨ha, rfl⟩, ⟨hb, rfl⟩, rfl⟩
  · rintro ⟨va, vb, ⟨ha, rfl⟩, ⟨hb, rfl⟩, rfl⟩; exact ⟨⟨ha, hb⟩, rfl⟩

theorem sum_map_mul_left {α : Type} (k : Rat) (f : α → Rat) (l : List α) :
    (l.map fun x => k * f x).sum = k * (l.map f).sum := by
  induction l with
  | nil => simp
  | cons x l ih => simp only [List.map_cons, List.sum_cons, ih, mul_add]

theorem specSum_scale (get : Corr → Val) (k : Rat) (cs : List (Corr × Rat)) :
    specSum get (cs.map fun p => (p.1, k * p.2)) = k * specSum get cs := by
  simp only [specSum, List.map_map, ← sum_map_mul_left, Function.comp_def, mul_assoc]

theorem allOk_scale {get : Corr → Val} (k : Rat) (cs : List (Corr × Rat)) :
    AllOk get (cs.map fun p => (p.1, k * p.2)) ↔ AllOk get cs := List.forall_mem_map

theorem wsum_scale (get : Corr → Val) (k : Rat) (cs : List (Corr × Rat)) (v : Rat) (h : wsum get cs = .ok v) :
    wsum get (cs.map fun p => (p.1, k * p.2)) = .ok (k * v) := by
  rw [wsum_ok_iff] at h ⊢
  rw [allOk_scale, specSum_scale, h.2]
  exact ⟨h.1, rfl⟩

/-! ### `Estimate`: the check, the terms -/
section
variable {N S : Type} [DecidableEq N] [DecidableEq S]

theorem missingGroups_eq_spec (lib : Library N S) (s : S) (gs : List (N × Rat)) :
    missingGroups lib s gs = specMissing lib s gs := by
  unfold missingGroups specMissing
  rw [List.filter_map]
  congr 1
  apply List.filter_congr
  intro g _
  simp [Library.hasSet, corrOf, Function.comp]

theorem specMissing_nil_iff (lib : Library N S) (s : S) (gs : List (N × Rat)) :
    specMissing lib s gs = [] ↔ ∀ g ∈ gs, ∃ c, corrOf lib s g.1 = some c := by
  rw [specMissing, List.filter_eq_nil_iff, List.forall_mem_map]
  exact forall₂_congr fun g _ => by cases corrOf lib s g.1 <;> simp

/-- a total version of `corrOf` (only used where the property set exists) -/
def corrD (lib : Library N S) (s : S) (g : N) : Corr :=
  match corrOf lib s g with
  | some c => c
  | none => ⟨fun _ => .error .internal, fun _ => .error .internal, fun _ => .error .internal, none⟩

theorem hasDatum_iff {lib : Library N S} {s : S} {get : Corr → Val} {g : N} (h : ∃ c, corrOf lib s g = some c) :
    HasDatum lib s get g ↔ ∃ w, get (corrD lib s g) = .ok w := by
  obtain ⟨c, hc⟩ := h
  simp [HasDatum, hc, corrD]

theorem failsWith_iff {lib : Library N S} {s : S} {get : Corr → Val} {g : N} {err : Err}
    (h : ∃ c, corrOf lib s g = some c) : FailsWith lib s get g err ↔ get (corrD lib s g) = .error err := by
  obtain ⟨c, hc⟩ := h
  simp [FailsWith, hc, corrD]

theorem corrD_of_some {lib : Library N S} {s : S} {g : N} {c : Corr} (h : corrOf lib s g = some c) :
    corrD lib s g = c := by
  simp [corrD, h]

/-- the terms are determined by the mapping: every descriptor has the property set, and the list is the mapping with
each descriptor replaced by its correlation -/
theorem terms_iff (lib : Library N S) (s : S) (gs : List (N × Rat)) (cs : List (Corr × Rat)) :
    Terms lib s gs cs ↔
      (∀ g ∈ gs, ∃ c, corrOf lib s g.1 = some c) ∧ cs = gs.map fun g => (corrD lib s g.1, g.2) := by
  induction gs generalizing cs with
  | nil =>
    cases cs with
    | nil => exact ⟨fun _ => ⟨nofun, rfl⟩, fun _ => trivial⟩
    | cons c cs => exact ⟨False.elim, nofun⟩
  | cons g rest ih =>
    cases cs with
    | nil => exact ⟨False.elim, nofun⟩
    | cons c cs =>
      constructor
      · rintro ⟨h1, h2, h3⟩
        obtain ⟨h4, rfl⟩ := (ih cs).mp h3
        exact ⟨List.forall_mem_cons.mpr ⟨⟨_, h1⟩, h4⟩, by rw [List.map_cons, corrD_of_some h1, h2]⟩
      · rintro ⟨h, h4⟩
        obtain ⟨⟨c', h1⟩, h3⟩ := List.forall_mem_cons.mp h
        cases h4
        exact ⟨h1.trans (congrArg some (corrD_of_some h1).symm), rfl, (ih _).mpr ⟨h3, rfl⟩⟩

theorem collect_iff_terms (lib : Library N S) (s : S) (gs : List (N × Rat)) (cs : List (Corr × Rat)) :
    collect lib s gs = .ok cs ↔ Terms lib s gs cs := by
  induction gs generalizing cs with
  | nil => cases cs <;> simp [collect, Terms]
  | cons g rest ih =>
    obtain ⟨g, n⟩ := g
    rw [collect]
    change (match corrOf lib s g with | none => _ | some c => _) = _ ↔ _
    cases hc : corrOf lib s g with
    | none => cases cs <;> simp [Terms, hc]
    | some c =>
      cases hr : collect lib s rest with
      | error e => 
        cases cs with 
        | nil => simp [Terms]
        | cons c' cs => simp [Terms, ← ih, hr]
      | ok cs' => 
        cases cs with 
        | nil => simp [Terms]
        | cons c' cs => simp [Terms, ← ih, hr, hc, Prod.ext_iff, eq_comm, and_assoc]

theorem collect_ok (lib : Library N S) (s : S) (gs : List (N × Rat)) (cs : List (Corr × Rat))
    (h : collect lib s gs = .ok cs) : Terms lib s gs cs := (collect_iff_terms lib s gs cs).mp h

theorem terms_eq_map (lib : Library N S) (s : S) (gs : List (N × Rat)) (cs : List (Corr × Rat))
    (ht : Terms lib s gs cs) : cs = gs.map fun g => (corrD lib s g.1, g.2) := ((terms_iff lib s gs cs).mp ht).2

theorem collect_of_noMissing (lib : Library N S) (s : S) (gs : List (N × Rat))
    (h : specMissing lib s gs = []) : ∃ cs, collect lib s gs = .ok cs :=
  ⟨_, (collect_iff_terms lib s gs _).mpr ((terms_iff lib s gs _).mpr ⟨(specMissing_nil_iff lib s gs).mp h, rfl⟩)⟩

theorem collect_error (lib : Library N S) (s : S) (gs : List (N × Rat)) (e : EstErr N)
    (h : collect lib s gs = .error e) : e = .keyError ∧ specMissing lib s gs ≠ [] := by
  refine ⟨?_, fun hm => ?_⟩
  · induction gs with
    | nil => cases h
    | cons g rest ih =>
      obtain ⟨g, n⟩ := g
      rw [collect] at h
      split at h
      · cases h; rfl
      · split at h
        · cases h; exact ih ‹_›
        · cases h
  · obtain ⟨cs, hcs⟩ := collect_of_noMissing lib s gs hm
    rw [hcs] at h; cases h

theorem terms_append (lib : Library N S) (s : S) (g1 g2 : List (N × Rat)) (c1 c2 : List (Corr × Rat))
    (h1 : Terms lib s g1 c1) (h2 : Terms lib s g2 c2) : Terms lib s (g1 ++ g2) (c1 ++ c2) := by
  rw [terms_iff] at h1 h2 ⊢
  rw [List.forall_mem_append, List.map_append, ← h1.2, ← h2.2]
  exact ⟨⟨h1.1, h2.1⟩, rfl⟩

theorem terms_allOk_iff (lib : Library N S) (s : S) (get : Corr → Val) (gs : List (N × Rat)) (cs : List (Corr × Rat))
    (ht : Terms lib s gs cs) : AllOk get cs ↔ ∀ g ∈ gs, HasDatum lib s get g.1 := by
  obtain ⟨h, rfl⟩ := (terms_iff lib s gs cs).mp ht
  refine List.forall_mem_map.trans (forall₂_congr fun g hg => ?_)
  obtain ⟨c, hc⟩ := h g hg
  simp [HasDatum, hc, corrD_of_some hc]

theorem terms_specSum (lib : Library N S) (s : S) (get : Corr → Val) (gs : List (N × Rat)) (cs : List (Corr × Rat))
    (ht : Terms lib s gs cs) : specSum get cs = specEstimate lib s get gs := by
  obtain ⟨h, rfl⟩ := (terms_iff lib s gs cs).mp ht
  rw [specSum, specEstimate, List.map_map]
  refine congrArg _ (List.map_congr_left fun g hg => ?_)
  obtain ⟨c, hc⟩ := h g hg
  simp [valOf, hc, corrD_of_some hc]

/-- `finish` succeeds exactly when the common range, if there is one, is not empty; the estimate is then determined -/
theorem finish_ok_iff {N : Type} (name : Option (List Nat)) (cs : List (Corr × Rat)) (uq : Option UQE) (e : Estimator) :
    finish (N := N) name cs uq = .ok e ↔
      e = ⟨name, cs, commonRange cs, uq⟩ ∧ ∀ lo hi, commonRange cs = some (lo, hi) → lo ≤ hi := by
  unfold finish
  rcases commonRange cs with _ | ⟨lo, hi⟩
  · simp [eq_comm]
  · by_cases h : lo ≤ hi <;> simp [h, eq_comm]

theorem finish_error {N : Type} (name : Option (List Nat)) (cs : List (Corr × Rat)) (uq : Option UQE) (err : EstErr N)
    (h : finish name cs uq = .error err) : err = .emptyRange := by
  unfold finish at h
  split at h
  · cases h
  · split at h <;> cases h
    rfl

theorem placeX_error (basis : List N) (gs : List (N × Rat)) (x : List Rat) (err : EstErr N)
    (h : placeX basis gs x = .error err) : ∃ g, err = .notInBasis g := by
  induction gs generalizing x with
  | nil => cases h
  | cons g rest ih =>
    obtain ⟨g, n⟩ := g
    rw [placeX] at h
    split at h
    · cases h; exact ⟨g, rfl⟩
    · exact ih _ h

theorem buildUQ_error (u : UQ N) (gs : List (N × Rat)) (err : EstErr N)
    (h : buildUQ u gs = .error err) : (∃ g, err = .notInBasis g) ∨ err = .shape := by
  unfold buildUQ at h
  split at h
  · cases h; exact Or.inl (placeX_error _ _ _ _ ‹_›)
  · split at h <;> cases h
    exact Or.inr rfl

theorem uqPart_error (lib : Library N S) (gs : List (N × Rat)) (err : EstErr N)
    (h : uqPart lib gs = .error err) : (∃ g, err = .notInBasis g) ∨ err = .shape := by
  unfold uqPart at h
  split at h
  · cases h
  · split at h <;> cases h
    exact buildUQ_error _ _ _ ‹_›

/-- the constructor succeeds exactly when its three stages do -/
theorem construct_ok_iff (lib : Library N S) (s : S) (gs : List (N × Rat)) (e : Estimator) :
    construct lib s gs = .ok e ↔
      ∃ cs uq, collect lib s gs = .ok cs ∧ uqPart lib gs = .ok uq ∧ finish (N := N) lib.name cs uq = .ok e := by
  unfold construct
  cases collect lib s gs with
  | error e' => exact ⟨nofun, fun ⟨_, _, h, _⟩ => nomatch h⟩
  | ok cs =>
    cases uqPart lib gs with
    | error e' => exact ⟨nofun, fun ⟨_, _, _, h, _⟩ => nomatch h⟩
    | ok uq => exact ⟨fun h => ⟨_, _, rfl, rfl, h⟩, fun ⟨_, _, rfl, rfl, h⟩ => h⟩

/-- what a successful constructor call fixes -/
theorem construct_ok (lib : Library N S) (s : S) (gs : List (N × Rat)) (e : Estimator)
    (h : construct lib s gs = .ok e) :
    collect lib s gs = .ok e.correlations ∧ e.name = lib.name ∧ e.range = commonRange e.correlations := by
  obtain ⟨cs, uq, hcs, _, hf⟩ := (construct_ok_iff lib s gs e).mp h
  obtain ⟨rfl, _⟩ := (finish_ok_iff _ _ _ _).mp hf
  exact ⟨hcs, rfl, rfl⟩

theorem construct_error (lib : Library N S) (s : S) (gs : List (N × Rat)) (err : EstErr N)
    (h : construct lib s gs = .error err) (hm : specMissing lib s gs = []) :
    (∃ g, err = .notInBasis g) ∨ err = .shape ∨ err = .emptyRange := by
  obtain ⟨cs, hcs⟩ := collect_of_noMissing lib s gs hm
  simp only [construct, hcs] at h
  split at h
  · cases h
    exact (uqPart_error _ _ _ ‹_›).imp_right Or.inl
  · exact Or.inr (Or.inr (finish_error _ _ _ _ h))

/-- the constructor never raises one of the three errors of the checks that come before it -/
theorem construct_error_ne (lib : Library N S) (s : S) (gs : List (N × Rat)) (err : EstErr N)
    (h : construct lib s gs = .error err) (hm : specMissing lib s gs = []) :
    err ≠ .invalidSet ∧ (∀ ds, err ≠ .missing ds) ∧ err ≠ .keyError := by
  rcases construct_error lib s gs err h hm with ⟨g, rfl⟩ | rfl | rfl <;>
    exact ⟨nofun, nofun, nofun⟩

theorem estimate_ok_iff (reg : List S) (lib : Library N S) (gs : List (N × Rat)) (s : S) (e : Estimator) :
    estimate reg lib gs s = .ok e ↔
      reg.contains s = true ∧ specMissing lib s gs = [] ∧ construct lib s gs = .ok e := by
  rw [estimate, missingGroups_eq_spec]
  cases reg.contains s <;> cases specMissing lib s gs <;> simp

/-- the three ways `Estimate` fails: unregistered set name, descriptors without data, the constructor -/
theorem estimate_error_iff (reg : List S) (lib : Library N S) (gs : List (N × Rat)) (s : S) (err : EstErr N) :
    estimate reg lib gs s = .error err ↔
      reg.contains s = false ∧ err = .invalidSet ∨
      reg.contains s = true ∧ (specMissing lib s gs ≠ [] ∧ err = .missing (specMissing lib s gs) ∨
        specMissing lib s gs = [] ∧ construct lib s gs = .error err) := by
  rw [estimate, missingGroups_eq_spec]
  cases reg.contains s <;> cases specMissing lib s gs <;> simp [eq_comm]

/-! ### the uncertainty block: when it succeeds -/

theorem placeX_ok_iff (basis : List N) (gs : List (N × Rat)) (x : List Rat) :
    (∃ y, placeX basis gs x = .ok y) ↔ ∀ g ∈ gs, g.1 ∈ basis := by
  induction gs generalizing x with
  | nil => simp [placeX]
  | cons g rest ih =>
    obtain ⟨g, n⟩ := g
    rw [placeX, List.forall_mem_cons]
    cases hi : basis.idxOf? g with
    | none => exact ⟨nofun, fun h => absurd h.1 (List.idxOf?_eq_none_iff.mp hi)⟩
    | some i =>
      obtain ⟨hlt, hgi, _⟩ := List.idxOf?_eq_some_iff.mp hi
      exact (ih _).trans ⟨fun h => ⟨hgi ▸ List.getElem_mem hlt, h⟩, fun h => h.2⟩

theorem placeX_length (basis : List N) (gs : List (N × Rat)) (x y : List Rat)
    (h : placeX basis gs x = .ok y) : y.length = x.length := by
  induction gs generalizing x with
  | nil => cases h; rfl
  | cons g rest ih =>
    obtain ⟨g, n⟩ := g
    rw [placeX] at h
    split at h
    · cases h
    · rw [ih _ h, List.length_set]

theorem buildUQ_eq_ok_iff (u : UQ N) (gs : List (N × Rat)) (q : UQE) :
    buildUQ u gs = .ok q ↔ ∃ x, placeX u.basis gs (zeros u.basis.length) = .ok x ∧
      shapeOK u.basis.length u.mat = true ∧ q = ⟨u.rmse, quad x u.mat, u.dof⟩ := by
  unfold buildUQ
  cases placeX u.basis gs (zeros u.basis.length) with
  | error e => exact ⟨nofun, nofun⟩
  | ok x =>
    cases shapeOK u.basis.length u.mat with
    | false => exact ⟨nofun, nofun⟩
    | true => exact ⟨fun h => ⟨x, rfl, rfl, (Except.ok.inj h).symm⟩, fun ⟨_, rfl, _, hq⟩ => hq ▸ rfl⟩

theorem buildUQ_ok_iff (u : UQ N) (gs : List (N × Rat)) :
    (∃ q, buildUQ u gs = .ok q) ↔ (∀ g ∈ gs, g.1 ∈ u.basis) ∧ shapeOK u.basis.length u.mat = true := by
  simp only [buildUQ_eq_ok_iff, ← placeX_ok_iff u.basis gs (zeros u.basis.length)]
  exact ⟨fun ⟨_, x, hx, hs, _⟩ => ⟨⟨x, hx⟩, hs⟩, fun ⟨⟨x, hx⟩, hs⟩ => ⟨_, x, hx, hs, rfl⟩⟩

/-- the shape check looks at lengths only, so it can be run on the table before its entries are converted -/
theorem shapeOK_map {α : Type} (f : α → Rat) (n : Nat) (M : List (List α)) :
    shapeOK n (M.map (·.map f)) = (n != 0 && M.length == n && M.all fun row => row.length == n) := by
  simp [shapeOK, List.all_map, Function.comp_def]

/-! ### order of the mapping -/

theorem pyMax_eq_max (a b : Rat) : pyMax a b = max a b := by
  unfold pyMax
  split
  · exact (max_eq_right (le_of_lt ‹_›)).symm
  · exact (max_eq_left (not_lt.mp ‹_›)).symm

theorem pyMin_eq_min (a b : Rat) : pyMin a b = min a b := by
  unfold pyMin
  split
  · exact (min_eq_right (le_of_lt ‹_›)).symm
  · exact (min_eq_left (not_lt.mp ‹_›)).symm

theorem interRange_right_comm (acc a b : Option (Rat × Rat)) :
    interRange (interRange acc a) b = interRange (interRange acc b) a := by
  rcases acc with _ | ⟨lo, hi⟩ <;> rcases a with _ | ⟨a1, a2⟩ <;> rcases b with _ | ⟨b1, b2⟩ <;>
    simp only [interRange, pyMax_eq_max, pyMin_eq_min, Option.some.injEq, Prod.mk.injEq]
  · exact ⟨max_comm _ _, min_comm _ _⟩
  · exact ⟨max_right_comm _ _ _, min_right_comm _ _ _⟩

theorem commonRange_perm {a b : List (Corr × Rat)} (h : a.Perm b) : commonRange a = commonRange b :=
  h.foldl_eq' (fun x _ y _ acc => interRange_right_comm acc x.1.range y.1.range) none

theorem specMissing_perm (lib : Library N S) (s : S) {gs gs' : List (N × Rat)} (h : gs.Perm gs')
    (hm : specMissing lib s gs = []) : specMissing lib s gs' = [] := by
  rw [specMissing_nil_iff] at hm ⊢
  exact fun g hg => hm g (h.mem_iff.mpr hg)

theorem uqPart_ok_perm (lib : Library N S) {gs gs' : List (N × Rat)} (h : gs.Perm gs')
    (hu : ∃ q, uqPart lib gs = .ok q) : ∃ q, uqPart lib gs' = .ok q := by
  unfold uqPart at hu ⊢
  cases hlu : lib.uq with
  | none => exact ⟨_, rfl⟩
  | some u =>
    have hb : ∃ q, buildUQ u gs = .ok q := by
      cases hq : buildUQ u gs with
      | ok q => exact ⟨q, rfl⟩
      | error e => simp [hlu, hq] at hu
    obtain ⟨q', hq'⟩ := (buildUQ_ok_iff u gs').mpr (((buildUQ_ok_iff u gs).mp hb).imp_left fun h1 g hg => h1 g (h.mem_iff.mpr hg))
    exact ⟨some q', by simp [hq']⟩

/-- `Estimate` succeeds for a mapping iff it succeeds for any reordering of it, and the terms are reordered alike -/
theorem estimate_perm (reg : List S) (lib : Library N S) {gs gs' : List (N × Rat)} (s : S) (e : Estimator)
    (hp : gs.Perm gs') (he : estimate reg lib gs s = .ok e) :
    ∃ e', estimate reg lib gs' s = .ok e' ∧ e'.correlations.Perm e.correlations ∧ e'.name = e.name ∧ e'.range = e.range := by
  obtain ⟨hr, hm, hc⟩ := (estimate_ok_iff reg lib gs s e).mp he
  obtain ⟨cs, uq, hcs, huq, hf⟩ := (construct_ok_iff lib s gs e).mp hc
  obtain ⟨rfl, hle⟩ := (finish_ok_iff _ _ _ _).mp hf
  have hm' := specMissing_perm lib s hp hm
  obtain ⟨cs', hcs'⟩ := collect_of_noMissing lib s gs' hm'
  obtain ⟨uq', huq'⟩ := uqPart_ok_perm lib hp ⟨uq, huq⟩
  have hperm : cs'.Perm cs := by
    rw [terms_eq_map lib s gs cs (collect_ok lib s gs cs hcs), terms_eq_map lib s gs' cs' (collect_ok lib s gs' cs' hcs')]
    exact (hp.map _).symm
  have hrange := commonRange_perm hperm
  refine ⟨⟨lib.name, cs', commonRange cs', uq'⟩, (estimate_ok_iff reg lib gs' s _).mpr ⟨hr, hm', (construct_ok_iff lib s gs' _).mpr
    ⟨cs', uq', hcs', huq', (finish_ok_iff _ _ _ _).mpr ⟨rfl, hrange ▸ hle⟩⟩⟩, hperm, rfl, hrange⟩

/-! ### the range of the estimate -/

theorem interRange_none_iff (acc r : Option (Rat × Rat)) : interRange acc r = none ↔ acc = none ∧ r = none := by
  rcases acc with _ | ⟨lo, hi⟩ <;> rcases r with _ | ⟨a, b⟩ <;> simp [interRange]

/-- the order does not matter, so the range of the head can be intersected last -/
theorem commonRange_cons (c : Corr × Rat) (cs : List (Corr × Rat)) :
    commonRange (c :: cs) = interRange (commonRange cs) c.1.range := by
  rw [← commonRange_perm (List.perm_append_singleton c cs), commonRange, List.foldl_concat, commonRange]

/-- the common range lies inside every range folded in, and is absent only if all of them are -/
theorem commonRange_spec (cs : List (Corr × Rat)) :
    match commonRange cs with
    | none => ∀ c ∈ cs, c.1.range = none
    | some (lo, hi) => ∀ c ∈ cs, ∀ a b, c.1.range = some (a, b) → a ≤ lo ∧ hi ≤ b := by
  induction cs with
  | nil => simp [commonRange]
  | cons c cs ih =>
    rw [commonRange_cons]
    rcases h : commonRange cs with _ | ⟨lo, hi⟩ <;> rcases hc : c.1.range with _ | ⟨a, b⟩ <;> rw [h] at ih <;>
      simp only [interRange, List.forall_mem_cons, hc, pyMax_eq_max, pyMin_eq_min]
    · exact ⟨trivial, ih⟩
    · exact ⟨fun _ _ h => (by cases h; exact ⟨le_rfl, le_rfl⟩), fun c' hc' _ _ h' => nomatch (ih c' hc').symm.trans h'⟩
    · exact ⟨fun _ _ h => (nomatch h), ih⟩
    · refine ⟨fun _ _ h => (by cases h; exact ⟨le_max_right _ _, min_le_right _ _⟩), fun c' hc' a' b' h' => ?_⟩
      obtain ⟨h1, h2⟩ := ih c' hc' a' b' h'
      exact ⟨le_max_of_le_left h1, min_le_of_left_le h2⟩

/-! ### getters computed from two others, as relations; the elemental sum -/

/-- two evaluations in sequence (the first error wins), then a combination of the two values: the shape of every
getter that is computed from two others -/
theorem seq_ok_iff (a b : Val) (f : Rat → Rat → Rat) (v : Rat) :
    (match a with
      | .error e => .error e
      | .ok x => match b with
        | .error e => .error e
        | .ok y => .ok (f x y)) = (.ok v : Val) ↔ ∃ x y, a = .ok x ∧ b = .ok y ∧ v = f x y := by
  cases a with
  | error e => exact ⟨nofun, fun ⟨_, _, h, _⟩ => nomatch h⟩
  | ok x =>
    cases b with
    | error e => exact ⟨nofun, fun ⟨_, _, _, h, _⟩ => nomatch h⟩
    | ok y => exact ⟨fun h => ⟨x, y, rfl, rfl, (Except.ok.inj h).symm⟩, fun ⟨_, _, rfl, rfl, h⟩ => h ▸ rfl⟩

/-- without the elemental term, `get_SoR` is the plain weighted sum -/
theorem SoR_plain (sel : Nat → Option Rat) (e : Estimator) (T : Rat) (flag : PyFlag) (hf : flag.truthy = false) :
    e.SoR sel T flag = wsum (·.sor T) e.correlations := by
  unfold Estimator.SoR
  cases wsum (fun x => x.sor T) e.correlations <;> simp [hf]

theorem SoR_ok_iff (sel : Nat → Option Rat) (e : Estimator) (T : Rat) (flag : PyFlag) (v : Rat) :
    e.SoR sel T flag = .ok v ↔
      ∃ sele s, (if flag.truthy then selements sel e.name else .ok 0) = .ok sele ∧
        wsum (·.sor T) e.correlations = .ok s ∧ v = s - sele :=
  seq_ok_iff _ _ (fun sele s => s - sele) v

theorem GoRT_ok_iff (o : ND) (T : Rat) (flag : PyFlag) (v : Rat) :
    o.GoRT T flag = .ok v ↔ ∃ h s, o.hort T = .ok h ∧ o.sor T flag = .ok s ∧ v = h - s :=
  seq_ok_iff _ _ (· - ·) v

theorem lookupR_ok_iff (R : RTable) (u : UnitStr) (r : Rat) : lookupR R u = .ok r ↔ R.lookup u = some r := by
  unfold lookupR
  cases R.lookup u <;> simp

theorem G_ok_iff (R : RTable) (o : ND) (T : Rat) (u : UnitStr) (flag : PyFlag) (v : Rat) :
    o.G R T u flag = .ok v ↔ ∃ g r, o.GoRT T flag = .ok g ∧ R.lookup (perK u) = some r ∧ v = g * T * r := by
  simp only [← lookupR_ok_iff]; exact seq_ok_iff _ _ (· * T * ·) v

/-- two dimensional values `k a · R(u₁)`, `k a · R(u₂)` of the same non-dimensional value `a` -/
theorem units_ratio {nd : Val} {R : RTable} {u1 u2 : UnitStr} {v1 v2 r1 r2 : Rat} (k : Rat → Rat)
    (h1 : ∃ a r, nd = .ok a ∧ R.lookup u1 = some r ∧ v1 = k a * r)
    (h2 : ∃ a r, nd = .ok a ∧ R.lookup u2 = some r ∧ v2 = k a * r)
    (hr1 : R.lookup u1 = some r1) (hr2 : R.lookup u2 = some r2) : v1 * r2 = v2 * r1 := by
  obtain ⟨a, r, a1, a2, rfl⟩ := h1
  obtain ⟨b, r', b1, b2, rfl⟩ := h2
  rw [a1] at b1; cases b1
  rw [hr1] at a2; cases a2
  rw [hr2] at b2; cases b2
  ring

/-- `Σ_atoms Sel(Z)` as a plain sum (0 for an element without an entry; only used when every atom has one) -/
def selD (sel : Nat → Option Rat) (z : Nat) : Rat := match sel z with | some v => v | none => 0

omit [DecidableEq N] [DecidableEq S] in
theorem selSumFrom_ok_iff (sel : Nat → Option Rat) (acc : Rat) (atoms : List Nat) (v : Rat) :
    selSumFrom sel acc atoms = .ok v ↔ (∀ z ∈ atoms, ∃ w, sel z = some w) ∧ v = acc + (atoms.map (selD sel)).sum := by
  induction atoms generalizing acc with
  | nil => simp [selSumFrom, eq_comm]
  | cons z zs ih =>
    rw [selSumFrom]
    cases hz : sel z with
    | none => simp [hz]
    | some w => simp [ih, hz, selD, add_assoc]

/-! ### the estimate as a sum, reorderings -/

theorem estimate_terms (reg : List S) (lib : Library N S) (gs : List (N × Rat)) (s : S) (e : Estimator)
    (he : estimate reg lib gs s = .ok e) : Terms lib s gs e.correlations :=
  collect_ok lib s gs _ (construct_ok lib s gs e ((estimate_ok_iff reg lib gs s e).mp he).2.2).1

theorem estimate_value_iff (get : Corr → Val) (reg : List S) (lib : Library N S) (gs : List (N × Rat)) (s : S)
    (e : Estimator) (he : estimate reg lib gs s = .ok e) (v : Rat) :
    wsum get e.correlations = .ok v ↔
      (∀ g ∈ gs, HasDatum lib s get g.1) ∧ v = specEstimate lib s get gs := by
  have ht := estimate_terms reg lib gs s e he
  rw [wsum_ok_iff, terms_allOk_iff lib s get gs _ ht, terms_specSum lib s get gs _ ht]

/-- the same with the constituents' values named by a function `h` -/
theorem estimate_sum (get : Corr → Val) (reg : List S) (lib : Library N S) (gs : List (N × Rat)) (s : S)
    (e : Estimator) (he : estimate reg lib gs s = .ok e) (h : N → Rat)
    (hv : ∀ g ∈ gs, ∃ c, corrOf lib s g.1 = some c ∧ get c = .ok (h g.1)) :
    wsum get e.correlations = .ok ((gs.map fun g => g.2 * h g.1).sum) := by
  refine (estimate_value_iff get reg lib gs s e he _).mpr ⟨fun g hg => ?_, congrArg _ (List.map_congr_left fun g hg => ?_)⟩
  · obtain ⟨c, hc, hw⟩ := hv g hg; exact ⟨c, _, hc, hw⟩
  · obtain ⟨c, hc, hw⟩ := hv g hg; simp [valOf, hc, valD_ok hw]

/-- the terms of two successful estimates of reordered mappings are reorderings of each other -/
theorem perm_terms (reg : List S) (lib : Library N S) {gs gs' : List (N × Rat)} (s : S) (e e' : Estimator)
    (hp : gs.Perm gs') (he : estimate reg lib gs s = .ok e) (he' : estimate reg lib gs' s = .ok e') :
    e'.correlations.Perm e.correlations ∧ e'.name = e.name ∧ e'.range = e.range := by
  obtain ⟨e'', he'', h⟩ := estimate_perm reg lib s e hp he
  rw [he'] at he''; cases he''; exact h

/-! ### linearity of the specification sum -/

theorem specEstimate_append (lib : Library N S) (s : S) (get : Corr → Val) (g1 g2 : List (N × Rat)) :
    specEstimate lib s get (g1 ++ g2) = specEstimate lib s get g1 + specEstimate lib s get g2 := by
  simp [specEstimate]

theorem specEstimate_scale (lib : Library N S) (s : S) (get : Corr → Val) (k : Rat) (gs : List (N × Rat)) :
    specEstimate lib s get (gs.map fun g => (g.1, k * g.2)) = k * specEstimate lib s get gs := by
  simp only [specEstimate, List.map_map, ← sum_map_mul_left, Function.comp_def, mul_assoc]

omit [DecidableEq N] in
theorem sum_sub_sum (gs : List (N × Rat)) (a b : N → Rat) :
    (gs.map fun g => g.2 * a g.1).sum - (gs.map fun g => g.2 * b g.1).sum
      = (gs.map fun g => g.2 * (a g.1 - b g.1)).sum := by
  induction gs with
  | nil => simp
  | cons g rest ih => simp only [List.map_cons, List.sum_cons]; rw [← ih]; ring

end
end PGA.Estimate
