import PGA.Spec.Rxn
/-! # Helper lemmas for C16 (`PGA/Props/C16.lean`)

The RDKit primitives (`AddBond`, `RemoveBond`, atom updates); effect, frame, balance and applicability of every edit
and of edit lists; what the rule reader's electron balance says about the edits it returns; the split of a product
into molecules (partition, connectedness, closedness under bonds). -/
namespace PGA.Rxn
open List

/-! ### `Except` -/

theorem bind_ok {α β ε : Type} {x : Except ε α} {g : α → Except ε β} {b : β} :
    (x >>= g) = .ok b ↔ ∃ a, x = .ok a ∧ g a = .ok b := by
  cases x with
  | error e => exact ⟨nofun, nofun⟩
  | ok a => exact ⟨fun h => ⟨a, rfl, h⟩, fun ⟨_, ha, h⟩ => by cases ha; exact h⟩

theorem throw_ne_ok {α ε : Type} {e : ε} {b : α} : (throw e : Except ε α) = .ok b ↔ False :=
  ⟨nofun, False.elim⟩

theorem pure_ok {α ε : Type} {a b : α} : (pure a : Except ε α) = .ok b ↔ a = b :=
  ⟨Except.ok.inj, congrArg _⟩

/-! ### `mapM` in `Except` -/

section
variable {α β ε : Type} {g : α → Except ε β}

theorem mapM_cons_ok {x : α} {l : List α} {r : List β} :
    (x :: l).mapM g = .ok r ↔ ∃ b bs, g x = .ok b ∧ l.mapM g = .ok bs ∧ r = b :: bs := by
  rw [List.mapM_cons]
  constructor
  · intro h
    obtain ⟨b, hb, h⟩ := bind_ok.1 h
    obtain ⟨bs, hbs, h⟩ := bind_ok.1 h
    cases h
    exact ⟨b, bs, hb, hbs, rfl⟩
  · rintro ⟨b, bs, hb, hbs, rfl⟩
    exact bind_ok.2 ⟨b, hb, bind_ok.2 ⟨bs, hbs, rfl⟩⟩

theorem mapM_getElem {l : List α} {r : List β} (h : l.mapM g = .ok r) {k : Nat} {a : α} (hk : l[k]? = some a) :
    ∃ b, r[k]? = some b ∧ g a = .ok b := by
  induction l generalizing r k with
  | nil => cases hk
  | cons x l ih =>
    obtain ⟨b, bs, hb, hbs, rfl⟩ := mapM_cons_ok.1 h
    cases k with
    | zero => cases hk; exact ⟨b, rfl, hb⟩
    | succ k => exact ih hbs hk

theorem mapM_length {l : List α} {r : List β} (h : l.mapM g = .ok r) : r.length = l.length := by
  induction l generalizing r with
  | nil => cases h; rfl
  | cons x l ih =>
    obtain ⟨b, bs, _, hbs, rfl⟩ := mapM_cons_ok.1 h
    rw [List.length_cons, List.length_cons, ih hbs]

theorem mapM_ok_of_forall {l : List α} (h : ∀ a ∈ l, ∃ b, g a = .ok b) : ∃ r, l.mapM g = .ok r := by
  induction l with
  | nil => exact ⟨[], rfl⟩
  | cons x l ih =>
    obtain ⟨b, hb⟩ := h x List.mem_cons_self
    obtain ⟨bs, hbs⟩ := ih fun a ha => h a (List.mem_cons_of_mem _ ha)
    exact ⟨b :: bs, mapM_cons_ok.2 ⟨b, bs, hb, hbs, rfl⟩⟩

end

/-! ### unordered pairs and `joins` -/

theorem SamePair.refl (x y : Nat) : SamePair x y x y := Or.inl ⟨rfl, rfl⟩

theorem SamePair.swap {u v x y : Nat} (h : SamePair u v x y) : SamePair v u x y :=
  (Or.symm h).imp And.symm And.symm

theorem SamePair.symm {u v x y : Nat} (h : SamePair u v x y) : SamePair x y u v :=
  h.imp (And.imp Eq.symm Eq.symm) fun h => ⟨h.2.symm, h.1.symm⟩

theorem joins_iff (e : WBond) (x y : Nat) : e.joins x y = true ↔ SamePair e.a e.b x y := by
  simp [WBond.joins, SamePair]

theorem joins_mk (x y : Nat) (k : BK) : (⟨x, y, k⟩ : WBond).joins x y = true :=
  (joins_iff _ x y).2 (SamePair.refl x y)

theorem joins_comm (e : WBond) (x y : Nat) : e.joins x y = e.joins y x := by
  simp only [WBond.joins, Bool.or_comm]

theorem joins_swap (e e' : WBond) : e'.joins e.a e.b = e.joins e'.a e'.b := by
  rw [Bool.eq_iff_iff, joins_iff, joins_iff]
  exact ⟨SamePair.symm, SamePair.symm⟩

theorem samePair_of_joins {e : WBond} {u v x y : Nat} (h1 : e.joins u v = true) (h2 : e.joins x y = true) :
    SamePair u v x y := by
  rw [joins_iff] at h1 h2
  rcases h1 with ⟨rfl, rfl⟩ | ⟨rfl, rfl⟩
  · exact h2
  · exact h2.swap

theorem joins_congr {e : WBond} {u v x y : Nat} (h : SamePair u v x y) : e.joins u v = e.joins x y := by
  rcases h with ⟨rfl, rfl⟩ | ⟨rfl, rfl⟩
  · rfl
  · exact joins_comm _ _ _

theorem touches_of_joins {e : WBond} {x y z : Nat} (h : e.joins x y = true) :
    e.touches z = true ↔ z = x ∨ z = y := by
  simp only [WBond.touches, Bool.or_eq_true, beq_iff_eq]
  rcases (joins_iff e x y).1 h with ⟨rfl, rfl⟩ | ⟨rfl, rfl⟩
  · exact ⟨Or.imp Eq.symm Eq.symm, Or.imp Eq.symm Eq.symm⟩
  · exact ⟨fun h => h.symm.imp Eq.symm Eq.symm, fun h => h.symm.imp Eq.symm Eq.symm⟩

/-! ### `bondBetween` / `kindBetween` -/

theorem kindBetween_none_iff (m : WMol) (x y : Nat) :
    m.kindBetween x y = none ↔ ∀ e ∈ m.bonds, e.joins x y = false := by
  simp [WMol.kindBetween, WMol.bondBetween, List.find?_eq_none]

theorem bondBetween_isSome_iff (m : WMol) (x y : Nat) : (m.bondBetween x y).isSome = true ↔ m.kindBetween x y ≠ none := by
  simp [WMol.kindBetween, Option.isSome_iff_ne_none]

theorem kindBetween_congr (m : WMol) {u v x y : Nat} (h : SamePair u v x y) : m.kindBetween u v = m.kindBetween x y := by
  have : (fun e : WBond => e.joins u v) = (fun e : WBond => e.joins x y) := funext fun e => joins_congr h
  simp only [WMol.kindBetween, WMol.bondBetween, this]

theorem kindBetween_of_bonds {m m' : WMol} (h : m'.bonds = m.bonds) (u v : Nat) : m'.kindBetween u v = m.kindBetween u v := by
  simp only [WMol.kindBetween, WMol.bondBetween, h]

theorem wf_iff (m : WMol) : m.wf = true ↔
    (∀ e ∈ m.bonds, (e.a < m.natoms ∧ e.b < m.natoms) ∧ e.a ≠ e.b) ∧
      m.bonds.Pairwise (fun e e' => (!(e'.joins e.a e.b)) = true) := by
  simp only [WMol.wf, Bool.and_eq_true, List.all_eq_true, decide_eq_true_eq, bne_iff_ne, ne_eq]

theorem wf_noloop {m : WMol} (hw : m.wf = true) (x : Nat) : m.kindBetween x x = none := by
  rw [kindBetween_none_iff]
  intro e he
  rw [Bool.eq_false_iff, ne_eq, joins_iff]
  rintro (⟨h1, h2⟩ | ⟨h1, h2⟩) <;> exact (((wf_iff m).1 hw).1 e he).2 (h1.trans h2.symm)


/-! ### atoms: `core` observations -/

theorem core_getElem? {m m' : WMol} (h : CoreSame m m') (z : Nat) :
    (m'.atoms[z]?).map WAtom.core = (m.atoms[z]?).map WAtom.core := by
  rw [← List.getElem?_map, ← List.getElem?_map, h]

theorem natoms_of_core {m m' : WMol} (h : CoreSame m m') : m'.natoms = m.natoms := by
  simpa [WMol.natoms] using congrArg List.length h

theorem radAt_chgAt_of_core {m m' : WMol} (h : CoreSame m m') (z : Nat) :
    m'.radAt z = m.radAt z ∧ m'.chgAt z = m.chgAt z := by
  have hz := core_getElem? h z
  unfold WMol.radAt WMol.chgAt
  cases h1 : m'.atoms[z]? <;> cases h2 : m.atoms[z]? <;> rw [h1, h2] at hz
  · exact ⟨rfl, rfl⟩
  · cases hz
  · cases hz
  · have := Option.some.inj hz
    simp only [WAtom.core, Prod.mk.injEq] at this
    exact ⟨congrArg _ this.2.2, this.2.1⟩

theorem elements_of_core {m m' : WMol} (h : CoreSame m m') : m'.elements = m.elements := by
  have := congrArg (List.map (fun c : Nat × Int × Nat => c.1)) h
  simpa [WMol.elements, List.map_map, Function.comp_def, WAtom.core] using this

theorem core_modify_flag (l : List WAtom) (x : Nat) :
    (l.modify x fun a => { a with aromatic := true }).map WAtom.core = l.map WAtom.core := by
  apply List.ext_getElem?
  intro j
  simp only [List.getElem?_map, List.getElem?_modify]
  cases l[j]? with
  | none => rfl
  | some a => by_cases h : x = j <;> simp [h, WAtom.core]

/-! ### `RemoveBond` -/

theorem atoms_removeBond (m : WMol) (x y : Nat) : (m.removeBond x y).atoms = m.atoms := rfl
theorem natoms_removeBond (m : WMol) (x y : Nat) : (m.removeBond x y).natoms = m.natoms := rfl
theorem radAt_removeBond (m : WMol) (x y z : Nat) : (m.removeBond x y).radAt z = m.radAt z := rfl
theorem chgAt_removeBond (m : WMol) (x y z : Nat) : (m.removeBond x y).chgAt z = m.chgAt z := rfl

/-- frame of `RemoveBond` on bond types -/
theorem kindBetween_removeBond (m : WMol) (x y u v : Nat) :
    (m.removeBond x y).kindBetween u v = if SamePair u v x y then none else m.kindBetween u v := by
  simp only [WMol.kindBetween, WMol.bondBetween, WMol.removeBond, List.find?_filter]
  split
  · rename_i h
    rw [Option.map_eq_none_iff, List.find?_eq_none]
    intro e _
    rw [joins_congr h]
    cases e.joins x y <;> decide
  · rename_i h
    congr 2
    funext e
    cases hj : e.joins u v
    · simp
    · cases hxy : e.joins x y
      · simp
      · exact absurd (samePair_of_joins hj hxy) h

theorem wf_removeBond {m : WMol} (hw : m.wf = true) (x y : Nat) : (m.removeBond x y).wf = true := by
  rw [wf_iff] at hw ⊢
  exact ⟨fun e he => hw.1 e (List.mem_filter.1 he).1, hw.2.filter _⟩

theorem filter_not_joins_of_none (l : List WBond) (x y : Nat) (h : ∀ e ∈ l, e.joins x y = false) :
    l.filter (fun e => !e.joins x y) = l := by
  rw [List.filter_eq_self]
  intro e he
  rw [h e he]; rfl


/-- removing the (unique) bond between `x` and `y` lowers the bond sums at its two ends by its order -/
theorem sum_filter_remove (x y z : Nat) : ∀ (l : List WBond) (e : WBond),
    l.Pairwise (fun e e' => (!(e'.joins e.a e.b)) = true) → l.find? (·.joins x y) = some e →
    (((l.filter (fun e => !e.joins x y)).filter (·.touches z)).map (·.kind.half)).sum =
      ((l.filter (·.touches z)).map (·.kind.half)).sum - (if e.touches z = true then e.kind.half else 0) := by
  intro l
  induction l with
  | nil => intro e _ h; cases h
  | cons b t ih =>
    intro e hp hf
    rw [List.pairwise_cons] at hp
    rw [List.find?_cons] at hf
    rw [List.filter_cons]
    cases hb : b.joins x y
    · rw [hb] at hf
      have := ih e hp.2 hf
      simp only [Bool.not_false, if_true, List.filter_cons]
      split
      · simp only [List.map_cons, List.sum_cons, this]; omega
      · exact this
    · rw [hb] at hf
      cases hf
      have ht : ∀ e' ∈ t, e'.joins x y = false := by
        intro e' he'
        have h1 := hp.1 e' he'
        rwa [joins_congr ((joins_iff b x y).1 hb), Bool.not_eq_true'] at h1
      simp only [Bool.not_true, Bool.false_eq_true, if_false, filter_not_joins_of_none t x y ht, List.filter_cons]
      split
      · simp only [List.map_cons, List.sum_cons]; omega
      · omega

theorem bondSum2_removeBond {m : WMol} (hw : m.wf = true) {x y : Nat} {k : BK} (hk : m.kindBetween x y = some k) (z : Nat) :
    (m.removeBond x y).bondSum2 z = m.bondSum2 z - (if z = x ∨ z = y then k.half else 0) := by
  simp only [WMol.kindBetween, WMol.bondBetween, Option.map_eq_some_iff] at hk
  obtain ⟨e, hf, rfl⟩ := hk
  have hj : e.joins x y = true := List.find?_some (p := fun e : WBond => e.joins x y) hf
  simp only [WMol.bondSum2, WMol.removeBond, sum_filter_remove x y z m.bonds e ((wf_iff m).1 hw).2 hf, touches_of_joins hj]

/-! ### `AddBond` -/

theorem addBond_ok {m m' : WMol} {x y : Nat} {k : BK} (h : m.addBond x y k = .ok m') :
    x ≠ y ∧ m.kindBetween x y = none ∧ m'.bonds = m.bonds ++ [⟨x, y, k⟩] ∧ CoreSame m m' := by
  unfold WMol.addBond at h
  by_cases hxy : (x == y) = true
  · rw [if_pos hxy] at h; cases h
  by_cases hb : (m.bondBetween x y).isSome = true
  · rw [if_neg hxy, if_pos hb] at h; cases h
  rw [if_neg hxy, if_neg hb] at h
  cases h
  refine ⟨by simpa using hxy, Decidable.of_not_not fun hc => hb ((bondBetween_isSome_iff m x y).2 hc), rfl, ?_⟩
  unfold CoreSame
  dsimp only
  split
  · rw [core_modify_flag, core_modify_flag]
  · rfl

theorem addBond_succeeds {m : WMol} {x y : Nat} (k : BK) (hne : x ≠ y) (hn : m.kindBetween x y = none) :
    ∃ m', m.addBond x y k = .ok m' := by
  unfold WMol.addBond
  rw [if_neg (by simpa using hne), if_neg (fun hb => (bondBetween_isSome_iff m x y).1 hb hn)]
  exact ⟨_, rfl⟩

theorem kindBetween_addBond {m m' : WMol} {x y : Nat} {k : BK} (h : m.addBond x y k = .ok m') (u v : Nat) :
    m'.kindBetween u v = if SamePair u v x y then some k else m.kindBetween u v := by
  obtain ⟨_, hnone, hb, _⟩ := addBond_ok h
  split
  · rename_i hp
    have hno := fun e he => Bool.eq_false_iff.1 ((kindBetween_none_iff m x y).1 hnone e he)
    rw [kindBetween_congr m' hp, WMol.kindBetween, WMol.bondBetween, hb, List.find?_append, List.find?_eq_none.2 hno]
    simp [joins_mk]
  · rename_i hp
    have hj : (⟨x, y, k⟩ : WBond).joins u v = false :=
      Bool.eq_false_iff.2 fun hj => hp (samePair_of_joins hj (joins_mk x y k))
    simp [WMol.kindBetween, WMol.bondBetween, hb, hj]

theorem bondSum2_addBond {m m' : WMol} {x y : Nat} {k : BK} (h : m.addBond x y k = .ok m') (z : Nat) :
    m'.bondSum2 z = m.bondSum2 z + (if z = x ∨ z = y then k.half else 0) := by
  obtain ⟨_, _, hb, _⟩ := addBond_ok h
  have ht := touches_of_joins (z := z) (joins_mk x y k)
  simp only [WMol.bondSum2, hb, List.filter_append, List.map_append, List.sum_append]
  congr 1
  by_cases hz : z = x ∨ z = y
  · simp [hz, ht.2 hz]
  · simp [hz, Bool.eq_false_iff.2 (mt ht.1 hz)]

theorem wf_addBond {m m' : WMol} {x y : Nat} {k : BK} (h : m.addBond x y k = .ok m') (hw : m.wf = true)
    (hx : x < m.natoms) (hy : y < m.natoms) : m'.wf = true := by
  obtain ⟨hne, hnone, hb, hc⟩ := addBond_ok h
  rw [wf_iff] at hw ⊢
  rw [hb, natoms_of_core hc, List.pairwise_append]
  refine ⟨?_, hw.2, List.pairwise_singleton _ _, ?_⟩
  · intro e he
    rcases List.mem_append.1 he with he | he
    · exact hw.1 e he
    · cases List.mem_singleton.1 he
      exact ⟨⟨hx, hy⟩, hne⟩
  · intro e he e' he'
    cases List.mem_singleton.1 he'
    rw [joins_swap, (kindBetween_none_iff m x y).1 hnone e he]; rfl


/-! ### atom edits -/

theorem atoms_modifyAtom_getElem? (m : WMol) (x : Nat) (g : WAtom → WAtom) (z : Nat) :
    (m.modifyAtom x g).atoms[z]? = if x = z then (m.atoms[z]?).map g else m.atoms[z]? := by
  simp only [WMol.modifyAtom, List.getElem?_modify]
  cases m.atoms[z]? with
  | none => simp
  | some a => by_cases h : x = z <;> simp [h]

theorem bonds_modifyAtom (m : WMol) (x : Nat) (g : WAtom → WAtom) : (m.modifyAtom x g).bonds = m.bonds := rfl
theorem kindBetween_modifyAtom (m : WMol) (x : Nat) (g : WAtom → WAtom) (u v : Nat) :
    (m.modifyAtom x g).kindBetween u v = m.kindBetween u v := rfl
theorem bondSum2_modifyAtom (m : WMol) (x : Nat) (g : WAtom → WAtom) (z : Nat) :
    (m.modifyAtom x g).bondSum2 z = m.bondSum2 z := rfl
theorem natoms_modifyAtom (m : WMol) (x : Nat) (g : WAtom → WAtom) : (m.modifyAtom x g).natoms = m.natoms :=
  List.length_modify ..
theorem wf_modifyAtom {m : WMol} (hw : m.wf = true) (x : Nat) (g : WAtom → WAtom) : (m.modifyAtom x g).wf = true := by
  simp only [WMol.wf, natoms_modifyAtom, bonds_modifyAtom] at hw ⊢
  exact hw

theorem elements_modifyAtom (m : WMol) (x : Nat) (g : WAtom → WAtom) (hg : ∀ a, (g a).Z = a.Z) :
    (m.modifyAtom x g).elements = m.elements := by
  apply List.ext_getElem?
  intro j
  simp only [WMol.elements, List.getElem?_map, atoms_modifyAtom_getElem?]
  split
  · cases m.atoms[j]? with
    | none => rfl
    | some a => exact congrArg some (hg a)
  · rfl

/-- what `modifyAtom` does to the atoms and bonds, as `Edit.Effect` words it -/
theorem modifyAtom_effect {m : WMol} {x : Nat} {a : WAtom} (g : WAtom → WAtom) (ha : m.atoms[x]? = some a) :
    (m.modifyAtom x g).atoms[x]? = some (g a) ∧ AtomsSameExcept m (m.modifyAtom x g) x ∧
      (m.modifyAtom x g).bonds = m.bonds :=
  ⟨by rw [atoms_modifyAtom_getElem?, if_pos rfl, ha]; rfl,
    ⟨natoms_modifyAtom m x g, fun z hz => by rw [atoms_modifyAtom_getElem?, if_neg (Ne.symm hz)]⟩, rfl⟩

theorem radAt_eq {m : WMol} {x : Nat} {a : WAtom} (ha : m.atoms[x]? = some a) : m.radAt x = a.radicals := by
  rw [WMol.radAt, ha]

theorem chgAt_eq {m : WMol} {x : Nat} {a : WAtom} (ha : m.atoms[x]? = some a) : m.chgAt x = a.charge := by
  rw [WMol.chgAt, ha]

/-! ### one step on one bond -/

def halfO : Option BK → Int
  | none => 0
  | some k => k.half

/-- a change of the bond between `x` and `y` from `before` to `after` and of nothing else -/
structure BondStep (m m' : WMol) (x y : Nat) (b0 b1 : Option BK) : Prop where
  ne : x ≠ y
  wf : m'.wf = true
  natoms : m'.natoms = m.natoms
  before : m.kindBetween x y = b0
  after : m'.kindBetween x y = b1
  frame : BondsSameExcept m m' x y
  core : CoreSame m m'
  sum : ∀ z, m'.bondSum2 z = m.bondSum2 z + (if z = x ∨ z = y then halfO b1 - halfO b0 else 0)

theorem step_add {m m' : WMol} {x y : Nat} {k : BK} (hw : m.wf = true) (hx : x < m.natoms) (hy : y < m.natoms)
    (h : m.addBond x y k = .ok m') : BondStep m m' x y none (some k) := by
  obtain ⟨hne, hnone, _, hcore⟩ := addBond_ok h
  refine ⟨hne, wf_addBond h hw hx hy, natoms_of_core hcore, hnone, ?_, ?_, hcore, ?_⟩
  · rw [kindBetween_addBond h, if_pos (SamePair.refl x y)]
  · intro u v huv; rw [kindBetween_addBond h, if_neg huv]
  · intro z; rw [bondSum2_addBond h]; simp only [halfO, Int.sub_zero]

theorem step_remove {m : WMol} {x y : Nat} {k : BK} (hw : m.wf = true) (hk : m.kindBetween x y = some k) :
    BondStep m (m.removeBond x y) x y (some k) none := by
  have hne : x ≠ y := by
    rintro rfl; rw [wf_noloop hw] at hk; cases hk
  refine ⟨hne, wf_removeBond hw x y, rfl, hk, ?_, ?_, rfl, ?_⟩
  · rw [kindBetween_removeBond, if_pos (SamePair.refl x y)]
  · intro u v huv; rw [kindBetween_removeBond, if_neg huv]
  · intro z; rw [bondSum2_removeBond hw hk]; simp only [halfO]; split <;> omega

theorem BondStep.trans {m m1 m2 : WMol} {x y : Nat} {a b c : Option BK} (h1 : BondStep m m1 x y a b)
    (h2 : BondStep m1 m2 x y b c) : BondStep m m2 x y a c := by
  refine ⟨h1.ne, h2.wf, h2.natoms.trans h1.natoms, h1.before, h2.after, ?_, ?_, ?_⟩
  · intro u v huv; rw [h2.frame u v huv, h1.frame u v huv]
  · exact Eq.trans h2.core h1.core
  · intro z; rw [h2.sum, h1.sum]; split <;> omega

theorem step_replace {m m' : WMol} {x y : Nat} {k k' : BK} (hw : m.wf = true) (hk : m.kindBetween x y = some k)
    (hx : x < m.natoms) (hy : y < m.natoms) (h : (m.removeBond x y).addBond x y k' = .ok m') :
    BondStep m m' x y (some k) (some k') :=
  (step_remove hw hk).trans (step_add (wf_removeBond hw x y) hx hy h)

theorem replace_succeeds {m : WMol} (hw : m.wf = true) {x y : Nat} {k : BK} (k' : BK) (hk : m.kindBetween x y = some k) :
    ∃ m', (m.removeBond x y).addBond x y k' = .ok m' :=
  let s := step_remove hw hk
  addBond_succeeds k' s.ne s.after

theorem BondStep.E {m m' : WMol} {x y : Nat} {a b : Option BK} (h : BondStep m m' x y a b) (z : Nat) :
    m'.E z = m.E z + (if z = x ∨ z = y then halfO b - halfO a else 0) := by
  obtain ⟨hr, hc⟩ := radAt_chgAt_of_core h.core z
  rw [WMol.E, WMol.E, h.sum, hr, hc, Int.add_right_comm _ (ite ..), Int.add_right_comm _ (ite ..)]

theorem BondStep.elements {m m' : WMol} {x y : Nat} {a b : Option BK} (h : BondStep m m' x y a b) :
    m'.elements = m.elements := elements_of_core h.core


/-! ### index maps -/

theorem mapped_ok {f : List Nat} {m : WMol} {i x : Nat} : mapped f m i = .ok x ↔ f[i]? = some x ∧ x < m.natoms := by
  unfold mapped
  cases f[i]? with
  | none => exact ⟨nofun, nofun⟩
  | some x' =>
    by_cases hx : x' < m.natoms
    · simp only [hx, if_true, pure_ok, Option.some.injEq]
      exact ⟨fun h => ⟨h, h ▸ hx⟩, And.left⟩
    · simp only [hx, if_false, throw_ne_ok, Option.some.injEq, false_iff]
      exact fun h => hx (h.1 ▸ h.2)

theorem mapped_bind_ok {β : Type} {f : List Nat} {m : WMol} {i : Nat} {g : Nat → Except RunErr β} {b : β} :
    (mapped f m i >>= g) = .ok b ↔ ∃ x, (f[i]? = some x ∧ x < m.natoms) ∧ g x = .ok b := by
  simp only [bind_ok, mapped_ok]

theorem label_eq_iff {f : List Nat} (hf : f.Nodup) {l i z x : Nat} (hl : f[l]? = some z) (hi : f[i]? = some x) :
    z = x ↔ l = i := by
  constructor
  · rintro rfl; exact (List.getElem?_inj (List.getElem?_eq_some_iff.1 hl).1 hf).1 (hl.trans hi.symm)
  · rintro rfl; exact Option.some.inj (hl.symm.trans hi)

theorem atom_getElem?_of_lt {m : WMol} {x : Nat} (hx : x < m.natoms) : ∃ a, m.atoms[x]? = some a :=
  ⟨m.atoms[x]'hx, List.getElem?_eq_getElem hx⟩

theorem lt_of_atom {m : WMol} {x : Nat} {a : WAtom} (h : m.atoms[x]? = some a) : x < m.natoms :=
  (List.getElem?_eq_some_iff.1 h).1

/-! ### one edit -/

/-- what is proved of one successfully applied edit -/
structure EditSpec (f : List Nat) (m m' : WMol) (e : Edit) : Prop where
  effect : e.Effect f m m'
  wf : m'.wf = true
  natoms : m'.natoms = m.natoms
  elements : m'.elements = m.elements
  balance : f.Nodup → e.isText = true → ∀ l z, f[l]? = some z → m'.E z = m.E z - e.inc l

/-- a bond edit on the labels `i`, `j` that books `d` at each of them and changes the bond order by `-d` -/
theorem bondStep_editSpec {f : List Nat} {m m' : WMol} {e : Edit} {i j x y : Nat} {a b : Option BK} {d : Int}
    (hi : f[i]? = some x) (hj : f[j]? = some y) (hs : BondStep m m' x y a b) (heff : e.Effect f m m')
    (hinc : ∀ l, e.inc l = (if l = i then d else 0) + (if l = j then d else 0)) (hd : halfO a - halfO b = d) :
    EditSpec f m m' e := by
  refine ⟨heff, hs.wf, hs.natoms, hs.elements, ?_⟩
  intro hf _ l z hl
  have hij : i ≠ j := by
    rintro rfl; exact hs.ne (Option.some.inj (hi.symm.trans hj))
  rw [hs.E z, hinc l, ← Int.neg_sub, hd]
  simp only [label_eq_iff hf hl hi, label_eq_iff hf hl hj]
  by_cases hli : l = i
  · rw [if_pos (Or.inl hli), if_pos hli, if_neg (fun h => hij (hli.symm.trans h)), Int.add_zero, Int.sub_eq_add_neg]
  · by_cases hlj : l = j
    · rw [if_pos (Or.inr hlj), if_neg hli, if_pos hlj, Int.zero_add, Int.sub_eq_add_neg]
    · rw [if_neg (not_or.2 ⟨hli, hlj⟩), if_neg hli, if_neg hlj]; rfl

/-- an atom edit on the label `i` that books `d` there and changes radical electrons + charge by `-d/2` -/
theorem atomStep_editSpec {f : List Nat} {m : WMol} {e : Edit} {i x : Nat} (g : WAtom → WAtom) {a : WAtom} {d : Int}
    (hw : m.wf = true) (hi : f[i]? = some x) (ha : m.atoms[x]? = some a) (hg : ∀ a, (g a).Z = a.Z)
    (heff : e.Effect f m (m.modifyAtom x g)) (hinc : ∀ l, e.inc l = if l = i then d else 0)
    (hd : 2 * (((g a).radicals : Int) - (a.radicals : Int)) + 2 * ((g a).charge - a.charge) = -d) :
    EditSpec f m (m.modifyAtom x g) e := by
  refine ⟨heff, wf_modifyAtom hw x g, natoms_modifyAtom m x g, elements_modifyAtom m x g hg, ?_⟩
  intro hf _ l z hl
  obtain ⟨ha', hs, _⟩ := modifyAtom_effect g ha
  rw [hinc l]
  simp only [← label_eq_iff hf hl hi]
  by_cases hz : z = x
  · subst hz
    rw [if_pos rfl, WMol.E, WMol.E, radAt_eq ha', chgAt_eq ha', radAt_eq ha, chgAt_eq ha, bondSum2_modifyAtom]
    omega
  · rw [if_neg hz, Int.sub_zero]
    unfold WMol.E WMol.radAt WMol.chgAt
    rw [hs.2 z hz]; rfl

/-- the balance arithmetic of a radical edit: radical count from `n` to `n'`, charge untouched.  The right side is
written `-(-(2 * k))` to unify with `-d` in `atomStep_editSpec`, where the reader books `d = -(2 * k)`. -/
theorem bal_rad {n n' : Nat} (k c : Int) (h : (n' : Int) - n = k) : 2 * ((n' : Int) - n) + 2 * (c - c) = -(-(2 * k)) := by
  omega

/-- the same for a charge edit: charge from `c` to `c'`, radical count untouched -/
theorem bal_chg {c c' : Int} (k : Int) (n : Nat) (h : c' - c = k) : 2 * ((n : Int) - n) + 2 * (c' - c) = -(-(2 * k)) := by
  omega

theorem ladderUp_half {k k' : BK} (h : ladderUp k = .ok k') : k'.half - k.half = 2 := by
  cases k <;> cases h <;> rfl

theorem ladderDown_half {k : BK} {r : Option BK} (h : ladderDown k = .ok r) : halfO r - k.half = -2 := by
  cases k <;> cases h <;> rfl


/-- everything a successful `applyEdit` gives: the edit's specification and its precondition -/
theorem applyEdit_ok {f : List Nat} {m m' : WMol} {e : Edit} (hw : m.wf = true) (h : applyEdit f m e = .ok m') :
    EditSpec f m m' e ∧ e.Pre f m := by
  cases e with
  | bondForm i j k =>
    obtain ⟨x, ⟨hi, hx⟩, h⟩ := mapped_bind_ok.1 h
    obtain ⟨y, ⟨hj, hy⟩, h⟩ := mapped_bind_ok.1 h
    have hs := step_add hw hx hy h
    exact ⟨bondStep_editSpec hi hj hs ⟨x, y, hi, hj, hs.ne, hs.before, hs.after, hs.frame, hs.core⟩
      (fun _ => rfl) (Int.zero_sub _), x, y, hi, hj, hx, hy, hs.ne, hs.before⟩
  | bondBreak i j old =>
    obtain ⟨x, ⟨hi, hx⟩, h⟩ := mapped_bind_ok.1 h
    obtain ⟨y, ⟨hj, hy⟩, h⟩ := mapped_bind_ok.1 h
    split at h
    · split at h
      · rename_i k hk hko
        cases h
        cases eq_of_beq hko
        have hs := step_remove hw hk
        exact ⟨bondStep_editSpec hi hj hs ⟨x, y, hi, hj, hs.ne, hs.before, hs.after, hs.frame, hs.core⟩
          (fun _ => rfl) (Int.sub_zero _), x, y, hi, hj, hx, hy, hk⟩
      · cases h
    · cases h
  | bondModify i j new old =>
    obtain ⟨x, ⟨hi, hx⟩, h⟩ := mapped_bind_ok.1 h
    obtain ⟨y, ⟨hj, hy⟩, h⟩ := mapped_bind_ok.1 h
    split at h
    · split at h
      · rename_i k hk hko
        cases eq_of_beq hko
        have hs := step_replace hw hk hx hy h
        exact ⟨bondStep_editSpec hi hj hs ⟨x, y, hi, hj, hs.ne, hs.before, hs.after, hs.frame, hs.core⟩
          (fun _ => rfl) (Int.neg_sub _ _).symm, x, y, hi, hj, hx, hy, hk⟩
      · cases h
    · cases h
  | bondIncrease i j =>
    obtain ⟨x, ⟨hi, hx⟩, h⟩ := mapped_bind_ok.1 h
    obtain ⟨y, ⟨hj, hy⟩, h⟩ := mapped_bind_ok.1 h
    split at h
    · cases h
    · rename_i k hk
      obtain ⟨k', hk', h⟩ := bind_ok.1 h
      have hs := step_replace hw hk hx hy h
      have hh := ladderUp_half hk'
      exact ⟨bondStep_editSpec hi hj hs ⟨x, y, k, k', hi, hj, hs.ne, hs.before, hk', hs.after, hs.frame, hs.core⟩
        (fun _ => rfl) (by show k.half - k'.half = -2; omega), x, y, k, k', hi, hj, hx, hy, hk, hk'⟩
  | bondDecrease i j =>
    obtain ⟨x, ⟨hi, hx⟩, h⟩ := mapped_bind_ok.1 h
    obtain ⟨y, ⟨hj, hy⟩, h⟩ := mapped_bind_ok.1 h
    split at h
    · cases h
    · rename_i k hk
      obtain ⟨r, hr, h⟩ := bind_ok.1 h
      have hh := ladderDown_half hr
      have hs : BondStep m m' x y (some k) r := by
        cases r with
        | none => cases h; exact step_remove hw hk
        | some k' => exact step_replace hw hk hx hy h
      exact ⟨bondStep_editSpec hi hj hs ⟨x, y, k, r, hi, hj, hs.ne, hs.before, hr, hs.after, hs.frame, hs.core⟩
        (fun _ => rfl) (by show k.half - halfO r = 2; omega), x, y, k, r, hi, hj, hx, hy, hk, hr⟩
  | radicalModify i r old =>
    obtain ⟨x, ⟨hi, hx⟩, h⟩ := mapped_bind_ok.1 h
    split at h
    · split at h
      · rename_i a ha hro
        cases h
        cases eq_of_beq hro
        exact ⟨atomStep_editSpec _ hw hi ha (fun _ => rfl) ⟨x, a, hi, ha, rfl, modifyAtom_effect _ ha⟩
          (fun _ => rfl) (bal_rad _ _ rfl), x, a, hi, ha, rfl⟩
      · cases h
    · cases h
  | radicalIncrease i =>
    obtain ⟨x, ⟨hi, hx⟩, h⟩ := mapped_bind_ok.1 h
    cases h
    obtain ⟨a, ha⟩ := atom_getElem?_of_lt hx
    exact ⟨atomStep_editSpec _ hw hi ha (fun _ => rfl) ⟨x, a, hi, ha, modifyAtom_effect _ ha⟩
      (fun _ => rfl) (bal_rad 1 _ (Int.sub_eq_iff_eq_add'.mpr rfl)), x, hi, hx⟩
  | radicalDecrease i =>
    obtain ⟨x, ⟨hi, hx⟩, h⟩ := mapped_bind_ok.1 h
    split at h
    · split at h
      · cases h
      · rename_i a ha hr0
        cases h
        have hpos : 0 < a.radicals := Nat.pos_of_ne_zero fun h0 => hr0 (beq_iff_eq.2 h0)
        exact ⟨atomStep_editSpec _ hw hi ha (fun _ => rfl) ⟨x, a, hi, ha, hpos, modifyAtom_effect _ ha⟩
          (fun _ => rfl) (bal_rad (-1) _ (by show ((a.radicals - 1 : Nat) : Int) - a.radicals = -1; omega)), x, a, hi, ha, hpos⟩
    · cases h
  | chargeIncrease i =>
    obtain ⟨x, ⟨hi, hx⟩, h⟩ := mapped_bind_ok.1 h
    cases h
    obtain ⟨a, ha⟩ := atom_getElem?_of_lt hx
    exact ⟨atomStep_editSpec _ hw hi ha (fun _ => rfl) ⟨x, a, hi, ha, modifyAtom_effect _ ha⟩
      (fun _ => rfl) (bal_chg 1 _ (Int.sub_eq_iff_eq_add'.mpr rfl)), x, hi, hx⟩
  | chargeDecrease i =>
    obtain ⟨x, ⟨hi, hx⟩, h⟩ := mapped_bind_ok.1 h
    cases h
    obtain ⟨a, ha⟩ := atom_getElem?_of_lt hx
    exact ⟨atomStep_editSpec _ hw hi ha (fun _ => rfl) ⟨x, a, hi, ha, modifyAtom_effect _ ha⟩
      (fun _ => rfl) (bal_chg (-1) _ (Int.sub_eq_iff_eq_add'.mpr rfl)), x, hi, hx⟩
  | atomTypeModify i r c =>
    obtain ⟨x, ⟨hi, hx⟩, h⟩ := mapped_bind_ok.1 h
    cases h
    obtain ⟨a, ha⟩ := atom_getElem?_of_lt hx
    exact ⟨⟨⟨x, a, hi, ha, modifyAtom_effect _ ha⟩, wf_modifyAtom hw x _, natoms_modifyAtom m x _,
      elements_modifyAtom m x _ (fun _ => rfl), fun _ ht => nomatch ht⟩, x, hi, hx⟩

theorem applyEdit_spec {f : List Nat} {m m' : WMol} {e : Edit} (hw : m.wf = true) (h : applyEdit f m e = .ok m') :
    EditSpec f m m' e :=
  (applyEdit_ok hw h).1

/-- an edit is applied successfully exactly when its precondition holds -/
theorem applyEdit_ok_iff (f : List Nat) (m : WMol) (e : Edit) (hw : m.wf = true) :
    (∃ m', applyEdit f m e = .ok m') ↔ e.Pre f m := by
  refine ⟨fun ⟨m', h⟩ => (applyEdit_ok hw h).2, fun hp => ?_⟩
  cases e with
  | bondForm i j k =>
    obtain ⟨x, y, hi, hj, hx, hy, hne, hn⟩ := hp
    obtain ⟨m', hm'⟩ := addBond_succeeds k hne hn
    exact ⟨m', mapped_bind_ok.2 ⟨x, ⟨hi, hx⟩, mapped_bind_ok.2 ⟨y, ⟨hj, hy⟩, hm'⟩⟩⟩
  | bondBreak i j old =>
    obtain ⟨x, y, hi, hj, hx, hy, hk⟩ := hp
    refine ⟨m.removeBond x y, mapped_bind_ok.2 ⟨x, ⟨hi, hx⟩, mapped_bind_ok.2 ⟨y, ⟨hj, hy⟩, ?_⟩⟩⟩
    simp only [hk, beq_self_eq_true, if_true]; rfl
  | bondModify i j new old =>
    obtain ⟨x, y, hi, hj, hx, hy, hk⟩ := hp
    obtain ⟨m', hm'⟩ := replace_succeeds hw new hk
    refine ⟨m', mapped_bind_ok.2 ⟨x, ⟨hi, hx⟩, mapped_bind_ok.2 ⟨y, ⟨hj, hy⟩, ?_⟩⟩⟩
    simp only [hk, beq_self_eq_true, if_true]; exact hm'
  | bondIncrease i j =>
    obtain ⟨x, y, k, k', hi, hj, hx, hy, hk, hl⟩ := hp
    obtain ⟨m', hm'⟩ := replace_succeeds hw k' hk
    refine ⟨m', mapped_bind_ok.2 ⟨x, ⟨hi, hx⟩, mapped_bind_ok.2 ⟨y, ⟨hj, hy⟩, ?_⟩⟩⟩
    simp only [hk, hl]; exact hm'
  | bondDecrease i j =>
    obtain ⟨x, y, k, r, hi, hj, hx, hy, hk, hl⟩ := hp
    obtain ⟨m', hm'⟩ : ∃ m', (match r with | none => pure (m.removeBond x y) | some k' => (m.removeBond x y).addBond x y k') = Except.ok m' := by
      cases r with
      | none => exact ⟨_, rfl⟩
      | some k' => exact replace_succeeds hw k' hk
    refine ⟨m', mapped_bind_ok.2 ⟨x, ⟨hi, hx⟩, mapped_bind_ok.2 ⟨y, ⟨hj, hy⟩, ?_⟩⟩⟩
    simp only [hk, hl]; exact hm'
  | radicalModify i r old =>
    obtain ⟨x, a, hi, ha, ho⟩ := hp
    exact ⟨_, mapped_bind_ok.2 ⟨x, ⟨hi, lt_of_atom ha⟩, by simp only [ha, ho, beq_self_eq_true, if_true]; rfl⟩⟩
  | radicalIncrease i | chargeIncrease i | chargeDecrease i | atomTypeModify i _ _ =>
    obtain ⟨x, hi, hx⟩ := hp; exact ⟨_, mapped_bind_ok.2 ⟨x, ⟨hi, hx⟩, rfl⟩⟩
  | radicalDecrease i =>
    obtain ⟨x, a, hi, ha, hpos⟩ := hp
    exact ⟨_, mapped_bind_ok.2 ⟨x, ⟨hi, lt_of_atom ha⟩,
      by simp only [ha, beq_iff_eq, Nat.ne_of_gt hpos, if_false]; rfl⟩⟩

/-! ### frame of one edit, from its `Effect` -/

/-- the two shapes of `Edit.Effect`: a bond edit changes at most the bond between the atoms of its two labels and no
atom's core; an atom edit changes at most the atom of its label and no bond -/
theorem Edit.Effect.frame {f : List Nat} {m m' : WMol} {e : Edit} (h : e.Effect f m m') :
    (∃ i j x y, e.bondLabels = some (i, j) ∧ e.atomLabel = none ∧ f[i]? = some x ∧ f[j]? = some y ∧
        BondsSameExcept m m' x y ∧ CoreSame m m') ∨
      (∃ i x, e.atomLabel = some i ∧ e.bondLabels = none ∧ f[i]? = some x ∧ AtomsSameExcept m m' x ∧
        m'.bonds = m.bonds) := by
  cases e with
  | bondForm i j _ | bondBreak i j _ | bondModify i j _ _ =>
    obtain ⟨x, y, hi, hj, _, _, _, hfr, hc⟩ := h; exact .inl ⟨i, j, x, y, rfl, rfl, hi, hj, hfr, hc⟩
  | bondIncrease i j | bondDecrease i j =>
    obtain ⟨x, y, _, _, hi, hj, _, _, _, _, hfr, hc⟩ := h; exact .inl ⟨i, j, x, y, rfl, rfl, hi, hj, hfr, hc⟩
  | radicalModify i _ _ | radicalDecrease i =>
    obtain ⟨x, a, hi, _, _, _, hs, hb⟩ := h; exact .inr ⟨i, x, rfl, rfl, hi, hs, hb⟩
  | radicalIncrease i | chargeIncrease i | chargeDecrease i | atomTypeModify i _ _ =>
    obtain ⟨x, a, hi, _, _, hs, hb⟩ := h; exact .inr ⟨i, x, rfl, rfl, hi, hs, hb⟩

theorem effect_frame_atoms {f : List Nat} {m m' : WMol} {e : Edit} (h : e.Effect f m m') (z : Nat)
    (hz : z ∉ namedAtoms f [e]) : (m'.atoms[z]?).map WAtom.core = (m.atoms[z]?).map WAtom.core := by
  rcases h.frame with ⟨_, _, _, _, _, _, _, _, _, hc⟩ | ⟨i, x, hl, _, hi, hs, _⟩
  · exact core_getElem? hc z
  · rw [hs.2 z]
    rintro rfl
    exact hz (by simp [namedAtoms, hl, hi])

theorem effect_frame_bonds {f : List Nat} {m m' : WMol} {e : Edit} (h : e.Effect f m m') (u v : Nat)
    (hp : ∀ p ∈ namedPairs f [e], ¬ SamePair u v p.1 p.2) : m'.kindBetween u v = m.kindBetween u v := by
  rcases h.frame with ⟨i, j, x, y, hl, _, hi, hj, hfr, _⟩ | ⟨_, _, _, _, _, _, hb⟩
  · exact hfr u v (hp (x, y) (by simp [namedPairs, hl, hi, hj]))
  · exact kindBetween_of_bonds hb u v

/-! ### edit lists -/

theorem namedAtoms_cons (f : List Nat) (e : Edit) (es : List Edit) :
    namedAtoms f (e :: es) = namedAtoms f [e] ++ namedAtoms f es :=
  List.filterMap_append (l := [e])

theorem namedPairs_cons (f : List Nat) (e : Edit) (es : List Edit) :
    namedPairs f (e :: es) = namedPairs f [e] ++ namedPairs f es :=
  List.filterMap_append (l := [e])

theorem incSum_cons (e : Edit) (es : List Edit) (l : Nat) : incSum (e :: es) l = e.inc l + incSum es l :=
  List.sum_cons

/-- everything proved of a successfully applied edit list -/
structure EditsSpec (f : List Nat) (m m' : WMol) (es : List Edit) : Prop where
  wf : m'.wf = true
  natoms : m'.natoms = m.natoms
  elements : m'.elements = m.elements
  frameAtoms : ∀ z, z ∉ namedAtoms f es → (m'.atoms[z]?).map WAtom.core = (m.atoms[z]?).map WAtom.core
  frameBonds : ∀ u v, (∀ p ∈ namedPairs f es, ¬ SamePair u v p.1 p.2) → m'.kindBetween u v = m.kindBetween u v
  balance : f.Nodup → (∀ e ∈ es, e.isText = true) → ∀ l z, f[l]? = some z → m'.E z = m.E z - incSum es l

theorem applyEdits_spec {f : List Nat} {es : List Edit} {m m' : WMol} (hw : m.wf = true)
    (h : applyEdits f m es = .ok m') : EditsSpec f m m' es := by
  induction es generalizing m with
  | nil =>
    cases h
    exact ⟨hw, rfl, rfl, fun _ _ => rfl, fun _ _ _ => rfl, fun _ _ l z _ => (Int.sub_zero _).symm⟩
  | cons e es ih =>
    obtain ⟨m1, h1, h2⟩ := bind_ok.1 h
    have s1 := applyEdit_spec hw h1
    have s2 := ih s1.wf h2
    refine ⟨s2.wf, s2.natoms.trans s1.natoms, s2.elements.trans s1.elements, ?_, ?_, ?_⟩
    · intro z hz
      rw [namedAtoms_cons, List.mem_append, not_or] at hz
      rw [s2.frameAtoms z hz.2, effect_frame_atoms s1.effect z hz.1]
    · intro u v hp
      rw [namedPairs_cons] at hp
      rw [s2.frameBonds u v (fun p hpm => hp p (List.mem_append_right _ hpm)),
          effect_frame_bonds s1.effect u v (fun p hpm => hp p (List.mem_append_left _ hpm))]
    · intro hf ht l z hl
      rw [s2.balance hf (fun e' he' => ht e' (List.mem_cons_of_mem _ he')) l z hl,
          s1.balance hf (ht e List.mem_cons_self) l z hl, incSum_cons, Int.sub_sub]


namespace ReadRule

theorem bondType_half {w : String} {k : BK} {b : Int} (h : bondType w = .ok (k, b)) : b = k.half := by
  unfold bondType at h
  split at h <;> cases h <;> rfl

theorem optBondType_half {w : Option String} {k : BK} {b : Int} (h : optBondType w = .ok (k, b)) : b = k.half := by
  cases w with
  | none => cases h; rfl
  | some w => exact bondType_half h

theorem existingBalance_half {k : BK} {b : Int} (h : existingBalance k = .ok b) : b = k.half := by
  cases k <;> cases h <;> rfl

/-- a label that is looked up successfully is an atom of the reactant pattern -/
theorem lookup_bind_ok {β : Type} {q : Query} {l : String} {g : Nat → Except RuleErr β} {b : β}
    (h : (lookup q l >>= g) = .ok b) : ∃ i, i < q.atoms.length ∧ g i = .ok b := by
  obtain ⟨i, hi, h⟩ := bind_ok.1 h
  refine ⟨i, ?_, h⟩
  unfold lookup at hi
  split at hi
  · rename_i j hj
    cases hi
    simpa using (List.idxOf?_eq_some_iff.1 hj).1
  · cases hi

theorem getD_bump (s : St) (i : Nat) (d : Int) (hi : i < s.balance.length) (l : Nat) :
    (bump s i d).balance.getD l 0 = s.balance.getD l 0 + (if l = i then d else 0) := by
  simp only [bump, List.getD_eq_getElem?_getD, List.getElem?_modify]
  by_cases hl : l = i
  · subst hl
    rw [List.getElem?_eq_getElem hi]; simp
  · have : ¬ i = l := fun h => hl h.symm
    cases s.balance[l]? <;> simp [this, hl]

theorem length_bump (s : St) (i : Nat) (d : Int) : (bump s i d).balance.length = s.balance.length :=
  List.length_modify ..


/-- what one reader step does to the state: one text edit appended, its labels declared atoms of the reactant, the
balance moved by exactly the increments the edit declares -/
structure StepSpec (q : Query) (s s' : St) : Prop where
  ex : ∃ ed : Edit, s'.edits = s.edits ++ [ed] ∧ ed.isText = true ∧ (∀ l ∈ ed.labels, l < q.atoms.length) ∧
    ∀ l, s'.balance.getD l 0 = s.balance.getD l 0 + ed.inc l
  len : s'.balance.length = s.balance.length

theorem push_bump2 {q : Query} {s : St} {i j : Nat} {d : Int} {ed : Edit} (hlen : s.balance.length = q.atoms.length)
    (hi : i < q.atoms.length) (hj : j < q.atoms.length) (ht : ed.isText = true) (hl : ed.labels = [i, j])
    (hinc : ∀ l, ed.inc l = (if l = i then d else 0) + (if l = j then d else 0)) :
    StepSpec q s (push (bump (bump s i d) j d) ed) := by
  refine ⟨⟨ed, rfl, ht, ?_, ?_⟩, ?_⟩
  · intro l hl'; rw [hl] at hl'; simp at hl'; rcases hl' with rfl | rfl <;> assumption
  · intro l
    show (bump (bump s i d) j d).balance.getD l 0 = _
    rw [getD_bump _ j d (by rw [length_bump, hlen]; exact hj), getD_bump _ i d (by rw [hlen]; exact hi), hinc]
    omega
  · show (bump (bump s i d) j d).balance.length = _
    rw [length_bump, length_bump]

theorem push_bump1 {q : Query} {s : St} {i : Nat} {d : Int} {ed : Edit} (hlen : s.balance.length = q.atoms.length)
    (hi : i < q.atoms.length) (ht : ed.isText = true) (hl : ed.labels = [i])
    (hinc : ∀ l, ed.inc l = (if l = i then d else 0)) :
    StepSpec q s (push (bump s i d) ed) := by
  refine ⟨⟨ed, rfl, ht, ?_, ?_⟩, ?_⟩
  · intro l hl'; rw [hl] at hl'; simp at hl'; subst hl'; exact hi
  · intro l
    show (bump s i d).balance.getD l 0 = _
    rw [getD_bump _ i d (by rw [hlen]; exact hi), hinc]
  · show (bump s i d).balance.length = _
    rw [length_bump]

theorem step_spec {q : Query} {s s' : St} {e : RawEdit} (hlen : s.balance.length = q.atoms.length)
    (h : step q s e = .ok s') : StepSpec q s s' := by
  cases e with
  | form bt l1 l2 =>
    obtain ⟨⟨k, bal⟩, hb, h⟩ := bind_ok.1 h
    obtain ⟨i, hi, h⟩ := lookup_bind_ok h
    obtain ⟨j, hj, h⟩ := lookup_bind_ok h
    cases h
    cases optBondType_half hb
    exact push_bump2 hlen hi hj rfl rfl fun _ => rfl
  | brk bt l1 l2 =>
    obtain ⟨⟨k, bal⟩, hb, h⟩ := bind_ok.1 h
    obtain ⟨i, hi, h⟩ := lookup_bind_ok h
    obtain ⟨j, hj, h⟩ := lookup_bind_ok h
    cases optBondType_half hb
    split at h
    · cases h
    · cases h
    · split at h
      · cases h
      · cases h
        exact push_bump2 hlen hi hj rfl rfl fun _ => rfl
  | modify l1 l2 bt =>
    obtain ⟨i, hi, h⟩ := lookup_bind_ok h
    obtain ⟨j, hj, h⟩ := lookup_bind_ok h
    split at h
    · cases h
    · cases h
    · obtain ⟨bal1, hb1, h⟩ := bind_ok.1 h
      obtain ⟨⟨k, bal⟩, hb, h⟩ := bind_ok.1 h
      cases h
      cases bondType_half hb
      cases existingBalance_half hb1
      exact push_bump2 hlen hi hj rfl rfl fun _ => rfl
  | increase l1 l2 | decrease l1 l2 =>
    obtain ⟨i, hi, h⟩ := lookup_bind_ok h
    obtain ⟨j, hj, h⟩ := lookup_bind_ok h
    cases h
    exact push_bump2 hlen hi hj rfl rfl fun _ => rfl
  | atomType l ty =>
    obtain ⟨i, _, h⟩ := lookup_bind_ok h
    cases h
  | radSet l n =>
    obtain ⟨i, hi, h⟩ := lookup_bind_ok h
    split at h
    · cases h
    · split at h
      · cases h
      · cases h
        exact push_bump1 hlen hi rfl rfl fun _ => rfl
  | radInc l | radDec l | chgInc l | chgDec l =>
    obtain ⟨i, hi, h⟩ := lookup_bind_ok h
    cases h
    exact push_bump1 hlen hi rfl rfl fun _ => rfl

/-- what reading a whole transformation chain does -/
structure StepsSpec (q : Query) (s s' : St) : Prop where
  ex : ∃ new : List Edit, s'.edits = s.edits ++ new ∧ (∀ e ∈ new, e.isText = true) ∧
    (∀ e ∈ new, ∀ l ∈ e.labels, l < q.atoms.length) ∧
    ∀ l, s'.balance.getD l 0 = s.balance.getD l 0 + incSum new l
  len : s'.balance.length = s.balance.length

theorem steps_spec {q : Query} {es : List RawEdit} {s s' : St} (hlen : s.balance.length = q.atoms.length)
    (h : steps q s es = .ok s') : StepsSpec q s s' := by
  induction es generalizing s with
  | nil =>
    cases h
    exact ⟨⟨[], (List.append_nil _).symm, List.forall_mem_nil _, List.forall_mem_nil _, fun _ => (Int.add_zero _).symm⟩, rfl⟩
  | cons e es ih =>
    obtain ⟨s1, h1, h2⟩ := bind_ok.1 h
    have a := step_spec hlen h1
    have b := ih (a.len.trans hlen) h2
    obtain ⟨ed, he, ht, hr, hb⟩ := a.ex
    obtain ⟨new, hn, hts, hrs, hbs⟩ := b.ex
    refine ⟨⟨ed :: new, ?_, List.forall_mem_cons.2 ⟨ht, hts⟩, List.forall_mem_cons.2 ⟨hr, hrs⟩, ?_⟩, b.len.trans a.len⟩
    · rw [hn, he, List.append_assoc]; rfl
    · intro l; rw [hbs l, hb l, incSum_cons, Int.add_assoc]

end ReadRule

theorem getD_replicate_zero (n l : Nat) : (List.replicate n (0 : Int)).getD l 0 = 0 := by
  simp only [List.getD_eq_getElem?_getD, List.getElem?_replicate]
  split <;> rfl

theorem all_zero_iff (b : List Int) : b.all (· == 0) = true ↔ ∀ l, b.getD l 0 = 0 := by
  simp only [List.all_eq_true, beq_iff_eq, List.getD_eq_getElem?_getD]
  constructor
  · intro h l
    cases hl : b[l]? with
    | none => rfl
    | some v => exact h v (List.mem_of_getElem? hl)
  · intro h v hv
    obtain ⟨l, hl⟩ := List.getElem?_of_mem hv
    simpa [hl] using h l

/-- reading a transformation chain from the initial state: the edits are text edits on declared atoms, and the final
balance is zero everywhere exactly when their declared increments cancel at every label -/
theorem steps_init_spec {q : Query} {es : List RawEdit} {s : ReadRule.St}
    (hs : ReadRule.steps q ⟨List.replicate q.atoms.length 0, []⟩ es = .ok s) :
    (∀ e ∈ s.edits, e.isText = true) ∧ (∀ e ∈ s.edits, ∀ l ∈ e.labels, l < q.atoms.length) ∧
    (s.balance.all (· == 0) = true ↔ ∀ l, incSum s.edits l = 0) := by
  obtain ⟨new, hn, ht, hr, hbal⟩ := (ReadRule.steps_spec List.length_replicate hs).ex
  cases (List.nil_append new ▸ hn : s.edits = new)
  refine ⟨ht, hr, ?_⟩
  rw [all_zero_iff]
  simp only [hbal, getD_replicate_zero, Int.zero_add]

/-- `readRaw` once the reactant pattern is read and there is no `constraints` block -/
theorem readRaw_eq {r : RawRule} {q : Query} (hq : readFragment (.node "Fragment" r.reactant) = .ok q)
    (hc : r.hasConstraints = false) :
    readRaw r = ReadRule.steps q ⟨List.replicate q.atoms.length 0, []⟩ r.edits >>= fun s =>
      if s.balance.all (· == 0) = true then .ok ⟨r.name, q, s.edits⟩ else .error .reader := by
  unfold readRaw
  rw [hq, hc]
  rfl

/-- the pieces of a successful `readRaw` -/
theorem readRaw_ok {r : RawRule} {rule : Rule} (h : readRaw r = .ok rule) :
    ∃ q s, readFragment (.node "Fragment" r.reactant) = .ok q ∧ r.hasConstraints = false ∧
      ReadRule.steps q ⟨List.replicate q.atoms.length 0, []⟩ r.edits = .ok s ∧
      s.balance.all (· == 0) = true ∧ rule = ⟨r.name, q, s.edits⟩ := by
  cases hq : readFragment (.node "Fragment" r.reactant) with
  | error e => unfold readRaw at h; rw [hq] at h; cases h
  | ok q =>
    cases hc : r.hasConstraints with
    | true => unfold readRaw at h; rw [hq, hc] at h; cases h
    | false =>
      rw [readRaw_eq hq hc] at h
      obtain ⟨s, hs, h⟩ := bind_ok.1 h
      split at h
      · cases h; exact ⟨q, s, rfl, rfl, hs, by assumption, rfl⟩
      · cases h

theorem readRaw_spec {r : RawRule} {rule : Rule} (h : readRaw r = .ok rule) :
    readFragment (.node "Fragment" r.reactant) = .ok rule.query ∧
    (∀ e ∈ rule.edits, e.isText = true) ∧
    (∀ e ∈ rule.edits, ∀ l ∈ e.labels, l < rule.query.atoms.length) ∧
    ∀ l, incSum rule.edits l = 0 := by
  obtain ⟨q, s, hq, _, hs, hb, rfl⟩ := readRaw_ok h
  obtain ⟨ht, hr, hbal⟩ := steps_init_spec hs
  exact ⟨hq, ht, hr, hbal.1 hb⟩

/-- reading rejects exactly when some label's declared increments do not cancel -/
theorem readRaw_unbalanced {r : RawRule} {q : Query} {s : ReadRule.St}
    (hq : readFragment (.node "Fragment" r.reactant) = .ok q) (hc : r.hasConstraints = false)
    (hs : ReadRule.steps q ⟨List.replicate q.atoms.length 0, []⟩ r.edits = .ok s) :
    (readRaw r = .ok ⟨r.name, q, s.edits⟩ ↔ ∀ l, incSum s.edits l = 0) ∧
    ((∃ l, incSum s.edits l ≠ 0) → readRaw r = .error .reader) := by
  rw [readRaw_eq hq hc, hs, ← (steps_init_spec hs).2.2]
  show ((if _ then _ else _) = _ ↔ _) ∧ (_ → (if _ then _ else _) = _)
  split
  · exact ⟨iff_of_true rfl (by assumption), fun ⟨l, hl⟩ => absurd ((steps_init_spec hs).2.2.1 (by assumption) l) hl⟩
  · exact ⟨iff_of_false nofun (by assumption), fun _ => rfl⟩


/-! ### splitting into molecules -/

theorem getD_set (l : List Nat) (i v j : Nat) : (l.set i v).getD j j = if i = j ∧ i < l.length then v else l.getD j j := by
  simp only [List.getD_eq_getElem?_getD, List.getElem?_set]
  by_cases hij : i = j
  · subst hij
    by_cases hi : i < l.length
    · simp [hi]
    · simp [hi]
  · simp [hij]

/-- one bond of a relaxation pass: `relax bonds` is `bonds.foldl relaxStep` by definition -/
def relaxStep (l : List Nat) (e : WBond) : List Nat :=
  let mn := min (l.getD e.a e.a) (l.getD e.b e.b)
  (l.set e.a mn).set e.b mn

/-- what the step of every bond preserves, a pass over the bonds preserves -/
theorem foldl_relaxStep_inv {P : List Nat → Prop} (bs : List WBond) :
    (∀ l, ∀ e ∈ bs, P l → P (relaxStep l e)) → ∀ l, P l → P (bs.foldl relaxStep l) := by
  induction bs with
  | nil => exact fun _ _ h => h
  | cons e t ih =>
    exact fun hs l h => ih (fun l e he => hs l e (List.mem_cons_of_mem _ he)) _ (hs l e List.mem_cons_self h)

theorem length_relaxStep (l : List Nat) (e : WBond) : (relaxStep l e).length = l.length := by
  simp [relaxStep]

theorem length_relax (bonds : List WBond) (lab : List Nat) : (relax bonds lab).length = lab.length :=
  foldl_relaxStep_inv (P := fun l => l.length = lab.length) bonds (fun l e _ h => (length_relaxStep l e).trans h) lab rfl

theorem length_relaxFix (bonds : List WBond) : ∀ (k : Nat) (lab : List Nat), (relaxFix bonds k lab).length = lab.length := by
  intro k
  induction k with
  | zero => intro lab; rfl
  | succ k ih =>
    intro lab
    simp only [relaxFix]
    split
    · rfl
    · rw [ih, length_relax]

theorem length_compLabels (m : WMol) : (compLabels m).length = m.natoms := by
  simp [compLabels, length_relaxFix]

theorem mem_dedup : ∀ (l : List Nat) (a : Nat), a ∈ dedup l ↔ a ∈ l := by
  intro l
  induction l with
  | nil => intro a; simp [dedup]
  | cons x xs ih =>
    intro a
    simp only [dedup, List.mem_cons, List.mem_filter, ih, bne_iff_ne, ne_eq]
    constructor
    · rintro (h | ⟨h, _⟩); exact Or.inl h; exact Or.inr h
    · intro h
      by_cases hax : a = x
      · exact Or.inl hax
      · rcases h with h | h
        · exact absurd h hax
        · exact Or.inr ⟨h, hax⟩

theorem nodup_dedup : ∀ l : List Nat, (dedup l).Nodup := by
  intro l
  induction l with
  | nil => simp [dedup]
  | cons x xs ih =>
    simp only [dedup, List.nodup_cons, List.mem_filter, bne_iff_ne, ne_eq, not_and]
    exact ⟨fun _ => by simp, ih.filter _⟩

theorem sum_indicator (c : Nat) (r0 : Nat) : ∀ (D : List Nat), D.Nodup →
    (D.map (fun r => if r0 = r then c else 0)).sum = if r0 ∈ D then c else 0 := by
  intro D
  induction D with
  | nil => intro _; simp
  | cons d t ih =>
    intro hnd
    rw [List.nodup_cons] at hnd
    rw [List.map_cons, List.sum_cons, ih hnd.2]
    by_cases h : r0 = d
    · subst h; simp [hnd.1]
    · have : ¬ r0 ∈ d :: t ↔ ¬ r0 ∈ t := by simp [h]
      by_cases ht : r0 ∈ t <;> simp [h, ht]

theorem count_filter_range (p : Nat → Bool) (a n : Nat) :
    ((List.range n).filter p).count a = if p a = true then (if a < n then 1 else 0) else 0 := by
  by_cases h : p a = true
  · rw [List.count_filter h, List.count_range]; simp [h]
  · rw [if_neg h, List.count_eq_zero]
    intro hm; exact h (List.mem_filter.1 hm).2

/-- the groups of a labelling partition the indices -/
theorem groupsBy_perm (lab : List Nat) : (groupsBy lab).flatten.Perm (List.range lab.length) := by
  rw [List.perm_iff_count]
  intro a
  unfold groupsBy
  -- the count of `a` in the flattened groups is a sum over the distinct labels of an indicator of `a`'s label
  rw [← List.flatMap_def, List.count_flatMap, List.count_range]
  have hfun : (List.count a ∘ fun r => (List.range lab.length).filter fun i => lab.getD i i == r) =
      fun r => if lab.getD a a = r then (if a < lab.length then 1 else 0) else 0 := by
    funext r
    simp only [Function.comp, count_filter_range, beq_iff_eq]
  rw [hfun, sum_indicator _ _ _ (nodup_dedup lab)]
  by_cases ha : a < lab.length
  · have : lab.getD a a ∈ dedup lab := by
      rw [mem_dedup, List.getD_eq_getElem?_getD, List.getElem?_eq_getElem ha]
      exact List.getElem_mem ha
    rw [if_pos this]
  · rw [if_neg ha]; split <;> rfl

theorem components_perm (m : WMol) : (components m).flatten.Perm (List.range m.natoms) := by
  have := groupsBy_perm (compLabels m)
  rwa [length_compLabels] at this


/-! ### connectedness of the product molecules -/

theorem Adj.symm {p : WMol} {a b : Nat} (h : Adj p a b) : Adj p b a := by
  obtain ⟨e, he, hj⟩ := h
  exact ⟨e, he, by rw [joins_comm]; exact hj⟩

theorem Conn.trans {p : WMol} {a b c : Nat} (h1 : Conn p a b) (h2 : Conn p b c) : Conn p a c := by
  induction h2 with
  | refl => exact h1
  | step _ hadj ih => exact Conn.step ih hadj

theorem Conn.single {p : WMol} {a b : Nat} (h : Adj p a b) : Conn p a b := Conn.step (Conn.refl a) h

theorem Conn.symm {p : WMol} {a b : Nat} (h : Conn p a b) : Conn p b a := by
  induction h with
  | refl => exact Conn.refl _
  | step _ hadj ih => exact (Conn.single hadj.symm).trans ih

/-- every label is an atom of the same connected piece -/
def LabelsConn (p : WMol) (lab : List Nat) : Prop := ∀ i, Conn p i (lab.getD i i)

theorem relaxStep_conn {p : WMol} {lab : List Nat} (h : LabelsConn p lab) {e : WBond} (he : e ∈ p.bonds) :
    LabelsConn p (relaxStep lab e) := by
  intro i
  have hab : Adj p e.a e.b := ⟨e, he, by simp [WBond.joins]⟩
  have hmn : Conn p e.a (min (lab.getD e.a e.a) (lab.getD e.b e.b)) ∧ Conn p e.b (min (lab.getD e.a e.a) (lab.getD e.b e.b)) := by
    rcases Nat.le_total (lab.getD e.a e.a) (lab.getD e.b e.b) with hle | hle
    · rw [Nat.min_eq_left hle]
      exact ⟨h e.a, (Conn.single hab.symm).trans (h e.a)⟩
    · rw [Nat.min_eq_right hle]
      exact ⟨(Conn.single hab).trans (h e.b), h e.b⟩
  simp only [relaxStep, getD_set, List.length_set]
  split
  · rename_i hc; rw [← hc.1]; exact hmn.2
  · split
    · rename_i hc; rw [← hc.1]; exact hmn.1
    · exact h i

theorem relaxFix_conn {p : WMol} : ∀ (k : Nat) (lab : List Nat), LabelsConn p lab → LabelsConn p (relaxFix p.bonds k lab) := by
  intro k
  induction k with
  | zero => intro lab h; exact h
  | succ k ih =>
    intro lab h
    simp only [relaxFix]
    split
    · exact h
    · exact ih _ (foldl_relaxStep_inv (P := LabelsConn p) p.bonds (fun _ _ he h => relaxStep_conn h he) lab h)

theorem compLabels_conn (p : WMol) : LabelsConn p (compLabels p) := by
  apply relaxFix_conn
  intro i
  rw [List.getD_eq_getElem?_getD]
  by_cases hi : i < p.natoms
  · rw [List.getElem?_range hi]; exact Conn.refl i
  · rw [List.getElem?_eq_none (by simpa using hi)]; exact Conn.refl i

/-- two atoms are in the same product molecule exactly when they carry the same component label -/
theorem mem_components_iff (p : WMol) (a b : Nat) : (∃ c ∈ components p, a ∈ c ∧ b ∈ c) ↔
    a < p.natoms ∧ b < p.natoms ∧ (compLabels p).getD a a = (compLabels p).getD b b := by
  have hmem : ∀ i r, i ∈ (List.range (compLabels p).length).filter (fun i => (compLabels p).getD i i == r) ↔
      i < p.natoms ∧ (compLabels p).getD i i = r := fun i r => by
    rw [List.mem_filter, List.mem_range, beq_iff_eq, length_compLabels]
  constructor
  · rintro ⟨_, hc, ha, hb⟩
    obtain ⟨r, _, rfl⟩ := List.mem_map.1 hc
    rw [hmem] at ha hb
    exact ⟨ha.1, hb.1, ha.2.trans hb.2.symm⟩
  · rintro ⟨ha, hb, h⟩
    refine ⟨_, List.mem_map.2 ⟨(compLabels p).getD a a, ?_, rfl⟩, (hmem _ _).2 ⟨ha, rfl⟩, (hmem _ _).2 ⟨hb, h.symm⟩⟩
    rw [mem_dedup, List.getD_eq_getElem?_getD, List.getElem?_eq_getElem (by rwa [length_compLabels])]
    exact List.getElem_mem _

/-- the atoms of one product molecule are connected to each other along bonds of the product -/
theorem components_connected (p : WMol) : ∀ c ∈ components p, ∀ a ∈ c, ∀ b ∈ c, Conn p a b := by
  intro c hc a ha b hb
  have h1 := compLabels_conn p a
  rw [((mem_components_iff p a b).1 ⟨c, hc, ha, hb⟩).2.2] at h1
  exact h1.trans (compLabels_conn p b).symm

/-- pointwise order of labellings -/
def LabLe (l l' : List Nat) : Prop := ∀ i, l.getD i i ≤ l'.getD i i

theorem relaxStep_le (l : List Nat) (e : WBond) : LabLe (relaxStep l e) l := by
  intro i
  simp only [relaxStep, getD_set, List.length_set]
  split
  · rename_i hc; rw [← hc.1]; exact Nat.min_le_right _ _
  · split
    · rename_i hc; rw [← hc.1]; exact Nat.min_le_left _ _
    · exact Nat.le_refl _

theorem relax_le (bonds : List WBond) (l : List Nat) : LabLe (relax bonds l) l :=
  foldl_relaxStep_inv (P := (LabLe · l)) bonds (fun l' e _ h i => Nat.le_trans (relaxStep_le l' e i) (h i)) l
    fun _ => Nat.le_refl _

theorem labLe_getElem {l l' : List Nat} (h : LabLe l' l) :
    ∀ i (h1 : i < l.length) (h2 : i < l'.length), l'[i] ≤ l[i] := by
  intro i h1 h2
  have := h i
  rw [List.getD_eq_getElem?_getD, List.getD_eq_getElem?_getD, List.getElem?_eq_getElem h1, List.getElem?_eq_getElem h2] at this
  simpa using this

theorem labLe_antisymm {l l' : List Nat} (h : LabLe l l') (h' : LabLe l' l) (hlen : l.length = l'.length) : l = l' :=
  List.ext_getElem hlen fun i h1 h2 =>
    Nat.le_antisymm (labLe_getElem h i h2 h1) (labLe_getElem h' i h1 h2)

/-- labels only go down, so a pass that starts at or below `l0` and ends at `l0` started there, and every step of it
leaves `l0` as it is -/
theorem foldl_relaxStep_fixed {l0 : List Nat} : ∀ (bs : List WBond) (l : List Nat), LabLe l l0 → l.length = l0.length →
    bs.foldl relaxStep l = l0 → l = l0 ∧ ∀ e ∈ bs, relaxStep l0 e = l0 := by
  intro bs
  induction bs with
  | nil => exact fun l _ _ h => ⟨h, List.forall_mem_nil _⟩
  | cons e0 t ih =>
    intro l hle hlen h
    obtain ⟨h1, ht⟩ := ih (relaxStep l e0) (fun i => Nat.le_trans (relaxStep_le l e0 i) (hle i))
      ((length_relaxStep l e0).trans hlen) h
    cases labLe_antisymm hle (h1 ▸ relaxStep_le l e0) hlen
    exact ⟨rfl, List.forall_mem_cons.2 ⟨h1, ht⟩⟩

/-- at a fixed point of a relaxation pass the two ends of every bond (inside the labelling) carry the same label -/
theorem fixpoint_closed (bs : List WBond) (l : List Nat) (h : bs.foldl relaxStep l = l) :
    ∀ e ∈ bs, e.a < l.length → e.b < l.length → l.getD e.a e.a = l.getD e.b e.b := by
  intro e he ha hb
  have hfix := (foldl_relaxStep_fixed bs l (fun _ => Nat.le_refl _) rfl h).2 e he
  have h1 := congrArg (fun l' => l'.getD e.a e.a) hfix
  have h2 := congrArg (fun l' => l'.getD e.b e.b) hfix
  simp only [relaxStep, getD_set, List.length_set] at h1 h2
  by_cases hab : e.a = e.b
  · rw [hab]
  · have hba : ¬ e.b = e.a := fun h => hab h.symm
    simp only [hab, hba, false_and, if_false, ha, hb, and_self, if_true] at h1 h2
    omega

/-- pointwise smaller with the same length: the sum is not larger, and equal only for equal lists -/
theorem sum_le_of_le : ∀ (l l' : List Nat), l'.length = l.length →
    (∀ i (h : i < l.length) (h' : i < l'.length), l'[i] ≤ l[i]) → l'.sum ≤ l.sum ∧ (l'.sum = l.sum → l' = l) := by
  intro l
  induction l with
  | nil =>
    intro l' hlen _
    cases l' with
    | nil => exact ⟨Nat.le_refl _, fun _ => rfl⟩
    | cons _ _ => cases hlen
  | cons a t ih =>
    intro l' hlen hle
    cases l' with
    | nil => cases hlen
    | cons b t' =>
      have hab : b ≤ a := hle 0 (Nat.zero_lt_succ _) (Nat.zero_lt_succ _)
      obtain ⟨h1, h2⟩ := ih t' (Nat.succ.inj hlen) fun i h h' => hle (i + 1) (Nat.succ_lt_succ h) (Nat.succ_lt_succ h')
      rw [List.sum_cons, List.sum_cons]
      refine ⟨Nat.add_le_add hab h1, fun h => ?_⟩
      obtain ⟨rfl, h3⟩ : b = a ∧ t'.sum = t.sum := by omega
      rw [h2 h3]

/-- with more fuel than the sum of the labels, `relaxFix` ends at a fixed point of `relax` -/
theorem relaxFix_fixed (bonds : List WBond) : ∀ (k : Nat) (lab : List Nat), lab.sum < k →
    relax bonds (relaxFix bonds k lab) = relaxFix bonds k lab := by
  intro k
  induction k with
  | zero => intro lab h; omega
  | succ k ih =>
    intro lab h
    simp only [relaxFix]
    split
    · rename_i heq; exact eq_of_beq heq
    · rename_i hne
      obtain ⟨hle, heq⟩ := sum_le_of_le lab (relax bonds lab) (length_relax bonds lab)
        (labLe_getElem (relax_le bonds lab))
      have := Nat.lt_of_le_of_ne hle fun hs => hne (beq_iff_eq.2 (heq hs))
      exact ih _ (by omega)

theorem sum_range_le (n : Nat) : (List.range n).sum ≤ n * n := by
  induction n with
  | zero => exact Nat.le_refl _
  | succ n ih =>
    rw [List.range_succ, List.sum_append, Nat.succ_mul_succ, List.sum_cons, List.sum_nil]
    omega

/-- the component labelling is always a fixed point of the relaxation pass -/
theorem compLabels_fixed (m : WMol) : relax m.bonds (compLabels m) = compLabels m := by
  apply relaxFix_fixed
  have := sum_range_le m.natoms
  omega

theorem componentsClosed_true (m : WMol) : componentsClosed m = true := by
  simp [componentsClosed, compLabels_fixed]


/-- the two ends of every bond carry the same component label -/
theorem compLabels_bond {p : WMol} (hw : p.wf = true) {e : WBond} (he : e ∈ p.bonds) :
    (compLabels p).getD e.a e.a = (compLabels p).getD e.b e.b := by
  obtain ⟨⟨ha, hb⟩, _⟩ := ((wf_iff p).1 hw).1 e he
  rw [← length_compLabels] at ha hb
  exact fixpoint_closed p.bonds _ (compLabels_fixed p) e he ha hb

/-- the two ends of every bond are in the same product molecule -/
theorem components_closed (p : WMol) (hw : p.wf = true) : ∀ e ∈ p.bonds, ∃ c ∈ components p, e.a ∈ c ∧ e.b ∈ c :=
  fun e he => (mem_components_iff p e.a e.b).2 ⟨(((wf_iff p).1 hw).1 e he).1.1, (((wf_iff p).1 hw).1 e he).1.2,
    compLabels_bond hw he⟩

/-- atoms connected by bonds carry the same component label -/
theorem compLabels_conn_eq {p : WMol} (hw : p.wf = true) {a b : Nat} (h : Conn p a b) :
    (compLabels p).getD a a = (compLabels p).getD b b := by
  induction h with
  | refl => rfl
  | step _ hadj ih =>
    obtain ⟨e, he, hj⟩ := hadj
    rcases (joins_iff e _ _).1 hj with ⟨rfl, rfl⟩ | ⟨rfl, rfl⟩
    · exact ih.trans (compLabels_bond hw he)
    · exact ih.trans (compLabels_bond hw he).symm

/-! ### the reactant as the edits see it, and reading a rule -/

theorem ofMol_wf (m : Mol) (h : m.wf = true) : (WMol.ofMol m).wf = true := by
  rw [Mol.wf, Bool.and_eq_true, Bool.and_eq_true] at h
  rw [WMol.wf, Bool.and_eq_true]
  constructor
  · simp only [WMol.ofMol, WMol.natoms, List.all_map, List.length_map]
    exact h.1.1
  · simp only [WMol.ofMol, List.pairwise_map, decide_eq_true_eq]
    exact of_decide_eq_true h.1.2

theorem kindBetween_ofMol (m : Mol) (x y : Nat) :
    (WMol.ofMol m).kindBetween x y = (m.bondBetween x y).map (fun e => BK.ofKind e.kind) := by
  simp only [WMol.kindBetween, WMol.bondBetween, WMol.ofMol, Mol.bondBetween, List.find?_map, Option.map_map]
  rfl

theorem bond_joins_comm (e : Bond) (x y : Nat) : e.joins x y = e.joins y x := by
  simp only [Bond.joins, Bool.or_comm]

theorem readRule_raw {t : Ast} {r : Rule} (h : readRule t = .ok r) : ∃ raw, RawRule.ofAst t = .ok raw ∧ readRaw raw = .ok r := by
  unfold readRule at h
  exact bind_ok.1 h

theorem filterMap_range_getElem? {α β : Type} (g : α → β) (l : List α) :
    (List.range l.length).filterMap (fun i => (l[i]?).map g) = l.map g := by
  induction l with
  | nil => rfl
  | cons a l ih =>
    rw [List.length_cons, List.range_succ_eq_map, List.filterMap_cons, List.filterMap_map]
    exact congrArg (g a :: ·) ih

end PGA.Rxn
