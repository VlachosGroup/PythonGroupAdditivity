import PGA.Proofs.UnitsTables
/-! C10's table obligations on the live tables: conjuncts of one kernel evaluation, because they are all about the one
database `liveCfg` that the model builds by evaluating the definitional strings of `builtin.py`. -/
namespace PGA.Units
open PGA.SI

theorem liveCfg_checks :
    buildCfg.isOk = true ∧ checkNames liveCfg = true ∧ checkPrefixes liveCfg = true ∧
      checkIntegral liveCfg = true ∧ liveCfg.thr = extCfg.thr ∧ checkAllUnits liveCfg = true := by
  decide +kernel

theorem checkAllUnits_live : checkAllUnits liveCfg = true := liveCfg_checks.2.2.2.2.2

/-- the same for the units the reference does not know, against what their definitions mean (`PGA/Spec/SIExt.lean`) -/
theorem checkNewUnits_live : checkNewUnits liveCfg = true := by decide +kernel

end PGA.Units
