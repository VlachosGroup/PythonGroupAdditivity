import PGA.Model.LibTable
/-! Table checks of `PGA/Model/LibTable.lean` that the kernel can run cheaply.  `keysDistinct` compares every pair of
names.  The translator lists the groups of a library in ascending order of their names (Python's order on `str`, which
is the order of the UTF-8 bytes), so one comparison per neighbouring pair settles distinctness; it is made on the
bytes, which is how a string is held, so that no character is decoded.  Where names are compared pair by pair (a key
list in file order, `chainFree`, the uncertainty basis against the groups) they are compared as numbers (`nameCode`):
the kernel compares two `Nat` literals in one step, two strings byte by byte. -/
namespace PGA.LibTable

def nameBytes (s : String) : List UInt8 := s.toByteArray.data.toList

/-- strictly ascending in the order of the UTF-8 bytes -/
def keysAscending : List String → Bool
  | a :: b :: ks => decide (nameBytes a < nameBytes b) && keysAscending (b :: ks)
  | _ => true

theorem keysAscending_head_lt : ∀ {a : String} {ks : List String}, keysAscending (a :: ks) = true →
    ∀ k ∈ ks, nameBytes a < nameBytes k
  | _, b :: ks, h, k, hk => by
    simp only [keysAscending, Bool.and_eq_true, decide_eq_true_eq] at h
    rcases List.mem_cons.mp hk with rfl | hk
    · exact h.1
    · exact List.lt_trans h.1 (keysAscending_head_lt h.2 k hk)

theorem keysDistinct_of_ascending : ∀ {ks : List String}, keysAscending ks = true → keysDistinct ks = true
  | [], _ => rfl
  | a :: ks, h => by
    have tail : keysAscending ks = true := by
      cases ks with
      | nil => rfl
      | cons b ks => exact (Bool.and_eq_true _ _ ▸ h : _ ∧ _).2
    simp only [keysDistinct, Bool.and_eq_true, Bool.not_eq_true', List.contains_eq_mem, decide_eq_false_iff_not]
    exact ⟨fun hm => List.lt_irrefl _ (keysAscending_head_lt h a hm), keysDistinct_of_ascending tail⟩

/-! ### names as numbers -/

theorem nameBytes_inj {a b : String} (h : nameBytes a = nameBytes b) : a = b := by
  unfold nameBytes at h
  exact String.toByteArray_inj.mp (ByteArray.ext (Array.toList_inj.mp h))

/-- a name as a number: its UTF-8 bytes, each plus one, as digits in base 257 -/
def nameCode (s : String) : Nat := (nameBytes s).foldl (fun n b => n * 257 + (b.toNat + 1)) 0

theorem foldl_code_inj : ∀ (l l' : List UInt8),
    l.reverse.foldl (fun n b => n * 257 + (b.toNat + 1)) 0 = l'.reverse.foldl (fun n b => n * 257 + (b.toNat + 1)) 0 → l = l'
  | [], [], _ => rfl
  | [], b :: l', h => by simp only [List.reverse_nil, List.foldl_nil, List.reverse_cons, List.foldl_append, List.foldl_cons] at h; omega
  | b :: l, [], h => by simp only [List.reverse_nil, List.foldl_nil, List.reverse_cons, List.foldl_append, List.foldl_cons] at h; omega
  | b :: l, b' :: l', h => by
    simp only [List.reverse_cons, List.foldl_append, List.foldl_cons, List.foldl_nil] at h
    have hb := b.toNat_lt; have hb' := b'.toNat_lt
    have h1 : b.toNat = b'.toNat := by omega
    have h2 := foldl_code_inj l l' (by omega)
    rw [h2, UInt8.toNat_inj.mp h1]

theorem nameCode_inj {a b : String} (h : nameCode a = nameCode b) : a = b := by
  unfold nameCode at h
  rw [← (nameBytes a).reverse_reverse, ← (nameBytes b).reverse_reverse] at h
  exact nameBytes_inj (List.reverse_inj.mp (foldl_code_inj _ _ h))

theorem beq_eq_code (a b : String) : (a == b) = (nameCode a == nameCode b) := by
  by_cases h : a = b
  · rw [h, beq_self_eq_true, beq_self_eq_true]
  · rw [beq_eq_false_iff_ne.mpr h, beq_eq_false_iff_ne.mpr fun hc => h (nameCode_inj hc)]

/-- `keysDistinct` on numbers -/
def codesDistinct : List Nat → Bool
  | [] => true
  | k :: ks => !ks.contains k && codesDistinct ks

theorem contains_eq_codes (k : String) : ∀ ks : List String, ks.contains k = (ks.map nameCode).contains (nameCode k)
  | [] => rfl
  | a :: ks => by simp only [List.contains_cons, List.map_cons, beq_eq_code, contains_eq_codes k ks]

theorem keysDistinct_eq_codes : ∀ ks : List String, keysDistinct ks = codesDistinct (ks.map nameCode)
  | [] => rfl
  | k :: ks => by simp only [keysDistinct, codesDistinct, List.map_cons, contains_eq_codes, keysDistinct_eq_codes ks]

theorem chainFree_eq_codes (rs : List Remap) : chainFree rs =
    rs.all fun r => r.targets.all fun t => !(rs.any fun r' => nameCode r'.key == nameCode t.2) := by
  simp only [chainFree, beq_eq_code]

theorem basisHasData_eq_codes (basis : List String) (gs : List GroupRec) :
    basis.all (fun d => gs.any fun g => g.name == d && g.hasThermo) =
      basis.all (fun d => gs.any fun g => nameCode g.name == nameCode d && g.hasThermo) := by
  simp only [beq_eq_code]
end PGA.LibTable
