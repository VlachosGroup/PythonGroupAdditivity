import PGA.Spec.MolUnion
import PGA.Proofs.MolIso
import PGA.Proofs.Decompose
/-! The disjoint union of two graphs (`Mol.union`): it is well formed, both injections (the identity on the left part,
the shift on the right part) find a renamed copy of their part with no further bond or ring at its atoms, hence are
`OpenMap`s; the neighbour lists are those of the parts, and the Benson perception acts on the two parts separately. -/
namespace PGA.Spec
open PGA PGA.Arom PGA.Match
open PGA.Decompose (wf_aromatizeRings aromStep_natoms aromatizeRings_natoms)

theorem union_natoms (A B : Mol) : (A.union B).natoms = A.natoms + B.natoms := List.length_append

theorem mol_ext {m m' : Mol} (h1 : m.atoms = m'.atoms) (h2 : m.bonds = m'.bonds) (h3 : m.rings = m'.rings) :
    m = m' := by
  cases m; cases m'; simp only at h1 h2 h3; subst h1 h2 h3; rfl

/-! ### no bond and no ring of one part at an atom of the other -/
theorem touches_shifted (k : Nat) (e : Bond) {x : Nat} (hx : x < k) : (relabelBond (· + k) e).touches x = false := by
  simp only [Bond.touches, relabelBond, Bool.or_eq_false_iff, beq_eq_false_iff_ne]
  omega

theorem touches_ge (A : Mol) (hA : A.wf = true) (x : Nat) : ∀ e ∈ A.bonds, e.touches (x + A.natoms) = false := by
  intro e he
  obtain ⟨ha, hb, _⟩ := (A.wf_iff.1 hA).1 e he
  simp only [Bond.touches, Bool.or_eq_false_iff, beq_eq_false_iff_ne]
  omega

theorem not_mem_shifted (k : Nat) (r : List Nat) {x : Nat} (hx : x < k) : x ∉ r.map (· + k) :=
  fun h => let ⟨y, _, hy⟩ := List.mem_map.1 h; Nat.not_lt.2 (Nat.le_add_left k y) (hy ▸ hx)

theorem wf_rings_lt (m : Mol) (h : m.wf = true) : ∀ r ∈ m.rings, ∀ x ∈ r, x < m.natoms :=
  fun r hr => ((m.wf_iff.1 h).2.2 r hr).2

theorem union_bond_sides (A B : Mol) (hA : A.wf = true) :
    ∀ e ∈ (A.union B).bonds, (e.a < A.natoms ↔ e.b < A.natoms) := by
  intro e he
  rcases List.mem_append.1 he with he | he
  · obtain ⟨ha, hb, _⟩ := (A.wf_iff.1 hA).1 e he
    exact iff_of_true ha hb
  · obtain ⟨e0, _, rfl⟩ := List.mem_map.1 he
    exact iff_of_false (Nat.not_lt.2 (Nat.le_add_left _ _)) (Nat.not_lt.2 (Nat.le_add_left _ _))

theorem wf_union (A B : Mol) (hA : A.wf = true) (hB : B.wf = true) : (A.union B).wf = true := by
  obtain ⟨a1, a2, a3⟩ := A.wf_iff.1 hA
  obtain ⟨b1, b2, b3⟩ := B.wf_iff.1 hB
  have shift_lt : ∀ {y}, y < B.natoms → y + A.natoms < A.natoms + B.natoms :=
    fun h => Nat.add_comm _ _ ▸ Nat.add_lt_add_left h _
  rw [Mol.wf_iff, union_natoms]
  refine ⟨List.forall_mem_append.2 ⟨fun e he => ?_, List.forall_mem_map.2 fun e he => ?_⟩,
    List.pairwise_append.2 ⟨a2, pairwise_relabel (add_left_injective _) _ b2, fun e he e' he' => ?_⟩,
    List.forall_mem_append.2 ⟨fun r hr => ?_, List.forall_mem_map.2 fun r hr => ?_⟩⟩
  · exact ⟨Nat.lt_add_right _ (a1 e he).1, Nat.lt_add_right _ (a1 e he).2.1, (a1 e he).2.2⟩
  · exact ⟨shift_lt (b1 e he).1, shift_lt (b1 e he).2.1, fun h => (b1 e he).2.2 (Nat.add_right_cancel h)⟩
  · obtain ⟨e0, _, rfl⟩ := List.mem_map.1 he'
    exact Bool.eq_false_iff.2 fun hj =>
      Bool.false_ne_true ((touches_shifted _ e0 (a1 e he).1).symm.trans (touches_of_joins hj))
  · exact ⟨(a3 r hr).1, fun x hx => Nat.lt_add_right _ ((a3 r hr).2 x hx)⟩
  · exact ⟨(b3 r hr).1.map (add_left_injective _), List.forall_mem_map.2 fun y hy => shift_lt ((b3 r hr).2 y hy)⟩

/-! ### lookups in the union -/
theorem atom?_union_left (A B : Mol) (x : Nat) (hx : x < A.natoms) : (A.union B).atom? x = A.atom? x :=
  List.getElem?_append_left hx

theorem atom?_union_right (A B : Mol) (x : Nat) : (A.union B).atom? (x + A.natoms) = B.atom? x := by
  show (A.atoms ++ B.atoms)[x + A.atoms.length]? = B.atoms[x]?
  rw [List.getElem?_append_right (Nat.le_add_left _ _), Nat.add_sub_cancel]

theorem find?_joins_none (l : List Bond) (x y : Nat) (h : ∀ e ∈ l, e.touches x = false) :
    l.find? (·.joins x y) = none :=
  List.find?_eq_none.2 fun e he hj => Bool.false_ne_true ((h e he).symm.trans (touches_of_joins hj))

theorem bondBetween_union_left (A B : Mol) (x y : Nat) (hx : x < A.natoms) :
    (A.union B).bondBetween x y = A.bondBetween x y := by
  unfold Mol.bondBetween Mol.union
  rw [List.find?_append, find?_joins_none _ x y (List.forall_mem_map.2 fun e _ => touches_shifted _ e hx), Option.or_none]

theorem bondBetween_union_right (A B : Mol) (hA : A.wf = true) (x y : Nat) :
    (A.union B).bondBetween (x + A.natoms) (y + A.natoms) =
      (B.bondBetween x y).map (relabelBond (fun x => x + A.natoms)) := by
  unfold Mol.bondBetween Mol.union
  rw [List.find?_append, find?_joins_none _ _ _ (touches_ge A hA x), Option.none_or, List.find?_map]
  exact congrArg _ (congrArg (List.find? · _) (funext fun e => joins_relabel (add_left_injective _) e x y))

/-! ### the two injections are open -/
theorem union_openMap_left (A B : Mol) (hA : A.wf = true) (hB : B.wf = true) : OpenMap id A (A.union B) := by
  refine OpenMap.ofCopy (rest := B.bonds.map (relabelBond (· + A.natoms))) Function.injective_id hA (wf_union A B hA hB)
    (by rw [relabelBond_id, List.map_id]; exact .refl _)
    (fun x hx => List.forall_mem_map.2 fun e _ => touches_shifted _ e hx) (atom?_union_left A B) fun x hx => ?_
  refine ringsThrough_image (pre := []) (post := B.rings.map (List.map (· + A.natoms))) Function.injective_id ?_
    (fun _ h => nomatch h) (List.forall_mem_map.2 fun r _ => not_mem_shifted _ r hx)
  rw [List.map_id_fun, List.map_id]
  rfl

theorem union_openMap_right (A B : Mol) (hA : A.wf = true) (hB : B.wf = true) :
    OpenMap (· + A.natoms) B (A.union B) :=
  OpenMap.ofCopy (add_left_injective _) hB (wf_union A B hA hB) List.perm_append_comm (fun x _ => touches_ge A hA x)
    (fun x _ => atom?_union_right A B x) fun _ _ =>
    ringsThrough_image (pre := A.rings) (post := []) (add_left_injective _) (List.append_nil _).symm
      (fun r hr h => Nat.not_lt.2 (Nat.le_add_left _ _) (wf_rings_lt A hA r hr _ h)) (fun _ h => nomatch h)

/-! ### neighbour lists -/
theorem neighbours_union_left (A B : Mol) (i : Nat) (hi : i < A.natoms) :
    Decompose.neighbours (A.union B) i = Decompose.neighbours A i := by
  unfold Decompose.neighbours Mol.bondsOf Mol.union
  rw [List.filter_append, filter_touches_nil _ i (List.forall_mem_map.2 fun e _ => touches_shifted _ e hi),
    List.append_nil]

theorem neighbours_union_right (A B : Mol) (hA : A.wf = true) (j : Nat) :
    Decompose.neighbours (A.union B) (j + A.natoms) = (Decompose.neighbours B j).map (· + A.natoms) := by
  unfold Decompose.neighbours Mol.bondsOf Mol.union
  rw [List.filter_append, filter_touches_nil _ _ (touches_ge A hA j), List.nil_append, List.filter_map, List.map_map,
    List.map_map]
  exact (congrArg _ (List.filter_congr fun e _ => touches_relabel (add_left_injective _) e j)).trans
    (List.map_congr_left fun e _ => other_relabel (add_left_injective _) e j)

/-! ### the Benson perception on a union -/
theorem eligible_union_left (A B : Mol) (r : List Nat) (hr : ∀ x ∈ r, x < A.natoms) :
    eligible (A.union B) r = eligible A r := by
  have := eligible_map id A (A.union B) (· < A.natoms) r hr
    (fun x hx => isC_congr (atom?_union_left A B x hx))
    (fun x y hx _ => congrArg (Option.map Bond.kind) (bondBetween_union_left A B x y hx))
  rwa [List.map_id] at this

theorem eligible_union_right (A B : Mol) (hA : A.wf = true) (r : List Nat) :
    eligible (A.union B) (r.map (fun x => x + A.natoms)) = eligible B r :=
  eligible_map _ B (A.union B) (fun _ => True) r (fun _ _ => trivial) (fun x _ => isC_congr (atom?_union_right A B x))
    (fun x y _ _ => kindAt_congr (bondBetween_union_right A B hA x y))

theorem edgePairs_fst {r : List Nat} {p : Nat × Nat} (hp : p ∈ edgePairs r) : p.1 ∈ r := by
  by_cases hl : r.length = 6
  · obtain ⟨a0, a1, a2, a3, a4, a5, rfl⟩ := six_of_length hl
    exact List.mem_map_of_mem (f := Prod.fst) hp
  · exact nomatch edgePairs_length_ne r hl ▸ hp

/-- a bond between two atoms outside `r` is no ring bond of `r` -/
theorem ringEdge_eq_false (r : List Nat) (e : Bond) (ha : e.a ∉ r) (hb : e.b ∉ r) : ringEdge r e = false := by
  refine Bool.eq_false_iff.2 fun h => ?_
  obtain ⟨p, hp, hj⟩ := List.any_eq_true.1 h
  rcases (joins_ends_eq e _ _).1 hj with ⟨h1, _⟩ | ⟨_, h1⟩
  · exact ha (h1 ▸ edgePairs_fst hp)
  · exact hb (h1 ▸ edgePairs_fst hp)

theorem setAromatic_nil (m : Mol) : setAromatic m [] = m :=
  mol_ext (List.ext_getElem? fun i => List.getElem?_mapIdx.trans (by cases m.atoms[i]? <;> rfl)) (List.map_id _) rfl

/-- marking a ring in a union, from what the ring looks like in either part -/
theorem setAromatic_union (A B : Mol) (r rA rB : List Nat)
    (hA : ∀ i, i < A.natoms → r.contains i = rA.contains i) (hB : ∀ i, r.contains (i + A.natoms) = rB.contains i)
    (eA : ∀ e ∈ A.bonds, ringEdge r e = ringEdge rA e)
    (eB : ∀ e ∈ B.bonds, ringEdge r (relabelBond (· + A.natoms) e) = ringEdge rB e) :
    setAromatic (A.union B) r = (setAromatic A rA).union (setAromatic B rB) := by
  apply mol_ext
  · show (A.atoms ++ B.atoms).mapIdx _ = A.atoms.mapIdx _ ++ B.atoms.mapIdx _
    rw [List.mapIdx_append]
    congr 1
    · exact List.mapIdx_eq_mapIdx_iff.2 fun i hi => by rw [hA i hi]
    · exact List.mapIdx_eq_mapIdx_iff.2 fun i _ => by rw [show r.contains (i + A.atoms.length) = _ from hB i]
  · show (A.bonds ++ B.bonds.map _).map _ = A.bonds.map _ ++ (B.bonds.map _).map _
    rw [List.map_append, List.map_map, List.map_map, setAromatic_natoms]
    refine congrArg₂ _ (List.map_congr_left fun e he => by rw [eA e he]) (List.map_congr_left fun e he => ?_)
    show stepAny _ _ = relabelBond _ (stepAny _ e)
    rw [eB e he]
    cases ringEdge rB e <;> rfl
  · show A.rings ++ _ = A.rings ++ _
    rw [setAromatic_natoms]
    rfl

theorem setAromatic_union_left (A B : Mol) (r : List Nat) (hr : ∀ x ∈ r, x < A.natoms) :
    setAromatic (A.union B) r = (setAromatic A r).union B := by
  have out : ∀ y : Nat, y + A.natoms ∉ r := fun y h => Nat.not_lt.2 (Nat.le_add_left _ _) (hr _ h)
  have := setAromatic_union A B r r [] (fun _ _ => rfl)
    (fun i => Bool.eq_false_iff.2 fun h => out i (List.contains_iff_mem.1 h)) (fun _ _ => rfl)
    (fun e _ => ringEdge_eq_false r _ (out e.a) (out e.b))
  rwa [setAromatic_nil] at this

theorem setAromatic_union_right (A B : Mol) (hA : A.wf = true) (r : List Nat) :
    setAromatic (A.union B) (r.map (fun x => x + A.natoms)) = A.union (setAromatic B r) := by
  have := setAromatic_union A B (r.map (· + A.natoms)) [] r
    (fun i hi => Bool.eq_false_iff.2 fun h => not_mem_shifted _ r hi (List.contains_iff_mem.1 h))
    (contains_map_inj (add_left_injective _) r)
    (fun e he => ringEdge_eq_false _ e (not_mem_shifted _ r ((A.wf_iff.1 hA).1 e he).1)
      (not_mem_shifted _ r ((A.wf_iff.1 hA).1 e he).2.1))
    (fun e _ => ringEdge_relabel (add_left_injective _) r e)
  rwa [setAromatic_nil] at this

theorem aromStep_union_left (A B : Mol) (r : List Nat) (hr : ∀ x ∈ r, x < A.natoms) :
    aromStep (A.union B) r = (aromStep A r).union B := by
  unfold aromStep
  rw [eligible_union_left A B r hr]
  split
  · exact setAromatic_union_left A B r hr
  · rfl

theorem aromStep_union_right (A B : Mol) (hA : A.wf = true) (r : List Nat) :
    aromStep (A.union B) (r.map (fun x => x + A.natoms)) = A.union (aromStep B r) := by
  unfold aromStep
  rw [eligible_union_right A B hA r]
  split
  · exact setAromatic_union_right A B hA r
  · rfl

theorem aromatizeRings_union_left (rs : List (List Nat)) (A B : Mol) (hr : ∀ r ∈ rs, ∀ x ∈ r, x < A.natoms) :
    aromatizeRings rs (A.union B) = (aromatizeRings rs A).union B := by
  induction rs generalizing A with
  | nil => rfl
  | cons r rs ih =>
    unfold aromatizeRings at ih ⊢
    rw [List.foldl_cons, aromStep_union_left A B r (hr r List.mem_cons_self)]
    exact ih _ fun r' hr' x hx => aromStep_natoms A r ▸ hr r' (List.mem_cons_of_mem _ hr') x hx

theorem aromatizeRings_union_right (rs : List (List Nat)) (A B : Mol) (hA : A.wf = true) :
    aromatizeRings (rs.map (List.map (fun x => x + A.natoms))) (A.union B) = A.union (aromatizeRings rs B) := by
  induction rs generalizing B with
  | nil => rfl
  | cons r rs ih =>
    unfold aromatizeRings at ih ⊢
    rw [List.map_cons, List.foldl_cons, aromStep_union_right A B hA r]
    exact ih _

theorem relabelBond_kind (π : Nat → Nat) (e : Bond) (k : BondKind) :
    relabelBond π { e with kind := k } = { relabelBond π e with kind := k } := rfl

theorem aromatizeBenson_union (A B : Mol) (hA : A.wf = true) (hB : B.wf = true) :
    aromatizeBenson (A.union B) = (aromatizeBenson A).union (aromatizeBenson B) := by
  have _ := hB
  unfold aromatizeBenson
  show aromatizeRings (A.rings ++ B.rings.map (List.map (fun x => x + A.natoms))) (A.union B) = _
  unfold aromatizeRings
  rw [List.foldl_append]
  have := aromatizeRings_union_right B.rings (aromatizeRings A.rings A) B (wf_aromatizeRings _ _ hA)
  rw [aromatizeRings_natoms] at this
  exact (congrArg _ (aromatizeRings_union_left A.rings A B (wf_rings_lt A hA))).trans this

end PGA.Spec
