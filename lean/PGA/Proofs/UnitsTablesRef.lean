import PGA.Proofs.UnitsTables
/-! The SI reference read through the three-step lookup over the reference's own table (`checkRefSelf`). -/
namespace PGA.Units

theorem checkRefSelf_holds : checkRefSelf = true := by decide +kernel

end PGA.Units
