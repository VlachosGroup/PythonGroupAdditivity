import PGA.Model.ListUtil
/-! `uniq` (a Python `set` as a duplicate-free list): membership, distinctness, dependence on the members only. -/
namespace PGA
variable {α : Type} [DecidableEq α]

theorem mem_uniq (a : α) (l : List α) : a ∈ uniq l ↔ a ∈ l := by
  induction l with
  | nil => rfl
  | cons b l ih =>
    rw [uniq, List.mem_cons]
    split
    · rename_i h; exact ih.trans ⟨Or.inr, fun h' => h'.elim (· ▸ h) id⟩
    · exact List.mem_cons.trans (or_congr_right ih)

theorem nodup_uniq (l : List α) : (uniq l).Nodup := by
  induction l with
  | nil => simp [uniq]
  | cons b l ih =>
    unfold uniq
    split
    · exact ih
    · rename_i h; exact List.nodup_cons.mpr ⟨by rwa [mem_uniq], ih⟩

theorem uniq_perm {l l' : List α} (h : ∀ a, a ∈ l ↔ a ∈ l') : (uniq l).Perm (uniq l') := by
  rw [List.perm_iff_count]
  intro a
  rw [(nodup_uniq l).count, (nodup_uniq l').count]
  simp only [mem_uniq, h a]

end PGA
