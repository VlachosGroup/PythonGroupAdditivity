import PGA.Spec.GroupName
import PGA.Proofs.Chars
import PGA.Proofs.ListUtil
/-! Helper lemmas for C19 (group-name round trip). -/
namespace PGA.GroupName
open PGA.Chars

/-! ### splitting on parentheses -/

def NoParen (n : Name) : Prop := ∀ c ∈ n, isParen c = false

theorem splitParens_ne_nil (s : List Char) : splitParens s ≠ [] := by
  induction s with
  | nil => simp [splitParens]
  | cons c cs ih =>
    unfold splitParens
    split
    · simp
    · split <;> simp

theorem splitParens_noParen_append (pre : Name) (hpre : NoParen pre) (c : Char) (hc : isParen c = true)
    (rest : List Char) : splitParens (pre ++ c :: rest) = pre :: splitParens rest := by
  induction pre with
  | nil =>
    simp only [List.nil_append]
    rw [splitParens]
    cases h : splitParens rest with
    | nil => exact absurd h (splitParens_ne_nil rest)
    | cons p ps => simp [hc]
  | cons a pre ih =>
    have ha : isParen a = false := hpre a (by simp)
    have hpre' : NoParen pre := fun x hx => hpre x (by simp [hx])
    simp only [List.cons_append]
    rw [splitParens, ih hpre']
    simp [ha]

theorem splitParens_noParen (pre : Name) (hpre : NoParen pre) : splitParens pre = [pre] := by
  induction pre with
  | nil => simp [splitParens]
  | cons a pre ih =>
    have ha : isParen a = false := hpre a (by simp)
    have hpre' : NoParen pre := fun x hx => hpre x (by simp [hx])
    rw [splitParens, ih hpre']
    simp [ha]


theorem noParen_of_WFName {n : Name} (h : WFName n = true) : NoParen n := by
  intro c hc
  have := (List.all_eq_true.mp h) c hc
  simpa using this

theorem noParen_showNat (n : Nat) : NoParen (showNat n) := by
  intro c hc
  obtain ⟨d, hd, rfl⟩ := showNat_all_digit n c hc
  have := digitChar_ne_paren ⟨d, hd⟩
  simp [isParen, this.1, this.2]

theorem noParen_suffix (r : Run) : NoParen r.suffix := by
  unfold Run.suffix
  cases r.cnt with
  | none => intro c hc; simp at hc
  | some n => exact noParen_showNat n

/-! ### parts of a spelling -/

def tailParts (runs : List Run) : List Name := runs.flatMap fun r => [r.name, r.suffix]

theorem splitParens_spell (pre : Name) (hpre : NoParen pre) (runs : List Run)
    (h : ∀ r ∈ runs, NoParen r.name) :
    splitParens (pre ++ (runs.map fun r => '(' :: (r.name ++ ')' :: r.suffix)).flatten)
      = pre :: tailParts runs := by
  induction runs generalizing pre with
  | nil => simp [tailParts, splitParens_noParen pre hpre]
  | cons r rs ih =>
    have hr : NoParen r.name := h r (by simp)
    have hrs : ∀ r ∈ rs, NoParen r.name := fun x hx => h x (by simp [hx])
    simp only [List.map_cons, List.flatten_cons, List.cons_append, List.append_assoc]
    rw [splitParens_noParen_append pre hpre '(' (by decide)]
    rw [splitParens_noParen_append r.name hr ')' (by decide)]
    rw [ih r.suffix (noParen_suffix r) hrs]
    simp [tailParts]

/-! ### the parse loop on the parts of a spelling -/

theorem parseLoop_nil (next : Option Name) (acc : List Name) :
    parseLoop [] next acc = .ok (flush next acc) := by
  simp only [parseLoop]

theorem parseLoop_cons_empty (part : Name) (rest : List Name) (next : Option Name) (acc : List Name)
    (h : part.isEmpty = true) : parseLoop (part :: rest) next acc = parseLoop rest next acc := by
  simp [parseLoop, h]

theorem parseLoop_cons_name (part : Name) (rest : List Name) (next : Option Name) (acc : List Name)
    (h : part.isEmpty = false) (hd : isDigitStr part = false) :
    parseLoop (part :: rest) next acc = parseLoop rest (some part) (flush next acc) := by
  simp [parseLoop, h, hd]

theorem parseLoop_cons_count (part : Name) (rest : List Name) (p : Name) (n : Nat) (acc : List Name)
    (h : part.isEmpty = false) (hd : isDigitStr part = true) (hn : readNat part = some n) :
    parseLoop (part :: rest) (some p) acc = parseLoop rest none (acc ++ List.replicate n p) := by
  simp [parseLoop, h, hd, hn]

theorem parseLoop_cons_count_none (part : Name) (rest : List Name) (acc : List Name)
    (h : part.isEmpty = false) (hd : isDigitStr part = true) :
    parseLoop (part :: rest) none acc = .error .syntax := by
  simp [parseLoop, h, hd]

theorem parseLoop_tailParts (runs : List Run)
    (h : ∀ r ∈ runs, WFPsg r.name = true ∧ r.count < intLimit)
    (hpos : 0 < PGA.Gen.Chars.intMaxStrDigits) (next : Option Name) (acc : List Name) :
    parseLoop (tailParts runs) next acc = .ok (flush next acc ++ expandRuns runs) := by
  induction runs generalizing next acc with
  | nil => cases next <;> simp [tailParts, parseLoop_nil, flush, expandRuns]
  | cons r rs ih =>
    have hr := h r (by simp)
    have hrs : ∀ r ∈ rs, WFPsg r.name = true ∧ r.count < intLimit := fun x hx => h x (by simp [hx])
    obtain ⟨hwf, hcnt⟩ := hr
    simp only [WFPsg, Bool.and_eq_true, Bool.not_eq_true'] at hwf
    obtain ⟨⟨_, hne⟩, hnd⟩ := hwf
    have htp : tailParts (r :: rs) = r.name :: r.suffix :: tailParts rs := by simp [tailParts]
    rw [htp, parseLoop_cons_name _ _ _ _ hne hnd]
    cases hc : r.cnt with
    | none =>
      have hs : r.suffix = [] := by simp [Run.suffix, hc]
      have hn : r.count = 1 := by simp [Run.count, hc]
      rw [hs, parseLoop_cons_empty _ _ _ _ rfl, ih hrs]
      simp [flush, expandRuns, hn]
    | some n =>
      have hs : r.suffix = showNat n := by simp [Run.suffix, hc]
      have hn : r.count = n := by simp [Run.count, hc]
      rw [hs, parseLoop_cons_count _ _ _ n _ (isEmpty_showNat n) (isDigitStr_showNat n)
        (readNat_showNat n (hn ▸ hcnt) hpos), ih hrs]
      simp [flush, expandRuns, hn]

/-- Parsing any well-formed spelling gives the centre and exactly the peripherals it denotes. -/
theorem parse_spell (csg : Name) (runs : List Run) (h : WFRuns csg runs)
    (hpos : 0 < PGA.Gen.Chars.intMaxStrDigits) :
    parse (spell csg runs) = .ok ⟨csg, expandRuns runs⟩ := by
  obtain ⟨hc, hr⟩ := h
  have hnp : ∀ r ∈ runs, NoParen r.name := by
    intro r hm
    have := (hr r hm).1
    simp only [WFPsg, Bool.and_eq_true] at this
    exact noParen_of_WFName this.1.1
  unfold parse
  rw [spell, splitParens_spell csg (noParen_of_WFName hc) runs hnp]
  simp only
  rw [parseLoop_tailParts runs hr hpos]
  simp [flush]


/-! ### distinct sorted keys -/

/-- `GroupName.uniq` (the model of `Group.py` has its own copy) is the shared `PGA.uniq`, whose lemmas then apply -/
theorem uniq_eq (l : List Name) : uniq l = PGA.uniq l := by
  induction l with
  | nil => rfl
  | cons a l ih => by_cases h : a ∈ l <;> simp only [uniq, PGA.uniq, ih, h, if_true, if_false]

theorem nameLe_trans (a b c : Name) : nameLe a b = true → nameLe b c = true → nameLe a c = true := by
  simp only [nameLe, decide_eq_true_eq]; exact List.le_trans
theorem nameLe_total (a b : Name) : (nameLe a b || nameLe b a) = true := by
  simp only [nameLe, Bool.or_eq_true, decide_eq_true_eq]; exact List.le_total a b
theorem nameLe_antisymm (a b : Name) : nameLe a b = true → nameLe b a = true → a = b := by
  simp only [nameLe, decide_eq_true_eq]; exact List.le_antisymm

theorem mem_keys (a : Name) (l : List Name) : a ∈ keys l ↔ a ∈ l := by
  unfold keys; rw [(List.mergeSort_perm _ _).mem_iff, uniq_eq, PGA.mem_uniq]

theorem nodup_keys (l : List Name) : (keys l).Nodup := by
  unfold keys; exact (List.mergeSort_perm _ _).nodup_iff.mpr (uniq_eq l ▸ PGA.nodup_uniq l)

/-- the sorted distinct keys depend only on the multiset of peripherals -/
theorem keys_perm {l l' : List Name} (h : l.Perm l') : keys l = keys l' := by
  unfold keys
  apply List.Perm.eq_of_pairwise (le := fun a b => nameLe a b = true)
  · intro a b _ _ hab hba; exact nameLe_antisymm a b hab hba
  · exact List.pairwise_mergeSort nameLe_trans nameLe_total _
  · exact List.pairwise_mergeSort nameLe_trans nameLe_total _
  · rw [uniq_eq, uniq_eq]
    exact (List.mergeSort_perm _ _).trans ((PGA.uniq_perm fun _ => h.mem_iff).trans (List.mergeSort_perm _ _).symm)

/-! ### the canonical name is a spelling -/

def canonRun (psgs : List Name) (k : Name) : Run :=
  ⟨k, if psgs.count k = 1 then none else some (psgs.count k)⟩

def canonRuns (psgs : List Name) : List Run := (keys psgs).map (canonRun psgs)

theorem canonRun_count (psgs : List Name) (k : Name) : (canonRun psgs k).count = psgs.count k := by
  unfold canonRun Run.count
  split <;> rename_i h
  · split at h <;> simp_all
  · split at h <;> simp_all

theorem canon_eq_spell (csg : Name) (psgs : List Name) : canon csg psgs = spell csg (canonRuns psgs) := by
  unfold canon spell canonRuns
  congr 2
  rw [List.map_map]
  apply List.map_congr_left
  intro k _
  simp only [Function.comp, piece, canonRun, Run.suffix]
  split <;> simp

theorem count_flatMap_replicate (f : Name → Nat) (ks : List Name) (hk : ks.Nodup) (a : Name) :
    (ks.flatMap fun k => List.replicate (f k) k).count a = if a ∈ ks then f a else 0 := by
  induction ks with
  | nil => simp
  | cons k ks ih =>
    obtain ⟨hnk, hks⟩ := List.nodup_cons.mp hk
    simp only [List.flatMap_cons, List.count_append, ih hks, List.count_replicate, List.mem_cons]
    by_cases hak : k = a
    · subst hak; simp [hnk]
    · have : ¬ a = k := fun h => hak h.symm
      simp [hak, this]

/-- the peripherals denoted by the canonical spelling are a permutation of the group's -/
theorem expand_canonRuns_perm (psgs : List Name) : (expandRuns (canonRuns psgs)).Perm psgs := by
  rw [List.perm_iff_count]
  intro a
  have : expandRuns (canonRuns psgs) = (keys psgs).flatMap fun k => List.replicate (psgs.count k) k := by
    unfold expandRuns canonRuns
    rw [List.flatMap_map]
    congr 1
    funext k
    rw [canonRun_count]
    rfl
  rw [this, count_flatMap_replicate _ _ (nodup_keys psgs)]
  split
  · rfl
  · rename_i h; rw [mem_keys] at h; exact (List.count_eq_zero_of_not_mem h).symm

theorem wfRuns_canonRuns {csg : Name} {psgs : List Name} (h : WFGroup csg psgs) :
    WFRuns csg (canonRuns psgs) := by
  obtain ⟨hc, hp, hl⟩ := h
  refine ⟨hc, ?_⟩
  intro r hr
  unfold canonRuns at hr
  obtain ⟨k, hk, rfl⟩ := List.mem_map.mp hr
  rw [mem_keys] at hk
  refine ⟨hp k hk, ?_⟩
  rw [canonRun_count]
  exact Nat.lt_of_le_of_lt List.count_le_length hl

/-- the canonical name depends only on the centre and the multiset of peripherals -/
theorem canon_perm (csg : Name) {l l' : List Name} (h : l.Perm l') : canon csg l = canon csg l' := by
  unfold canon
  rw [keys_perm h]
  congr 2
  apply List.map_congr_left
  intro k _
  simp only [piece, h.count_eq]

end PGA.GroupName
