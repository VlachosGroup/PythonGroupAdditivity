import PGA.Model.Match
import Mathlib.Logic.Function.Basic
/-! The reader produces well-formed queries (one invariant of its state, also used for connectedness in
`ReadConnected.lean`), and reading commutes with renaming the labels; last, relabelling a query does not change
its matches. -/
namespace PGA.Read

theorem bind_eq_ok {ε α β : Type} {x : Except ε α} {f : α → Except ε β} {b : β} (h : x >>= f = .ok b) :
    ∃ a, x = .ok a ∧ f a = .ok b := by
  cases x with
  | error e => cases h
  | ok a => exact ⟨a, rfl, h⟩

theorem ite_throw_eq_ok {ε α : Type} {c : Prop} [Decidable c] {e : ε} {x : Except ε α} {a : α} :
    (if c then throw e else x) = .ok a ↔ ¬c ∧ x = .ok a := by
  split
  · exact ⟨nofun, fun h => absurd ‹c› h.1⟩
  · exact ⟨fun h => ⟨‹¬c›, h⟩, fun h => h.2⟩

/-- a computation that runs like `x' >>= f'` step for step, up to a final `g` -/
theorem bind_map_congr {ε α β γ : Type} {x x' : Except ε α} {f : α → Except ε γ} {f' : α → Except ε β}
    {g : β → γ} (hx : x = x') (h : ∀ a, f a = g <$> f' a) : x >>= f = g <$> (x' >>= f') := by
  rw [hx, map_bind]; exact bind_congr h

theorem lookup_lt {names : List String} {l : String} {i : Nat} (h : lookup names l = .ok i) :
    i < names.length := by
  unfold lookup at h
  split at h
  · cases h; exact (List.idxOf?_eq_some_iff.1 ‹_›).1
  · cases h

theorem addBond_eq_ok {st st' : St} {i j : Nat} {s : BondSpec} (h : addBond st i j s = .ok st') :
    i ≠ j ∧ st' = { st with bonds := st.bonds ++ [⟨i, j, s⟩] } := by
  simp only [addBond, ite_throw_eq_ok, beq_iff_eq] at h
  exact ⟨h.1, (Except.ok.inj h.2.2).symm⟩

/-- **what a reader step does to the graph**: a `BondedAtom` adds one atom (with its name) and one bond from it
to another position; a `RingBond` adds one bond and a stereo statement one stereo record, between named atoms. -/
theorem step_ok {st st' : St} {it : RawItem} (h : step st it = .ok st') :
    (∃ a j s, j < st.names.length + 1 ∧ st.atoms.length ≠ j ∧
      st' = ⟨st.names ++ [a.label], st.atoms ++ [a], st.bonds ++ [⟨st.atoms.length, j, s⟩], st.stereo⟩) ∨
    (∃ i j s, i < st.names.length ∧ j < st.names.length ∧ st' = { st with bonds := st.bonds ++ [⟨i, j, s⟩] }) ∨
    (∃ s : QStereo, s.i1 < st.names.length ∧ s.i2 < st.names.length ∧ s.i3 < st.names.length ∧
      s.i4 < st.names.length ∧ st' = { st with stereo := st.stereo ++ [s] }) := by
  cases it with
  | bonded ty l b to ch =>
    rw [step] at h
    obtain ⟨t, -, h⟩ := bind_eq_ok h
    obtain ⟨j, hj, h⟩ := bind_eq_ok h
    obtain ⟨s, -, h⟩ := bind_eq_ok h
    obtain ⟨st1, h1, h⟩ := bind_eq_ok h
    obtain ⟨chain, -, h⟩ := bind_eq_ok h
    obtain ⟨hne, rfl⟩ := addBond_eq_ok h1
    exact .inl ⟨⟨l, t, chain⟩, j, s, by simpa using lookup_lt hj, hne, (Except.ok.inj h).symm⟩
  | ringBond l1 b l2 =>
    rw [step] at h
    obtain ⟨i, hi, h⟩ := bind_eq_ok h
    obtain ⟨j, hj, h⟩ := bind_eq_ok h
    obtain ⟨s, -, h⟩ := bind_eq_ok h
    exact .inr (.inl ⟨i, j, s, lookup_lt hi, lookup_lt hj, (addBond_eq_ok h).2⟩)
  | stereo l1 bo k l2 l3 l4 =>
    rw [step] at h
    obtain ⟨i1, h1, h⟩ := bind_eq_ok h
    obtain ⟨neg, -, h⟩ := bind_eq_ok h
    obtain ⟨kind, -, h⟩ := bind_eq_ok h
    obtain ⟨i2, h2, h⟩ := bind_eq_ok h
    obtain ⟨i3, h3, h⟩ := bind_eq_ok h
    obtain ⟨i4, h4, h⟩ := bind_eq_ok h
    split at h
    · cases h
    · simp only [ite_throw_eq_ok] at h
      exact .inr (.inr ⟨_, lookup_lt h1, lookup_lt h2, lookup_lt h3, lookup_lt h4, (Except.ok.inj h.2.2.2.2).symm⟩)

theorem readFragment_ok {t : Ast} {q : Query} (h : readFragment t = .ok q) : ∃ f, frag f = .ok q :=
  (bind_eq_ok h).imp fun _ h => h.2

/-! ## renaming the labels -/

theorem idxOf?_map (σ : String → String) (hσ : Function.Injective σ) (names : List String) (l : String) :
    (names.map σ).idxOf? (σ l) = names.idxOf? l := by
  induction names with
  | nil => rfl
  | cons a as ih => simp only [List.map_cons, List.idxOf?_cons, ih, beq_eq_decide, hσ.eq_iff]

theorem lookup_map (σ : String → String) (hσ : Function.Injective σ) (names : List String) (l : String) :
    lookup (names.map σ) (σ l) = lookup names l := by
  unfold lookup; rw [idxOf?_map σ hσ]

/-- the reader's state with every label renamed -/
def St.rename (σ : String → String) (st : St) : St :=
  { st with names := st.names.map σ, atoms := st.atoms.map fun a => { a with label := σ a.label } }

def renameItem (σ : String → String) : RawItem → RawItem
  | .bonded ty l b l2 ch => .bonded ty (σ l) b (σ l2) ch
  | .ringBond l1 b l2 => .ringBond (σ l1) b (σ l2)
  | .stereo l1 bo k l2 l3 l4 => .stereo (σ l1) bo k (σ l2) (σ l3) (σ l4)

theorem addBond_rename (σ : String → String) (st : St) (i j : Nat) (s : BondSpec) :
    addBond (st.rename σ) i j s = St.rename σ <$> addBond st i j s := by
  simp only [addBond, apply_ite (Functor.map (St.rename σ))]
  rfl

theorem step_rename (σ : String → String) (hσ : Function.Injective σ) (st : St) (it : RawItem) :
    step (st.rename σ) (renameItem σ it) = St.rename σ <$> step st it := by
  have hl : ∀ l, lookup (st.rename σ).names (σ l) = lookup st.names l := lookup_map σ hσ _
  cases it with
  | bonded ty l b to ch =>
    simp only [renameItem]
    rw [step, step]
    have hn : (st.rename σ).names ++ [σ l] = (st.names ++ [l]).map σ := by simp [St.rename]
    refine bind_map_congr rfl fun t => bind_map_congr (by rw [hn, lookup_map σ hσ]) fun j =>
      bind_map_congr rfl fun s => ?_
    have hst : (⟨(st.rename σ).names ++ [σ l], (st.rename σ).atoms ++ [⟨σ l, t, []⟩], (st.rename σ).bonds,
        (st.rename σ).stereo⟩ : St) = St.rename σ ⟨st.names ++ [l], st.atoms ++ [⟨l, t, []⟩], st.bonds, st.stereo⟩ := by
      simp [St.rename]
    rw [show (st.rename σ).atoms.length = st.atoms.length from List.length_map _]
    rw [hst, addBond_rename, bind_map_left]
    refine bind_map_congr rfl fun st' => bind_map_congr rfl fun chain => ?_
    simp [St.rename]
  | ringBond l1 b l2 =>
    simp only [renameItem]
    rw [step, step]
    exact bind_map_congr (hl l1) fun i => bind_map_congr (hl l2) fun j => bind_map_congr rfl fun s =>
      addBond_rename σ st i j s
  | stereo l1 bo k l2 l3 l4 =>
    simp only [renameItem]
    rw [step, step]
    refine bind_map_congr (hl l1) fun i1 => bind_map_congr rfl fun neg => bind_map_congr rfl fun kind =>
      bind_map_congr (hl l2) fun i2 => bind_map_congr (hl l3) fun i3 => bind_map_congr (hl l4) fun i4 => ?_
    show (match st.bonds.find? _ with | none => _ | some d => _) = _
    cases st.bonds.find? fun b => (b.i == i3 && b.j == i4) || (b.i == i4 && b.j == i3) with
    | none => rfl
    | some d => simp only [apply_ite (Functor.map (St.rename σ))]; rfl

theorem items_rename (σ : String → String) (hσ : Function.Injective σ) (its : List RawItem) (st : St) :
    items (st.rename σ) (its.map (renameItem σ)) = St.rename σ <$> items st its := by
  induction its generalizing st with
  | nil => rfl
  | cons it its ih =>
    rw [List.map_cons, items, items, step_rename σ hσ, bind_map_left]
    exact bind_map_congr rfl ih

/-- **reading commutes with renaming the labels** (typed fragment level) -/
theorem frag_rename (σ : String → String) (hσ : Function.Injective σ) (f : Frag) :
    frag (f.rename σ) = (frag f).map (Query.relabel σ) := by
  have hitems : (f.rename σ).items = f.items.map (renameItem σ) :=
    List.map_congr_left fun it _ => by cases it <;> rfl
  unfold frag
  refine bind_map_congr rfl fun mp => bind_map_congr rfl fun t => bind_map_congr rfl fun chain => ?_
  rw [hitems]
  exact (congrArg (· >>= _) (items_rename σ hσ f.items ⟨[f.label0], [⟨f.label0, t, chain⟩], [], []⟩)).trans
    ((bind_map_left ..).trans (bind_map_congr rfl fun st => rfl))

/-! ## the graph the reader builds is well-formed and connected -/

/-- reader invariant: as many names as atoms, at least one; every bond and stereo statement refers to declared
atoms; every atom but the first was declared with a bond to an earlier one -/
def Inv (st : St) : Prop :=
  st.names.length = st.atoms.length ∧ 0 < st.atoms.length ∧
  (∀ b ∈ st.bonds, b.i < st.atoms.length ∧ b.j < st.atoms.length) ∧
  (∀ s ∈ st.stereo, s.i1 < st.atoms.length ∧ s.i2 < st.atoms.length ∧ s.i3 < st.atoms.length ∧ s.i4 < st.atoms.length) ∧
  ∀ k, k < st.atoms.length → k = 0 ∨ ∃ b ∈ st.bonds, (b.i = k ∧ b.j < k) ∨ (b.j = k ∧ b.i < k)

theorem step_inv {st st' : St} {it : RawItem} (h : step st it = .ok st') (hi : Inv st) : Inv st' := by
  obtain ⟨hn, hpos, hb, hs, hc⟩ := hi
  have hc' : ∀ bs k, k < st.atoms.length →
      k = 0 ∨ ∃ b ∈ st.bonds ++ bs, (b.i = k ∧ b.j < k) ∨ (b.j = k ∧ b.i < k) := fun bs k hk =>
    (hc k hk).imp_right fun ⟨b, hb, hh⟩ => ⟨b, List.mem_append_left _ hb, hh⟩
  rcases step_ok h with ⟨a, j, s, hj, hne, rfl⟩ | ⟨i, j, s, hi, hj, rfl⟩ | ⟨s, h1, h2, h3, h4, rfl⟩
  · rw [hn] at hj
    have hlen : (st.atoms ++ [a]).length = st.atoms.length + 1 := List.length_append
    have up {x : Nat} (h : x < st.atoms.length) : x < (st.atoms ++ [a]).length := hlen ▸ Nat.lt_succ_of_lt h
    refine ⟨by rw [List.length_append, hn, hlen]; rfl, hlen ▸ Nat.succ_pos _,
      List.forall_mem_append.2 ⟨fun b hb' => (hb b hb').imp up up,
        List.forall_mem_singleton.2 ⟨hlen ▸ Nat.lt_succ_self _, hlen ▸ hj⟩⟩,
      fun s hs' => (hs s hs').imp up (.imp up (.imp up up)), fun k hk => ?_⟩
    replace hk : k < st.atoms.length + 1 := hlen ▸ hk
    by_cases hk' : k < st.atoms.length
    · exact hc' _ k hk'
    · -- the new atom: its bond goes to `j`, which is not itself, hence an earlier atom
      exact .inr ⟨_, List.mem_append_right _ (List.mem_singleton_self _),
        .inl (show st.atoms.length = k ∧ j < k by omega)⟩
  · rw [hn] at hi hj
    exact ⟨hn, hpos, List.forall_mem_append.2 ⟨hb, List.forall_mem_singleton.2 ⟨hi, hj⟩⟩, hs, hc' _⟩
  · rw [hn] at h1 h2 h3 h4
    exact ⟨hn, hpos, hb, List.forall_mem_append.2 ⟨hs, List.forall_mem_singleton.2 ⟨h1, h2, h3, h4⟩⟩, hc⟩

theorem items_inv : ∀ {its st st'}, items st its = .ok st' → Inv st → Inv st'
  | [], _, _, h, hi => by cases h; exact hi
  | _ :: _, _, _, h, hi => by
    obtain ⟨st1, h1, h⟩ := bind_eq_ok h
    exact items_inv h (step_inv h1 hi)

/-- the atoms, bonds and stereo statements the reader returns are those of a state satisfying the invariant -/
theorem frag_inv {f : Frag} {q : Query} (h : frag f = .ok q) :
    ∃ st, Inv st ∧ q.atoms = st.atoms ∧ q.bonds = st.bonds ∧ q.stereo = st.stereo := by
  obtain ⟨mp, -, h⟩ := bind_eq_ok h
  obtain ⟨t, -, h⟩ := bind_eq_ok h
  obtain ⟨chain, -, h⟩ := bind_eq_ok h
  obtain ⟨st, hst, h⟩ := bind_eq_ok h
  cases h
  refine ⟨st, items_inv hst ?_, rfl, rfl, rfl⟩
  exact ⟨rfl, Nat.one_pos, nofun, nofun, fun k hk => .inl (Nat.lt_one_iff.1 hk)⟩

theorem frag_wf (f : Frag) (q : Query) (h : frag f = .ok q) : q.wf = true := by
  obtain ⟨st, ⟨-, -, hb, hs, -⟩, ea, eb, es⟩ := frag_inv h
  simp only [Query.wf, ea, eb, es, Bool.and_eq_true, List.all_eq_true, decide_eq_true_eq, and_assoc]
  exact ⟨hb, hs⟩

end PGA.Read

namespace PGA.Match

theorem candOK_relabel (σ : String → String) (q : Query) (m : Mol) :
    candOK (q.relabel σ) m = candOK q m := by
  funext pre
  unfold candOK
  cases pre.length with
  | zero => rfl
  | succ k =>
    simp only [Query.relabel, List.getElem?_map]
    cases pre[k]? <;> cases q.atoms[k]? <;> rfl

/-- label names play no part in matching -/
theorem queryMatches_relabel (σ : String → String) (q : Query) (m : Mol) :
    queryMatches (q.relabel σ) m = queryMatches q m := by
  have ha : atomConsOK (q.relabel σ) m = atomConsOK q m := by
    funext f
    simp only [atomConsOK, Query.relabel, List.zip_map_left, List.all_map]
    rfl
  unfold queryMatches rawMatches pipeline
  rw [candOK_relabel, ha, show (q.relabel σ).atoms.length = q.atoms.length from List.length_map _]
  rfl

end PGA.Match
