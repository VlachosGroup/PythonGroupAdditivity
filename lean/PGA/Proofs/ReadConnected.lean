import PGA.Proofs.Read
import PGA.Proofs.OneSide
/-! Every query the reader returns is connected: each atom declared after the first one is declared with a bond to
an atom declared before it (`BondedAtom` attaches to an existing label; attaching an atom to itself is refused by
`AddBond`), and it has at least one atom. -/
namespace PGA.Read

/-- what the reader returns is connected and has at least one atom -/
theorem frag_connected (f : Frag) (q : Query) (h : frag f = .ok q) : q.connected = true ∧ 0 < q.atoms.length := by
  obtain ⟨st, ⟨-, hpos, -, -, hc⟩, ea, eb, -⟩ := frag_inv h
  rw [Spec.connected_iff, ea, eb]
  exact ⟨hc, hpos⟩

end PGA.Read

namespace PGA
theorem readFragment_connected (t : Ast) (q : Query) (h : readFragment t = .ok q) :
    q.connected = true ∧ 0 < q.atoms.length :=
  let ⟨f, hf⟩ := Read.readFragment_ok h
  Read.frag_connected f q hf
end PGA
