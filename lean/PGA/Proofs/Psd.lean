import PGA.Model.LibTable
import PGA.Proofs.DiagDominant
import Mathlib.Algebra.Order.BigOperators.Ring.Finset
import Mathlib.Algebra.Order.BigOperators.Group.LocallyFinite
/-! Soundness of the PSD certificate (C14-T3, C20-T5): if `s·M − L·Lᵀ` is symmetric and diagonally
dominant with non-negative diagonal and `s > 0`, then `0 ≤ xᵀ M x` for every rational `x`, any size.  First for the
index-based check `certOk` of the model (`psd_of_cert`), then for `symPeel` and `certUpper`, the same check walked
along the lists, which is what the generated obligations evaluate (`symmetric_of_symPeel`, `psd_of_certUpper`). -/
namespace PGA.LibTable
open Finset

/-- `xᵀ (L Lᵀ) x = Σ_k (Σ_i x_i L_ik)² ≥ 0` -/
theorem gram_nonneg (n p : ℕ) (L : ℕ → ℕ → ℚ) (x : ℕ → ℚ) :
    0 ≤ ∑ i ∈ range n, ∑ j ∈ range n, x i * (∑ k ∈ range p, L i k * L j k) * x j := by
  have : ∑ i ∈ range n, ∑ j ∈ range n, x i * (∑ k ∈ range p, L i k * L j k) * x j
      = ∑ k ∈ range p, (∑ i ∈ range n, x i * L i k) * (∑ j ∈ range n, x j * L j k) := by
    have h1 : ∀ i j, x i * (∑ k ∈ range p, L i k * L j k) * x j = ∑ k ∈ range p, (x i * L i k) * (x j * L j k) := by
      intro i j; rw [mul_sum, sum_mul]; apply sum_congr rfl; intro k _; ring
    simp only [h1]
    have h2 : ∀ i ∈ range n, ∑ j ∈ range n, ∑ k ∈ range p, (x i * L i k) * (x j * L j k)
        = ∑ k ∈ range p, ∑ j ∈ range n, (x i * L i k) * (x j * L j k) := fun i _ => sum_comm
    rw [sum_congr rfl h2, sum_comm]
    apply sum_congr rfl; intro k _
    rw [sum_mul_sum]
  rw [this]
  apply sum_nonneg; intro k _
  exact mul_self_nonneg _

/-! ### bridging the executable certificate check to sums -/

theorem allN_iff (n : ℕ) (p : ℕ → Bool) : allN n p = true ↔ ∀ i < n, p i = true := by
  induction n with
  | zero => simp [allN]
  | succ n ih =>
    simp only [allN, Bool.and_eq_true, ih]
    constructor
    · rintro ⟨h1, h2⟩ i hi
      rcases Nat.lt_succ_iff_lt_or_eq.mp hi with h | h
      · exact h1 i h
      · exact h ▸ h2
    · intro h; exact ⟨fun i hi => h i (Nat.lt_succ_of_lt hi), h n (Nat.lt_succ_self n)⟩

theorem sumZ_eq (n : ℕ) (f : ℕ → ℤ) : sumZ n f = ∑ k ∈ range n, f k := by
  induction n with
  | zero => simp [sumZ]
  | succ n ih => simp [sumZ, ih, sum_range_succ]

theorem sumN_eq (n : ℕ) (f : ℕ → ℚ) : sumN n f = ∑ k ∈ range n, f k := by
  induction n with
  | zero => simp [sumN]
  | succ n ih => simp [sumN, ih, sum_range_succ]

theorem dotI_eq (a b : List ℤ) (n : ℕ) (h : a.length ≤ n) :
    dotI a b = ∑ k ∈ range n, a.getD k 0 * b.getD k 0 := by
  induction a generalizing b n with
  | nil => simp [dotI]
  | cons x a ih =>
    cases b with
    | nil => simp [dotI]
    | cons y b =>
      cases n with
      | zero => simp at h
      | succ n =>
        have h' : a.length ≤ n := by simpa using h
        rw [dotI, ih b n h', sum_range_succ']
        simp [add_comm]

theorem absI_cast (x : ℤ) : ((absI x : ℤ) : ℚ) = |(x : ℚ)| := by
  unfold absI
  split
  · rename_i h; rw [abs_of_neg (by exact_mod_cast h)]; push_cast; ring
  · rename_i h; rw [abs_of_nonneg (by exact_mod_cast (not_lt.mp h))]

theorem squareSized_iff {n : ℕ} {l : List (List ℤ)} :
    squareSized n l = true ↔ l.length = n ∧ ∀ r ∈ l, r.length = n := by
  simp [squareSized]

theorem squareSized_row {n : ℕ} {l : List (List ℤ)} (h : squareSized n l = true) {i : ℕ} (hi : i < n) :
    (l.getD i []).length = n := by
  obtain ⟨h1, h2⟩ := squareSized_iff.mp h
  rw [List.getD_eq_getElem _ _ (h1 ▸ hi)]
  exact h2 _ (List.getElem_mem _)

theorem ent_symm {n : ℕ} {m : List (List ℤ)} (h : symmetric n m = true) {i j : ℕ} (hi : i < n) (hj : j < n) :
    ent m i j = ent m j i :=
  beq_iff_eq.mp ((allN_iff n _).mp ((allN_iff n _).mp h i hi) j hj)

/-- `s·M − L·Lᵀ` is symmetric where `M` is -/
theorem sub_gram_symm {n : ℕ} {m : List (List ℤ)} (h : symmetric n m = true) (s : ℤ) (L : ℕ → ℕ → ℚ)
    {i j : ℕ} (hi : i < n) (hj : j < n) :
    (ent m i j : ℚ) * s - ∑ k ∈ range n, L i k * L j k = ent m j i * s - ∑ k ∈ range n, L j k * L i k := by
  rw [ent_symm h hi hj]
  exact congrArg _ (sum_congr rfl fun k _ => mul_comm _ _)

/-- `s·M = (s·M − L·Lᵀ) + L·Lᵀ` with `s > 0`: if the first summand has a non-negative quadratic form, so has `M` -/
theorem quadForm_nonneg_of_sub_gram (n : ℕ) (s : ℤ) (m : List (List ℤ)) (x : ℕ → ℚ) (hs : 0 < s) (L : ℕ → ℕ → ℚ)
    (h : 0 ≤ ∑ i ∈ range n, ∑ j ∈ range n, x i * ((ent m i j : ℚ) * s - ∑ k ∈ range n, L i k * L j k) * x j) :
    0 ≤ quadForm n m x := by
  refine nonneg_of_mul_nonneg_right (a := (s : ℚ)) ?_ (by exact_mod_cast hs)
  refine le_of_le_of_eq (add_nonneg h (gram_nonneg n n L x)) ?_
  simp only [quadForm, sumN_eq]
  rw [mul_sum, ← sum_add_distrib]
  refine sum_congr rfl fun i _ => ?_
  rw [mul_sum, ← sum_add_distrib]
  exact sum_congr rfl fun j _ => by ring

/-- **Soundness of the certificate.** If the kernel-checked certificate holds for integer rows `m`
(symmetric on the first `n` indices), a square witness `l` and a positive scale `s`, then the quadratic form of `m`
is non-negative on every rational vector. -/
theorem psd_of_cert (n : ℕ) (s : ℤ) (m l : List (List ℤ)) (x : ℕ → ℚ)
    (hl : squareSized n l = true) (hsym : symmetric n m = true) (hs : 0 < s)
    (hc : certOk n s m l = true) : 0 ≤ quadForm n m x := by
  set L : ℕ → ℕ → ℚ := fun i k => (((l.getD i []).getD k 0 : ℤ) : ℚ) with hL
  set E : ℕ → ℕ → ℚ := fun i j => (ent m i j : ℚ) * s - ∑ k ∈ range n, L i k * L j k with hE
  have hEcast : ∀ i < n, ∀ j, ((eEnt s m l i j : ℤ) : ℚ) = E i j := by
    intro i hi j
    simp only [eEnt, hE, hL]
    rw [dotI_eq _ _ n (squareSized_row hl hi).le]
    push_cast; rfl
  have hdd : ∀ i ∈ range n, ∑ j ∈ (range n).erase i, |E i j| ≤ E i i := by
    intro i hi
    have hi' := mem_range.mp hi
    have h1 := (allN_iff n _).mp hc i hi'
    simp only [rowOk, decide_eq_true_eq, sumZ_eq] at h1
    rw [← add_sum_erase _ _ hi, if_pos rfl, zero_add] at h1
    have h2 : ((∑ j ∈ (range n).erase i, (if j = i then 0 else absI (eEnt s m l i j)) : ℤ) : ℚ)
        ≤ ((eEnt s m l i i : ℤ) : ℚ) := by exact_mod_cast h1
    rw [hEcast i hi'] at h2
    refine le_trans (le_of_eq ?_) h2
    push_cast
    exact sum_congr rfl fun j hj => by rw [if_neg (ne_of_mem_erase hj), absI_cast, hEcast i hi']
  exact quadForm_nonneg_of_sub_gram n s m x hs L <| PGA.Estimate.diagDominant_psd (range n) E
    (fun i hi j hj => sub_gram_symm hsym s L (mem_range.mp hi) (mem_range.mp hj)) hdd x

/-! ### a certificate that is cheap for the kernel

`symmetric` and `certOk` reach every entry by index from the head of the lists, `certOk` computes every entry of the
symmetric `s·M − L·Lᵀ` twice and multiplies out the zeros right of the diagonal of a Cholesky-like witness.  `symPeel`
peels one row and column at a time; `certUpper` takes the lower triangle of the witness (any rows are a witness),
computes the upper triangle of `s·M − L·Lᵀ` row by row and carries the column sums along. -/

/-- `m` agrees with its transpose on the first `k` indices -/
def symPeel : Nat → List (List Int) → Bool
  | k+1, r :: m => (r.tail == m.map (·.headD 0)) && symPeel k (m.map List.tail)
  | _, _ => true

theorem ent_succ_succ (r : List ℤ) (m : List (List ℤ)) (i j : ℕ) :
    ent (r :: m) (i+1) (j+1) = ent (m.map List.tail) i j := by
  simp only [ent, List.getD_eq_getElem?_getD, List.getElem?_cons_succ, List.getElem?_map]
  cases m[i]? <;> simp

theorem symPeel_sound : ∀ (k : ℕ) (m : List (List ℤ)), symPeel k m = true →
    ∀ i < k, ∀ j < k, ent m i j = ent m j i
  | 0, _, _, _, hi, _, _ => absurd hi (Nat.not_lt_zero _)
  | k+1, [], _, i, _, j, _ => by simp [ent]
  | k+1, r :: m, h, i, hi, j, hj => by
    simp only [symPeel, Bool.and_eq_true, beq_iff_eq] at h
    have col : ∀ j, ent (r :: m) 0 (j+1) = ent (r :: m) (j+1) 0 := fun j => by
      have := congrArg (·.getD j 0) h.1
      simp only [ent, List.getD_eq_getElem?_getD, List.getElem?_map, List.getElem?_tail, List.getElem?_cons_succ,
        List.getElem?_cons_zero, Option.getD_some] at this ⊢
      rw [this]; cases m[j]? <;> simp [List.head?_eq_getElem?]
    match i, j with
    | 0, 0 => rfl
    | 0, j+1 => exact col j
    | i+1, 0 => exact (col i).symm
    | i+1, j+1 =>
      rw [ent_succ_succ, ent_succ_succ]
      exact symPeel_sound k _ h.2 i (Nat.lt_of_succ_lt_succ hi) j (Nat.lt_of_succ_lt_succ hj)

theorem symmetric_of_symPeel {n : ℕ} {m : List (List ℤ)} (h : symPeel n m = true) : symmetric n m = true :=
  (allN_iff n _).mpr fun i hi => (allN_iff n _).mpr fun j hj => beq_iff_eq.mpr (symPeel_sound n m h i hi j hj)

/-- `dotI` as the kernel evaluates it in the fewest steps: recursive in the first list alone, `Int.add` and `Int.mul`
named directly so that no instance is unfolded on the way -/
def dotL : List Int → List Int → Int
  | [], _ => 0
  | a :: as, bs => Int.add (Int.mul a (bs.headD 0)) (dotL as bs.tail)

theorem dotL_eq : ∀ a b : List ℤ, dotL a b = dotI a b
  | [], _ => by simp only [dotL, dotI]
  | a :: as, [] => by
    simp only [dotL, dotI, List.tail_nil, dotL_eq as [], List.headD_nil, Int.mul_def, Int.add_def, mul_zero, zero_add]
  | a :: as, b :: bs => by
    simp only [dotL, dotI, dotL_eq as bs, List.headD_cons, List.tail_cons, Int.mul_def, Int.add_def]

/-- row `i` of the upper triangle of `E = s·M − L·Lᵀ`, `L` the lower triangle of `l`: `[E i i, E i (i+1), …]`;
for `i ≤ j` only the first `i+1` entries of the two rows of `L` meet -/
def eRow (s : Int) (m l : List (List Int)) (i : Nat) : List Int :=
  let li := (l.getD i []).take (i+1)
  List.zipWith (fun mij lj => mij * s - dotL li lj) ((m.getD i []).drop i) (l.drop i)

/-- entrywise sum; the longer list keeps its tail -/
def addL : List Int → List Int → List Int
  | [], bs => bs
  | a :: as, [] => a :: as
  | a :: as, b :: bs => (a + b) :: addL as bs

/-- Diagonal dominance of a symmetric matrix given by the rows `[E i i, E i (i+1), …]` of its upper triangle:
`acc` holds, for the columns still to come, the sums of the `|E i' j|` of the rows `i'` already seen, which by symmetry
are the entries of row `j` left of the diagonal. -/
def ddU : List (List Int) → List Int → Bool
  | (d :: offs) :: rows, a :: acc =>
    let offsAbs := offs.map absI
    decide (a + offsAbs.sum ≤ d) && ddU rows (addL acc offsAbs)
  | [], [] => true
  | _, _ => false

/-- the PSD certificate on the upper triangle: `s·M − L·Lᵀ`, `L` the lower triangle of `l`, is diagonally dominant -/
def certUpper (n : Nat) (s : Int) (m l : List (List Int)) : Bool :=
  ddU ((List.range n).map (eRow s m l)) (List.replicate n 0)

/-- `Σ_k a_k · y (i+k)` -/
def lin (y : ℕ → ℚ) : ℕ → List ℤ → ℚ
  | _, [] => 0
  | i, a :: as => a * y i + lin y (i+1) as

/-- the quadratic form, in `x i, x (i+1), …`, of the symmetric matrix with the rows `[U a a, U a (a+1), …]` as its
upper triangle -/
def qU (x : ℕ → ℚ) : ℕ → List (List ℤ) → ℚ
  | i, (d :: offs) :: rows => d * x i ^ 2 + 2 * x i * lin x (i+1) offs + qU x (i+1) rows
  | _, _ => 0

theorem lin_addL (y : ℕ → ℚ) (a b : List ℤ) (i : ℕ) : lin y i (addL a b) = lin y i a + lin y i b := by
  fun_induction addL a b generalizing i with
  | case1 | case2 => simp [lin]
  | case3 a as b bs ih => simp only [lin, ih]; push_cast; ring

theorem lin_replicate_zero (y : ℕ → ℚ) : ∀ (n i : ℕ), lin y i (List.replicate n 0) = 0
  | 0, _ => rfl
  | n+1, i => by simp [List.replicate_succ, lin, lin_replicate_zero y n]

/-- `dd_term` summed over the off-diagonal entries of one row -/
theorem two_mul_lin_ge (x : ℕ → ℚ) (c : ℚ) : ∀ (offs : List ℤ) (j : ℕ),
    -((offs.map absI).sum : ℤ) * c ^ 2 - lin (fun k => x k ^ 2) j (offs.map absI) ≤ 2 * c * lin x j offs
  | [], _ => by simp [lin]
  | e :: offs, j => by
    have h1 := PGA.Estimate.dd_term e c (x j)
    have h2 := two_mul_lin_ge x c offs (j+1)
    simp only [List.map_cons, List.sum_cons, lin, Int.cast_add, absI_cast]
    linarith

/-- The quadratic form of the rows dominates `Σ_k acc_k·x(i+k)²`: the first row gives at least
`(d − Σ|offs|)·x i² − Σ_k |offs_k|·x(i+1+k)²` and `a + Σ|offs| ≤ d`; what it takes from the later `x(i+1+k)²` goes into `acc`. -/
theorem ddU_sound (x : ℕ → ℚ) (rows : List (List ℤ)) (acc : List ℤ) (i : ℕ) (h : ddU rows acc = true) :
    lin (fun k => x k ^ 2) i acc ≤ qU x i rows := by
  fun_induction ddU rows acc generalizing i with
  | case1 d offs rows a acc _ ih =>
    simp only [Bool.and_eq_true, decide_eq_true_eq] at h
    have h1 : ((a : ℚ) + ((offs.map absI).sum : ℤ)) ≤ d := by exact_mod_cast h.1
    have h2 := ih (i+1) h.2
    have h3 := two_mul_lin_ge x (x i) offs (i+1)
    have h4 := mul_nonneg (sub_nonneg.mpr h1) (sq_nonneg (x i))
    rw [lin_addL] at h2
    simp only [lin, qU]
    linarith
  | case2 => exact le_rfl
  | case3 => simp at h

theorem lin_map_range' (y : ℕ → ℚ) (g : ℕ → ℤ) (n : ℕ) : ∀ (k i : ℕ), i + k = n →
    lin y i ((List.range' i k).map g) = ∑ b ∈ Ico i n, g b * y b
  | 0, i, h => by simp [lin, ← h]
  | k+1, i, h => by
    rw [List.range'_succ, List.map_cons, lin, lin_map_range' y g n k (i+1) (by omega),
      sum_eq_sum_Ico_succ_bot (show i < n by omega)]

/-- rows of entries `e a b`, `a ≤ b`, that agree with a symmetric `F` denote the quadratic form of `F` -/
theorem qU_map_range' (x : ℕ → ℚ) (e : ℕ → ℕ → ℤ) (F : ℕ → ℕ → ℚ) (n : ℕ)
    (he : ∀ a b, a ≤ b → b < n → (e a b : ℚ) = F a b) (hF : ∀ a < n, ∀ b < n, F a b = F b a) :
    ∀ (k i : ℕ), i + k = n → qU x i ((List.range' i k).map fun a => (List.range' a (n-a)).map (e a))
      = ∑ a ∈ Ico i n, ∑ b ∈ Ico i n, x a * F a b * x b
  | 0, i, h => by simp [qU, ← h]
  | k+1, i, h => by
    have hi : i < n := by omega
    have hk : n - i = k + 1 := by omega
    have h1 : ∑ b ∈ Ico (i+1) n, (e i b : ℚ) * x b = ∑ b ∈ Ico (i+1) n, F i b * x b :=
      sum_congr rfl fun b hb => by rw [he i b (Nat.le_of_succ_le (mem_Ico.mp hb).1) (mem_Ico.mp hb).2]
    have h2 : ∑ a ∈ Ico (i+1) n, x a * F a i * x i = x i * ∑ b ∈ Ico (i+1) n, F i b * x b := by
      rw [mul_sum]
      exact sum_congr rfl fun a ha => by rw [hF a (mem_Ico.mp ha).2 i hi]; ring
    rw [List.range'_succ, List.map_cons, hk, List.range'_succ, List.map_cons, qU, lin_map_range' x _ n k (i+1) (by omega),
      qU_map_range' x e F n he hF k (i+1) (by omega)]
    -- split row `i` and column `i` off the double sum
    simp only [sum_eq_sum_Ico_succ_bot hi, sum_add_distrib]
    rw [h1, h2, he i i le_rfl hi]
    simp only [mul_assoc, ← mul_sum]
    ring

theorem zipWith_drop {α β γ : Type} (f : α → β → γ) (da : α) (db : β) {n : ℕ} {u : List α} {v : List β}
    (hu : u.length = n) (hv : v.length = n) (a : ℕ) :
    List.zipWith f (u.drop a) (v.drop a) = (List.range' a (n-a)).map fun b => f (u.getD b da) (v.getD b db) := by
  refine List.ext_getElem (by simp [hu, hv]) fun k h1 h2 => ?_
  have hk : a + k < n := by simp at h2; omega
  simp [hu, hv, hk]

theorem getD_take (r : List ℤ) (i k : ℕ) : (r.take i).getD k 0 = if k < i then r.getD k 0 else 0 := by
  simp only [List.getD_eq_getElem?_getD, List.getElem?_take]
  split <;> rfl

/-- **Soundness of the upper-triangle certificate**, with the lower triangle of `l` as the witness. -/
theorem psd_of_certUpper (n : ℕ) (s : ℤ) (m l : List (List ℤ)) (x : ℕ → ℚ)
    (hm : squareSized n m = true) (hl : squareSized n l = true) (hsym : symmetric n m = true) (hs : 0 < s)
    (hc : certUpper n s m l = true) : 0 ≤ quadForm n m x := by
  let L : ℕ → ℕ → ℚ := fun a k => if k ≤ a then (((l.getD a []).getD k 0 : ℤ) : ℚ) else 0
  let e : ℕ → ℕ → ℤ := fun a b => ent m a b * s - dotL ((l.getD a []).take (a+1)) (l.getD b [])
  have he : ∀ a b, a ≤ b → b < n → (e a b : ℚ) = ent m a b * s - ∑ k ∈ range n, L a k * L b k := by
    intro a b hab hb
    simp only [e, L]
    rw [dotL_eq, dotI_eq _ _ n (by rw [List.length_take]; omega)]
    push_cast
    refine congrArg _ (sum_congr rfl fun k _ => ?_)
    rw [getD_take]
    by_cases hk : k ≤ a
    · simp [hk, hk.trans hab]
    · simp [hk]
  have hrows : (List.range n).map (eRow s m l) = (List.range' 0 n).map fun a => (List.range' a (n-a)).map (e a) := by
    rw [List.range_eq_range']
    exact List.map_congr_left fun a ha =>
      zipWith_drop _ 0 [] (squareSized_row hm (by simpa using ha)) (squareSized_iff.mp hl).1 a
  have := ddU_sound x _ _ 0 hc
  rw [lin_replicate_zero, hrows, qU_map_range' x e _ n he (fun a ha b hb => sub_gram_symm hsym s L ha hb) n 0 (zero_add n),
    Nat.Ico_zero_eq_range] at this
  exact quadForm_nonneg_of_sub_gram n s m x hs L this

end PGA.LibTable
