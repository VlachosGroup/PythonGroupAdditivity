import PGA.Spec.SIExt
import PGA.Proofs.UnitsDen
/-!
# Decidable table checks for C10 and the lemmas that lift them to statements about `lookup`

`checkX … = true` is decided by the kernel over the regenerated tables (`PGA.Gen.Units`);
the `…_sound` lemmas turn the Boolean into the proposition the property talks about.
-/
namespace PGA.Units
open PGA.SI

/-- the name `nm` resolves to the exact magnitude `v` and dimension `dm` admitted by `r` scaled by `k` -/
def ResolvesTo (cfg : Cfg) (nm : Name) (k : Rat) (r : Ref) : Prop :=
  ∃ v dm, lookup cfg nm = .ok ⟨.exact v, dm⟩ ∧ dm = r.dim ∧ r.admits k v = true

def checkResolves (cfg : Cfg) (nm : Name) (k : Rat) (r : Ref) : Bool :=
  match lookup cfg nm with
  | .ok ⟨.exact v, dm⟩ => dm == r.dim && r.admits k v
  | _ => false

theorem checkResolves_sound {cfg nm k r} (h : checkResolves cfg nm k r = true) : ResolvesTo cfg nm k r := by
  unfold checkResolves at h
  split at h
  · next v dm heq =>
    simp only [Bool.and_eq_true, beq_iff_eq] at h
    exact ⟨v, dm, heq, h.1, h.2⟩
  · exact absurd h (by simp)

def allPrefixes : List (Name × Int) := ([], 0) :: SI.prefixes

theorem find_some {n : Name} {r : Ref} (h : find n = some r) : r ∈ SI.units ∧ r.name = n :=
  ⟨List.mem_of_find?_eq_some h, beq_iff_eq.mp (List.find?_some (p := fun r : Ref => r.name == n) h)⟩

theorem find_isSome {r : Ref} (hr : r ∈ SI.units) : (find r.name).isSome = true :=
  List.find?_isSome.mpr ⟨r, hr, beq_self_eq_true _⟩

theorem scale_exact (thr q v : Rat) (d : Dim) :
    scale thr q ⟨.exact v, d⟩ = ⟨.exact (q * v), Dim.mul thr Dim.zero d⟩ := rfl

/-- the second and third step of `UnitsDB.lookup`: a name that is not a key, after a prefix of one letter, or of two
letters when the name without the first letter is not a key either -/
theorem lookup_prefixed {cfg : Cfg} {p n : Name} {q : Rat} {v : Val}
    (hs : cfg.db.find (p ++ n) = none) (hn : cfg.db.find n = some v) (hp : cfg.prefixes.find p = some q)
    (hl : p.length = 1 ∨ p.length = 2 ∧ cfg.db.find ((p ++ n).drop 1) = none) :
    lookup cfg (p ++ n) = .ok (scale cfg.thr q v) := by
  rcases hl with hl | ⟨hl, h1⟩
  · have e1 : (p ++ n).drop 1 = n := by rw [← hl, List.drop_left]
    have e2 : (p ++ n).take 1 = p := by rw [← hl, List.take_left]
    simp only [lookup, hs, e1, e2, hn, hp]
  · have e1 : (p ++ n).drop 2 = n := by rw [← hl, List.drop_left]
    have e2 : (p ++ n).take 2 = p := by rw [← hl, List.take_left]
    simp only [lookup, hs, h1, e1, e2, hn, hp]

/-- What T1 comes down to, for a magnitude test `ok`: every reference unit is a key of the database with a magnitude
that passes `ok` and the reference dimension, which `_build` leaves alone; the prefix table holds the SI prefixes,
of one or two letters; and no key of the database is a prefixed reference unit name unless it is itself a reference
unit name, nor the rest of one after the first of two prefix letters (`dam` must not be read as deci-`am`). -/
def checkUnits (cfg : Cfg) (ok : Ref → Rat → Bool) : Bool :=
  (SI.units.all fun r =>
    match cfg.db.find r.name with
    | some ⟨.exact v, dm⟩ => ok r v && dm == r.dim && Dim.mul cfg.thr Dim.zero dm == dm
    | _ => false) &&
  (SI.prefixes.all fun pk =>
    cfg.prefixes.find pk.1 == some ((10 : Rat) ^ pk.2) && (pk.1.length == 1 || pk.1.length == 2)) &&
  cfg.db.all fun kv => SI.prefixes.all fun pk =>
    ((find kv.1).isSome || !(pk.1.isPrefixOf kv.1 && (find (kv.1.drop pk.1.length)).isSome)) &&
    (pk.1.length != 2 || !((pk.1.drop 1).isPrefixOf kv.1 && (find (kv.1.drop 1)).isSome))

/-- **T1 from the reduced check**: a spelling `p ++ name` that is not itself a unit name is not a key, so the lookup
strips the prefix and scales the unit's entry; one that is a unit name is that unit's key. -/
theorem checkUnits_sound {cfg : Cfg} {ok : Ref → Rat → Bool} (h : checkUnits cfg ok = true) :
    ∀ r ∈ SI.units, ∀ pk ∈ allPrefixes,
      (find (pk.1 ++ r.name) = none →
        ∃ v, ok r v = true ∧ lookup cfg (pk.1 ++ r.name) = .ok ⟨.exact ((10 : Rat) ^ pk.2 * v), r.dim⟩) ∧
      (∀ r', find (pk.1 ++ r.name) = some r' →
        ∃ v, ok r' v = true ∧ lookup cfg (pk.1 ++ r.name) = .ok ⟨.exact v, r'.dim⟩) := by
  simp only [checkUnits, Bool.and_eq_true, List.all_eq_true] at h
  obtain ⟨⟨hu, hp⟩, hk⟩ := h
  have key : ∀ r ∈ SI.units, ∃ v, ok r v = true ∧ cfg.db.find r.name = some ⟨.exact v, r.dim⟩ ∧
      Dim.mul cfg.thr Dim.zero r.dim = r.dim := by
    intro r hr
    have h1 := hu r hr
    split at h1
    · next v dm hf =>
      simp only [Bool.and_eq_true, beq_iff_eq] at h1
      obtain ⟨⟨ho, hd⟩, hz⟩ := h1
      rw [hd] at hf hz
      exact ⟨v, ho, hf, hz⟩
    · exact absurd h1 (by simp)
  intro r hr pk hpk
  refine ⟨fun hn => ?_, fun r' hs => ?_⟩
  · rcases List.mem_cons.mp hpk with rfl | hpk
    · rw [List.nil_append, ← Option.not_isSome_iff_eq_none, find_isSome hr] at hn
      exact absurd rfl hn
    · obtain ⟨v, ho, hf, hz⟩ := key r hr
      obtain ⟨p, k⟩ := pk
      have hs : cfg.db.find (p ++ r.name) = none := by
        refine Option.eq_none_iff_forall_ne_some.mpr fun w hw => ?_
        have h1 := (hk _ (Table.find_mem _ _ _ hw) _ hpk).1
        rw [hn, Option.isSome_none, Bool.false_or, List.drop_left, find_isSome hr,
          List.isPrefixOf_iff_prefix.mpr (List.prefix_append _ _)] at h1
        cases h1
      have hl : p.length = 1 ∨ p.length = 2 ∧ cfg.db.find ((p ++ r.name).drop 1) = none := by
        have h1 := (hp _ hpk).2
        simp only [Bool.or_eq_true, beq_iff_eq] at h1
        refine h1.imp_right fun h2 => ⟨h2, Option.eq_none_iff_forall_ne_some.mpr fun w hw => ?_⟩
        have h3 := (hk _ (Table.find_mem _ _ _ hw) _ hpk).2
        match p, h2 with
        | [c, c'], _ => simp [find_isSome hr] at h3
      refine ⟨v, ho, ?_⟩
      rw [lookup_prefixed hs hf (beq_iff_eq.mp (hp _ hpk).1) hl, scale_exact, hz]
  · obtain ⟨hr', hname⟩ := find_some hs
    obtain ⟨v, ho, hf, -⟩ := key r' hr'
    rw [hname] at hf
    exact ⟨v, ho, by simp only [lookup, hf]⟩

theorem absR_mul_of_pos {q : Rat} (hq : 0 < q) (x : Rat) : absR (q * x) = q * absR x := by
  rw [absR_eq_abs, absR_eq_abs, abs_mul, abs_of_pos hq]

/-- a magnitude within the tolerance of the unit stays within it when both are scaled -/
theorem Ref.admits_scale {r : Ref} {q v : Rat} (hq : 0 < q) (h : r.admits 1 v = true) :
    r.admits q (q * v) = true := by
  simp only [Ref.admits, decide_eq_true_eq, one_mul] at h ⊢
  rw [← mul_sub, absR_mul_of_pos hq, absR_mul_of_pos hq, mul_left_comm]
  exact mul_le_mul_of_nonneg_left h hq.le

/-- T1 over `cfg`: the entry of every reference unit is within the unit's tolerance of the reference value -/
def checkAllUnits (cfg : Cfg) : Bool := checkUnits cfg fun r v => r.admits 1 v

theorem checkAllUnits_sound {cfg} (h : checkAllUnits cfg = true) :
    ∀ r ∈ SI.units, ∀ pk ∈ allPrefixes,
      (find (pk.1 ++ r.name) = none → ResolvesTo cfg (pk.1 ++ r.name) ((10 : Rat) ^ pk.2) r) ∧
      (∀ r', find (pk.1 ++ r.name) = some r' → ResolvesTo cfg (pk.1 ++ r.name) 1 r') := by
  intro r hr pk hpk
  have h1 := checkUnits_sound h r hr pk hpk
  constructor
  · intro hn
    obtain ⟨v, ho, hl⟩ := h1.1 hn
    exact ⟨_, _, hl, rfl, Ref.admits_scale (zpow_pos (by norm_num) _) ho⟩
  · intro r' hs
    obtain ⟨v, ho, hl⟩ := h1.2 r' hs
    exact ⟨_, _, hl, rfl, ho⟩

/-- the prefixed names that are themselves unit names -/
def collisions : List (Name × Name × Name) :=
  (SI.units.map fun r => (SI.prefixes.filter fun pk => (find (pk.1 ++ r.name)).isSome).map
      fun pk => (pk.1, r.name, pk.1 ++ r.name)).flatten

/-- a name as one number, its characters the digits to base 2³³: the kernel compares `Nat` literals directly -/
def code : Name → Nat
  | [] => 0
  | c :: cs => c.toNat + 1 + 8589934592 * code cs

theorem code_inj : ∀ {s t : Name}, code s = code t → s = t
  | [], [], _ => rfl
  | [], _ :: _, h | _ :: _, [], h => by simp only [code] at h; omega
  | c :: cs, d :: ds, h => by
    have hc := c.val.toNat_lt
    have hd := d.val.toNat_lt
    simp only [code, Char.toNat] at h
    obtain ⟨h1, h2⟩ : c.val.toNat = d.val.toNat ∧ code cs = code ds := by omega
    rw [Char.toNat_inj.mp h1, code_inj h2]

/-- membership in the reference table by comparing codes: the form in which `collisions` is evaluated -/
theorem find_isSome_eq (s : Name) :
    (find s).isSome = SI.units.any fun r => Nat.beq (code r.name) (code s) := by
  rw [Bool.eq_iff_iff, find, List.find?_isSome, List.any_eq_true]
  exact exists_congr fun r => and_congr_right fun _ => by
    rw [beq_iff_eq]; exact ⟨fun h => h ▸ Nat.beq_refl _, fun h => code_inj (Nat.eq_of_beq_eq_true h)⟩

/-- the model builds the live key list; every live name is a unit of the reference or a new unit consistent with
its definition (a unit of the extended reference); every reference unit is in the live database -/
def checkNames (cfg : Cfg) : Bool :=
  (cfg.db.map (·.1) == PGA.Gen.Units.dbNames) &&
  PGA.Gen.Units.dbNames.all (fun n => (extFind n).isSome) &&
  SI.units.all (fun r => PGA.Gen.Units.dbNames.contains r.name)

/-! ## units the reference does not know (`PGA/Spec/SIExt.lean`) -/

/-- every live unit the reference does not know is acceptable: no spelling of it had a meaning, and its definition
evaluates over the reference extended by the new units before it -/
def checkNewAccepted : Bool := liveVerdicts.all fun x => x.2.2.isAccepted

/-- T1 for the new units: the package's value of every spelling is `10^k` times what the definition means -/
def checkNewUnits (cfg : Cfg) : Bool :=
  newUnits.all fun r => allPrefixes.all fun pk => checkResolves cfg (pk.1 ++ r.name) ((10 : Rat) ^ pk.2) r

theorem checkNewUnits_sound {cfg} (h : checkNewUnits cfg = true) :
    ∀ r ∈ newUnits, ∀ pk ∈ allPrefixes, ResolvesTo cfg (pk.1 ++ r.name) ((10 : Rat) ^ pk.2) r := by
  intro r hr pk hpk
  have h1 := (List.all_eq_true.mp h) r hr
  exact checkResolves_sound ((List.all_eq_true.mp h1) pk hpk)

/-- the name `nm` resolves over `cfg` to exactly the magnitude `v` and the dimension `d` -/
def resolvesExactly (cfg : Cfg) (nm : Name) (v : Rat) (d : Dim) : Bool :=
  match lookup cfg nm with
  | .ok ⟨.exact q, dm⟩ => decide (q = v) && decide (dm = d)
  | _ => false

theorem resolvesExactly_sound {cfg nm v d} (h : resolvesExactly cfg nm v d = true) :
    lookup cfg nm = .ok ⟨.exact v, d⟩ := by
  unfold resolvesExactly at h
  split at h
  · next q dm heq =>
    simp only [Bool.and_eq_true, decide_eq_true_eq] at h
    rw [heq, h.1, h.2]
  · exact absurd h (by simp)

/-- the reference table read through the three-step lookup means what it says: every spelling `p ++ name` resolves
to `10^k · value` with the unit's dimension, unless it is itself a unit name (`min`, `ft`), which it then is -/
def checkRefSelf : Bool := checkUnits (cfgOf SI.units) fun r v => decide (v = r.value)

theorem checkRefSelf_sound (h : checkRefSelf = true) :
    ∀ r ∈ SI.units, ∀ pk ∈ allPrefixes,
      (find (pk.1 ++ r.name) = none →
        lookup (cfgOf SI.units) (pk.1 ++ r.name) = .ok ⟨.exact ((10 : Rat) ^ pk.2 * r.value), r.dim⟩) ∧
      (∀ r', find (pk.1 ++ r.name) = some r' →
        lookup (cfgOf SI.units) (pk.1 ++ r.name) = .ok ⟨.exact r'.value, r'.dim⟩) := by
  intro r hr pk hpk
  have h1 := checkUnits_sound h r hr pk hpk
  constructor
  · intro hn
    obtain ⟨v, ho, hl⟩ := h1.1 hn
    rw [hl, of_decide_eq_true ho]
  · intro r' hs
    obtain ⟨v, ho, hl⟩ := h1.2 r' hs
    rw [hl, of_decide_eq_true ho]

/-- every spelling of every new unit resolves over the extended reference to `10^k` times what the unit means -/
def checkExtNew : Bool :=
  newUnits.all fun r => allPrefixes.all fun pk =>
    resolvesExactly extCfg (pk.1 ++ r.name) ((10 : Rat) ^ pk.2 * r.value) r.dim

theorem checkExtNew_sound (h : checkExtNew = true) :
    ∀ r ∈ newUnits, ∀ pk ∈ allPrefixes,
      lookup extCfg (pk.1 ++ r.name) = .ok ⟨.exact ((10 : Rat) ^ pk.2 * r.value), r.dim⟩ := by
  intro r hr pk hpk
  have h1 := (List.all_eq_true.mp h) r hr
  exact resolvesExactly_sound ((List.all_eq_true.mp h1) pk hpk)

/-- the live prefix table is the SI one -/
def checkPrefixes (cfg : Cfg) : Bool :=
  SI.prefixes.all (fun pk => cfg.prefixes.find pk.1 == some ((10 : Rat) ^ pk.2)) &&
  cfg.prefixes.all (fun pv => SI.prefixes.any (fun pk => pk.1 == pv.1))

theorem checkPrefixes_sound {cfg} (h : checkPrefixes cfg = true) :
    (∀ pk ∈ SI.prefixes, cfg.prefixes.find pk.1 = some ((10 : Rat) ^ pk.2)) ∧
    (∀ pv ∈ cfg.prefixes, ∃ pk ∈ SI.prefixes, pk.1 = pv.1) := by
  unfold checkPrefixes at h
  rw [Bool.and_eq_true] at h
  refine ⟨fun pk hpk => ?_, fun pv hpv => ?_⟩
  · have := (List.all_eq_true.mp h.1) pk hpk
    exact beq_iff_eq.mp this
  · have := (List.all_eq_true.mp h.2) pv hpv
    obtain ⟨pk, hm, he⟩ := List.any_eq_true.mp this
    exact ⟨pk, hm, beq_iff_eq.mp he⟩

def Mag.isExactPos : Mag → Bool
  | .exact q => decide (0 < q)
  | .inexact _ => false

def Dim.isIntegral (d : Dim) : Bool := d.toList.all isInt

/-- every database entry is an exact positive magnitude with integer exponents; prefixes are positive;
the snapping threshold lies strictly between 0 and 1/2 -/
def checkIntegral (cfg : Cfg) : Bool :=
  cfg.db.all (fun kv => kv.2.mag.isExactPos && kv.2.dim.isIntegral) &&
  cfg.prefixes.all (fun pv => decide (0 < pv.2)) &&
  decide (0 < cfg.thr) && decide (cfg.thr < 1 / 2)

/-- dimension described by a list of (primitive name, exponent) -/
def dimOfExps : List (Name × Dec) → Option Dim
  | [] => some Dim.zero
  | (n, e) :: rest =>
    match Dim.ofPrim n, dimOfExps rest with
    | some b, some d => some (Dim.zip (· + ·) (b.map (e.toRat * ·)) d)
    | _, _ => none

def checkGasConstant : Bool :=
  dimOfExps PGA.Gen.Units.gasConstantExps == some SI.gasConstant.dim &&
  SI.gasConstant.admits 1 PGA.Gen.Units.gasConstantValue.toRat

end PGA.Units
