import PGA.Spec.MolIso
import Mathlib.Data.List.Nodup
import Mathlib.Data.List.Perm.Basic
/-! Transport of the embedding relation `Spec.Embeds` along a map of graphs that keeps everything an atom
constraint can see (`Spec.OpenMap`): `Embeds q m' (f.map φ) ↔ Embeds q m f`. -/
namespace PGA.Spec
open PGA

variable {φ : Nat → Nat} {m m' : Mol}

theorem relabelBond_id : relabelBond id = id := funext fun e => by cases e; simp [relabelBond]

theorem relabel_bondHolds (bs : BondSpec) (e : Bond) : BondHolds bs (relabelBond φ e) ↔ BondHolds bs e := by
  cases bs <;> exact Iff.rfl

/-- the three ring facts of an `OpenMap` from "the rings through the image are the images of the rings through the atom" -/
theorem rings_facts_of_eq (hr : ringsThrough m' (φ x) = (ringsThrough m x).map (List.map φ)) :
    (OnRing m' (φ x) ↔ OnRing m x) ∧
    (∀ cn : CN, ((∃ r ∈ m'.rings, φ x ∈ r ∧ CNHolds cn r.length) ↔ (∃ r ∈ m.rings, x ∈ r ∧ CNHolds cn r.length))) ∧
    (ringsThrough m' (φ x)).length = (ringsThrough m x).length := by
  have mem : ∀ (m : Mol) (x : Nat) (P : Nat → Prop),
      (∃ r ∈ m.rings, x ∈ r ∧ P r.length) ↔ ∃ r ∈ ringsThrough m x, P r.length := by
    intro m x P
    simp only [ringsThrough, List.mem_filter, decide_eq_true_eq, and_assoc]
  have key : ∀ (P : Nat → Prop), (∃ r ∈ m'.rings, φ x ∈ r ∧ P r.length) ↔ (∃ r ∈ m.rings, x ∈ r ∧ P r.length) := by
    intro P
    rw [mem, mem, hr]
    simp only [List.mem_map, exists_exists_and_eq_and, List.length_map]
  refine ⟨?_, fun cn => key (fun n => CNHolds cn n), by rw [hr, List.length_map]⟩
  simpa [OnRing] using key fun _ => True

/-- an `OpenMap` from the list form of the ring condition -/
theorem OpenMap.ofRingsEq (inj : Function.Injective φ)
    (atoms : ∀ x, x < m.natoms → m'.atom? (φ x) = m.atom? x)
    (bonds : ∀ x y, x < m.natoms → y < m.natoms → m'.bondBetween (φ x) (φ y) = (m.bondBetween x y).map (relabelBond φ))
    (closed : ∀ x y' e', x < m.natoms → m'.bondBetween (φ x) y' = some e' → ∃ y, y < m.natoms ∧ y' = φ y)
    (double : ∀ x, x < m.natoms → ((∃ e ∈ m'.bonds, e.touches (φ x) = true ∧ e.kind = .double) ↔
      (∃ e ∈ m.bonds, e.touches x = true ∧ e.kind = .double)))
    (rings : ∀ x, x < m.natoms → ringsThrough m' (φ x) = (ringsThrough m x).map (List.map φ)) : OpenMap φ m m' :=
  ⟨inj, atoms, bonds, closed, double, fun x hx => (rings_facts_of_eq (rings x hx)).1,
    fun x hx => (rings_facts_of_eq (rings x hx)).2.1, fun x hx => (rings_facts_of_eq (rings x hx)).2.2⟩

theorem Negated.congr {P Q : Prop} (neg : Bool) (h : P ↔ Q) : Negated neg P ↔ Negated neg Q := by
  unfold Negated
  split
  · exact not_congr h
  · exact h

theorem OpenMap.typeHolds (h : OpenMap φ m m') (t : AtomType) (x : Nat) (hx : x < m.natoms) :
    TypeHolds m' t (φ x) ↔ TypeHolds m t x := by
  unfold TypeHolds
  rw [h.atoms x hx]
  cases m.atom? x with
  | none => exact Iff.rfl
  | some a =>
    simp only
    refine and_congr Iff.rfl (and_congr Iff.rfl ?_)
    cases t.pre with
    | none => exact Iff.rfl
    | some p =>
      cases p with
      | aromatic => exact Iff.rfl
      | nonaromatic => exact Iff.rfl
      | ringatom => exact h.onRing x hx
      | nonringatom => exact not_congr (h.onRing x hx)
      | allylic => exact h.double x hx

theorem OpenMap.adjacent (h : OpenMap φ m m') (bs : BondSpec) (x y : Nat) (hx : x < m.natoms) (hy : y < m.natoms) :
    Adjacent m' (φ x) (φ y) (BondHolds bs) ↔ Adjacent m x y (BondHolds bs) := by
  unfold Adjacent
  rw [h.bonds x y hx hy]
  cases m.bondBetween x y with
  | none => exact Iff.rfl
  | some e => exact relabel_bondHolds bs e

theorem OpenMap.lt (h : OpenMap φ m m') (x : Nat) (hx : x < m.natoms) : φ x < m'.natoms := by
  have := h.atoms x hx
  unfold Mol.atom? at this
  by_contra hc
  rw [List.getElem?_eq_none_iff.2 (Nat.le_of_not_lt hc), eq_comm, List.getElem?_eq_none_iff] at this
  exact absurd hx (Nat.not_lt.2 this)

theorem OpenMap.neighbours (h : OpenMap φ m m') (t : AtomType) (bs : BondSpec) (x : Nat) (hx : x < m.natoms) :
    (Spec.neighbours m' (φ x) t bs).length = (Spec.neighbours m x t bs).length := by
  have hperm : (Spec.neighbours m' (φ x) t bs).Perm ((Spec.neighbours m x t bs).map φ) := by
    rw [List.perm_ext_iff_of_nodup]
    · intro y'
      unfold Spec.neighbours
      simp only [List.mem_filter, List.mem_range, decide_eq_true_eq, List.mem_map]
      constructor
      · rintro ⟨hy', hadj, hty⟩
        have hsome : ∃ e', m'.bondBetween (φ x) y' = some e' := by
          unfold Adjacent at hadj
          cases hb : m'.bondBetween (φ x) y' with
          | none => rw [hb] at hadj; exact absurd hadj (by simp)
          | some e' => exact ⟨e', rfl⟩
        obtain ⟨e', he'⟩ := hsome
        obtain ⟨y, hy, rfl⟩ := h.closed x y' e' hx he'
        exact ⟨y, ⟨hy, (h.adjacent bs x y hx hy).1 hadj, (h.typeHolds t y hy).1 hty⟩, rfl⟩
      · rintro ⟨y, ⟨hy, hadj, hty⟩, rfl⟩
        exact ⟨h.lt y hy, (h.adjacent bs x y hx hy).2 hadj, (h.typeHolds t y hy).2 hty⟩
    · unfold Spec.neighbours; exact (List.nodup_range).filter _
    · unfold Spec.neighbours; exact ((List.nodup_range).filter _).map h.inj
  rw [hperm.length_eq, List.length_map]

theorem OpenMap.consHolds (h : OpenMap φ m m') (c : ACons) (x : Nat) (hx : x < m.natoms) :
    ConsHolds m' (φ x) c ↔ ConsHolds m x c := by
  cases c with
  | conn neg cn t bs =>
    simp only [ConsHolds]
    rw [h.neighbours t bs x hx]
  | ringSize neg cn => exact Negated.congr neg (h.ringSize x hx cn)
  | radical neg cn =>
    simp only [ConsHolds]
    rw [h.atoms x hx]
  | nRing neg cn =>
    simp only [ConsHolds]
    rw [h.nRing x hx]

theorem OpenMap.atomHolds (h : OpenMap φ m m') (qa : QAtom) (x : Nat) (hx : x < m.natoms) :
    AtomHolds m' qa (φ x) ↔ AtomHolds m qa x := by
  unfold AtomHolds
  exact and_congr (h.typeHolds qa.ty x hx) (forall_congr' fun c => forall_congr' fun _ => h.consHolds c x hx)

theorem contains_map_inj (hinj : Function.Injective φ) (l : List Nat) (x : Nat) : (l.map φ).contains (φ x) = l.contains x := by
  rw [Bool.eq_iff_iff]
  simp only [List.contains_iff_mem, List.mem_map]
  constructor
  · rintro ⟨y, hy, he⟩; rwa [← hinj he]
  · intro hx; exact ⟨x, hx, rfl⟩

theorem eraseDups_pair_map (hinj : Function.Injective φ) (x1 x2 : Nat) :
    [φ x1, φ x2].eraseDups = ([x1, x2].eraseDups).map φ := by
  by_cases h : x1 = x2
  · simp [List.eraseDups_cons, h]
  · simp [List.eraseDups_cons, Ne.symm h, hinj.ne (Ne.symm h)]

theorem sameSide_relabel (hinj : Function.Injective φ) (e : Bond) (x1 x2 : Nat) :
    sameSide (relabelBond φ e) (φ x1) (φ x2) = sameSide e x1 x2 := by
  unfold sameSide relabelBond
  simp only [eraseDups_pair_map hinj, List.filter_map, List.length_map, Function.comp_def, contains_map_inj hinj]

theorem stereoRel_relabel (hinj : Function.Injective φ) (e : Bond) (x1 x2 : Nat) (k : StereoKind) :
    StereoRel (relabelBond φ e) (φ x1) (φ x2) k ↔ StereoRel e x1 x2 k := by
  cases k <;> simp only [StereoRel, sameSide_relabel hinj]
  exact Iff.rfl

theorem getElem?_map_some (f : List Nat) (i x' : Nat) : (f.map φ)[i]? = some x' ↔ ∃ x, f[i]? = some x ∧ φ x = x' := by
  rw [List.getElem?_map, Option.map_eq_some_iff]

/-- a statement about the bond between the images of two declared atoms, transported -/
theorem OpenMap.bondAt (h : OpenMap φ m m') {f : List Nat} (hf : ∀ x ∈ f, x < m.natoms) (i j : Nat) {P P' : Bond → Prop}
    (hP : ∀ e, P' (relabelBond φ e) ↔ P e) : BondAt m' (f.map φ) i j P' ↔ BondAt m f i j P := by
  have hb : ∀ {x y}, f[i]? = some x → f[j]? = some y →
      m'.bondBetween (φ x) (φ y) = (m.bondBetween x y).map (relabelBond φ) :=
    fun hx hy => h.bonds _ _ (hf _ (List.mem_of_getElem? hx)) (hf _ (List.mem_of_getElem? hy))
  constructor
  · rintro ⟨_, _, _, hx', hy', he, hp⟩
    obtain ⟨x, hx, rfl⟩ := (getElem?_map_some f i _).1 hx'
    obtain ⟨y, hy, rfl⟩ := (getElem?_map_some f j _).1 hy'
    rw [hb hx hy] at he
    obtain ⟨e, hb, rfl⟩ := Option.map_eq_some_iff.1 he
    exact ⟨x, y, e, hx, hy, hb, (hP e).1 hp⟩
  · rintro ⟨x, y, e, hx, hy, he, hp⟩
    exact ⟨φ x, φ y, relabelBond φ e, (getElem?_map_some f i _).2 ⟨x, hx, rfl⟩, (getElem?_map_some f j _).2 ⟨y, hy, rfl⟩,
      by rw [hb hx hy, he]; rfl, (hP e).2 hp⟩

/-- a stereo statement is a statement about the bond between its third and fourth atom, given the first two -/
theorem stereoHolds_iff (m : Mol) (f : List Nat) (s : QStereo) : StereoHolds m f s ↔
    ∃ x1 x2, f[s.i1]? = some x1 ∧ f[s.i2]? = some x2 ∧
      BondAt m f s.i3 s.i4 fun e => Negated s.neg (StereoRel e x1 x2 s.kind) := by
  unfold StereoHolds BondAt
  constructor
  · rintro ⟨x1, x2, x3, x4, e, h1, h2, h⟩; exact ⟨x1, x2, h1, h2, x3, x4, e, h⟩
  · rintro ⟨x1, x2, h1, h2, x3, x4, e, h⟩; exact ⟨x1, x2, x3, x4, e, h1, h2, h⟩

theorem OpenMap.stereoHolds (h : OpenMap φ m m') {f : List Nat} (hf : ∀ x ∈ f, x < m.natoms) (s : QStereo) :
    StereoHolds m' (f.map φ) s ↔ StereoHolds m f s := by
  have hB := fun x1 x2 => h.bondAt hf s.i3 s.i4 (P := fun e => Negated s.neg (StereoRel e x1 x2 s.kind))
    (P' := fun e => Negated s.neg (StereoRel e (φ x1) (φ x2) s.kind))
    fun e => Negated.congr s.neg (stereoRel_relabel h.inj e x1 x2 s.kind)
  rw [stereoHolds_iff, stereoHolds_iff]
  constructor
  · rintro ⟨_, _, h1', h2', hb⟩
    obtain ⟨x1, h1, rfl⟩ := (getElem?_map_some f _ _).1 h1'
    obtain ⟨x2, h2, rfl⟩ := (getElem?_map_some f _ _).1 h2'
    exact ⟨x1, x2, h1, h2, (hB x1 x2).1 hb⟩
  · rintro ⟨x1, x2, h1, h2, hb⟩
    exact ⟨φ x1, φ x2, (getElem?_map_some f _ _).2 ⟨x1, h1, rfl⟩, (getElem?_map_some f _ _).2 ⟨x2, h2, rfl⟩, (hB x1 x2).2 hb⟩

/-- **Transport of embeddings.** For an assignment `f` into the atoms of `m`: `f` followed by `φ` embeds the query in
`m'` exactly when `f` embeds it in `m` — provided the query's molecule-level prefixes (which look at the whole
molecule) agree on the two graphs. -/
theorem OpenMap.embeds (h : OpenMap φ m m') (q : Query) (f : List Nat) (hf : ∀ x ∈ f, x < m.natoms)
    (hmol : ∀ p ∈ q.molPre, (MolPrefixHolds m' p ↔ MolPrefixHolds m p)) :
    Embeds q m' (f.map φ) ↔ Embeds q m f := by
  have key_bond := fun (b : QBond) => h.bondAt hf b.i b.j (relabel_bondHolds b.spec)
  constructor
  · intro E
    refine ⟨by simpa using E.length, (List.nodup_map_iff h.inj).1 E.inj, hf, fun i qa x hq hx => ?_,
      fun b hb => (key_bond b).1 (E.bonds b hb), fun p hp => (hmol p hp).1 (E.molecule p hp),
      fun s hs => (h.stereoHolds hf s).1 (E.stereo s hs)⟩
    exact (h.atomHolds qa x (hf x (List.mem_of_getElem? hx))).1 (E.atoms i qa (φ x) hq ((getElem?_map_some f i _).2 ⟨x, hx, rfl⟩))
  · intro E
    refine ⟨by simpa using E.length, (List.nodup_map_iff h.inj).2 E.inj, fun x' hx' => ?_, fun i qa x' hq hx' => ?_,
      fun b hb => (key_bond b).2 (E.bonds b hb), fun p hp => (hmol p hp).2 (E.molecule p hp),
      fun s hs => (h.stereoHolds hf s).2 (E.stereo s hs)⟩
    · obtain ⟨x, hx, rfl⟩ := List.mem_map.1 hx'
      exact h.lt x (hf x hx)
    · obtain ⟨x, hx, rfl⟩ := (getElem?_map_some f i x').1 hx'
      exact (h.atomHolds qa x (hf x (List.mem_of_getElem? hx))).2 (E.atoms i qa x hq hx)

end PGA.Spec
