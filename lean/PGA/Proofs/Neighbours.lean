import PGA.Model.Match
import Mathlib.Data.List.Nodup
import Mathlib.Data.List.Perm.Basic
import Mathlib.Data.List.Perm.Lattice
/-! What `Mol.wf` and `Bond.joins` say, and: counting the bonds at an atom (what `AtomConnectivityAtom` does) is counting
its neighbours (what the property text says), in every well-formed graph. -/
namespace PGA

/-- no two bonds of the list join the same pair of atoms -/
def NoParallel (l : List Bond) : Prop := l.Pairwise fun e e' => e'.joins e.a e.b = false

theorem Mol.wf_iff (m : Mol) : m.wf = true ↔ (∀ e ∈ m.bonds, e.a < m.natoms ∧ e.b < m.natoms ∧ e.a ≠ e.b) ∧
    NoParallel m.bonds ∧ ∀ r ∈ m.rings, r.Nodup ∧ ∀ x ∈ r, x < m.natoms := by
  simp only [Mol.wf, NoParallel, Bool.and_eq_true, List.all_eq_true, decide_eq_true_eq, bne_iff_ne, ne_eq,
    Bool.not_eq_true', and_assoc]

theorem joins_ends_eq (e : Bond) (x y : Nat) : e.joins x y = true ↔ (e.a = x ∧ e.b = y) ∨ (e.a = y ∧ e.b = x) := by
  simp only [Bond.joins, Bool.or_eq_true, Bool.and_eq_true, beq_iff_eq]

theorem bondBetween_some {m : Mol} {x y : Nat} {e : Bond} (h : m.bondBetween x y = some e) :
    e ∈ m.bonds ∧ e.joins x y = true :=
  ⟨List.mem_of_find?_eq_some h, List.find?_some (p := fun e : Bond => e.joins x y) h⟩

end PGA

namespace PGA.Match

theorem joins_self (e : Bond) : e.joins e.a e.b = true := by simp [Bond.joins]

/-- the bond joins `x` and `y` exactly when it touches `x` and `y` is its other end -/
theorem joins_iff (e : Bond) (x y : Nat) : e.joins x y = true ↔ e.touches x = true ∧ e.other x = y := by
  simp only [Bond.joins, Bond.touches, Bond.other, Bool.or_eq_true, Bool.and_eq_true, beq_iff_eq]
  by_cases ha : e.a = x
  · simp only [ha, if_true, true_and, true_or]
    exact ⟨fun h => h.elim id fun h => h.2.trans h.1, Or.inl⟩
  · simp only [ha, if_false, false_and, false_or, and_comm]

/-- if two bonds join the same pair of atoms, each joins the other's endpoints -/
theorem joins_ends (e e' : Bond) (x y : Nat) (h : e.joins x y = true) (h' : e'.joins x y = true) :
    e.joins e'.a e'.b = true := by
  rw [joins_ends_eq] at h h' ⊢
  rcases h with ⟨h1, h2⟩ | ⟨h1, h2⟩ <;> rcases h' with ⟨h3, h4⟩ | ⟨h3, h4⟩ <;> simp [h1, h2, h3, h4]

/-- in a graph without parallel bonds, `GetBondBetweenAtoms` finds *the* bond joining two atoms -/
theorem bondBetween_of_mem (m : Mol) (hp : NoParallel m.bonds)
    (e : Bond) (he : e ∈ m.bonds) (x y : Nat) (hj : e.joins x y = true) :
    m.bondBetween x y = some e := by
  unfold Mol.bondBetween
  cases hf : m.bonds.find? (·.joins x y) with
  | none =>
    have := List.find?_eq_none.1 hf e he
    simp [hj] at this
  | some e' =>
    rw [List.find?_eq_some_iff_append] at hf
    obtain ⟨hj', as, bs, hl, hnot⟩ := hf
    have hj' : e'.joins x y = true := by simpa using hj'
    rw [hl] at he hp
    rcases List.mem_append.1 he with h | h
    · have := hnot e h; simp [hj] at this
    · rcases List.mem_cons.1 h with h | h
      · rw [h]
      · have hp' := (List.pairwise_append.1 hp).2.1
        have := (List.pairwise_cons.1 hp').1 e h
        rw [joins_ends e e' x y hj hj'] at this
        exact absurd this (by simp)

/-- without parallel bonds, the bond between `x` and `y` is the bond at `x` whose other end is `y` -/
theorem bondBetween_eq_some (m : Mol) (hp : NoParallel m.bonds)
    (x y : Nat) (e : Bond) : m.bondBetween x y = some e ↔ e ∈ m.bondsOf x ∧ e.other x = y := by
  simp only [Mol.bondsOf, List.mem_filter, and_assoc, ← joins_iff]
  exact ⟨bondBetween_some, fun h => bondBetween_of_mem m hp e h.1 x y h.2⟩

/-- **bond count = neighbour count** -/
theorem count_bonds_eq_neighbours (m : Mol) (h : m.wf = true) (x : Nat) (P : Nat → Bond → Bool) :
    ((m.bondsOf x).filter fun e => P (e.other x) e).length =
    ((List.range m.natoms).filter fun y =>
      match m.bondBetween x y with
      | some e => P y e
      | none => false).length := by
  obtain ⟨hw1, hw2, _⟩ := m.wf_iff.1 h
  have hB := bondBetween_eq_some m hw2 x
  have hnd : ((m.bondsOf x).filter fun e => P (e.other x) e).Nodup :=
    ((hw2.imp fun {a b} hab hEq => by rw [← hEq, joins_self] at hab; cases hab).filter _).filter _
  -- `e ↦ e.other x` is a bijection from the bonds at `x` onto the `y` with a bond between `x` and `y`;
  -- its inverse is `bondBetween x` (`hB`)
  rw [← List.length_map (f := (·.other x))]
  refine ((List.perm_ext_iff_of_nodup (hnd.map_on fun e he e' he' hEq => ?_) (List.nodup_range.filter _)).2
    fun y => ?_).length_eq
  · exact Option.some.inj (((hB _ e).2 ⟨(List.mem_filter.1 he).1, hEq⟩).symm.trans
      ((hB _ e').2 ⟨(List.mem_filter.1 he').1, rfl⟩))
  · simp only [List.mem_map, List.mem_filter, List.mem_range]
    constructor
    · rintro ⟨e, ⟨he, hP⟩, rfl⟩
      have := hw1 e (List.mem_filter.1 he).1
      refine ⟨by unfold Bond.other; split <;> omega, ?_⟩
      rw [(hB _ e).2 ⟨he, rfl⟩]; exact hP
    · rintro ⟨_, hq⟩
      split at hq
      · obtain ⟨he, rfl⟩ := (hB y _).1 ‹_›
        exact ⟨_, ⟨he, hq⟩, rfl⟩
      · cases hq

end PGA.Match
