import PGA.Proofs.Cand
import PGA.Proofs.Tables
import PGA.Proofs.Neighbours
/-! The matcher's pipeline returns exactly the embeddings of the query (main refinement proof). -/
namespace PGA.Match
open PGA.Spec

theorem connCount_eq (m : Mol) (h : m.wf = true) (x : Nat) (t : AtomType) (bs : BondSpec)
    (hs : t.suf ≠ .star) : connCount m x t bs = (neighbours m x t bs).length := by
  unfold connCount neighbours
  rw [count_bonds_eq_neighbours m h x (fun y e => typeMatch m t y && bondQuery bs e)]
  congr 1
  apply List.filter_congr
  intro y _
  rw [Bool.eq_iff_iff, decide_eq_true_eq]
  unfold Adjacent
  cases hb : m.bondBetween x y with
  | none => simp
  | some e =>
    simp only [Bool.and_eq_true]
    rw [typeMatch_iff m t y hs, bondQuery_iff]
    tauto

/-- the constraint is not a `connected to` constraint on a `*` atom type (the anonymous test inside `Spec.NoStar`,
under a name: `noStar_atoms` identifies the two by unfolding) -/
def consNoStar : ACons → Bool
  | .conn _ _ t _ => t.suf != .star
  | _ => true

theorem evalA_iff (m : Mol) (h : m.wf = true) (x : Nat) (a : Atom) (hx : m.atom? x = some a)
    (c : ACons) (hc : consNoStar c = true) : evalA m x a c = true ↔ ConsHolds m x c := by
  cases c with
  | conn neg cn t bs =>
    have hs : t.suf ≠ .star := by simpa [consNoStar] using hc
    simp only [evalA, ConsHolds]
    apply negated_iff
    rw [cn_holds, connCount_eq m h x t bs hs]
  | ringSize neg cn =>
    have key : (m.rings.any fun r => r.contains x && cn.holds r.length) = true ↔
        ∃ r ∈ m.rings, x ∈ r ∧ CNHolds cn r.length := by
      simp only [List.any_eq_true, Bool.and_eq_true, List.contains_iff_mem, cn_holds]
    cases neg
    · simp only [evalA, ConsHolds, Negated, Bool.false_eq_true, if_false, Bool.and_eq_true, key, atomInRing_iff,
        OnRing]
      exact ⟨fun h => h.2, fun ⟨r, hr, hx, hc⟩ => ⟨⟨r, hr, hx⟩, r, hr, hx, hc⟩⟩
    · simp only [evalA, ConsHolds, Negated, if_true, Bool.not_eq_true', ← Bool.not_eq_true, key]
  | radical neg cn =>
    simp only [evalA, ConsHolds, hx]
    apply negated_iff
    exact cn_holds _ _
  | nRing neg cn =>
    simp only [evalA, ConsHolds]
    apply negated_iff
    rw [cn_holds, ringCount_eq m x fun r hr => ((m.wf_iff.1 h).2.2 r hr).1]

theorem atom_split (m : Mol) (h : m.wf = true) (qa : QAtom) (x : Nat)
    (hs : qa.ty.suf ≠ .star) (hc : ∀ c ∈ qa.chain, consNoStar c = true) :
    AtomHolds m qa x ↔
      (∃ a, m.atom? x = some a ∧ rdAtomMatch qa.ty a = true) ∧ atomCons m qa x = true := by
  unfold AtomHolds atomCons
  rw [← typeMatch_iff m qa.ty x hs]
  unfold typeMatch
  cases hx : m.atom? x with
  | none => simp
  | some a =>
    simp only [Bool.and_eq_true, List.all_eq_true, Option.some.injEq, exists_eq_left']
    constructor
    · rintro ⟨⟨h1, h2⟩, h3⟩
      exact ⟨h1, h2, fun c hcm => (evalA_iff m h x a hx c (hc c hcm)).2 (h3 c hcm)⟩
    · rintro ⟨h1, h2, h3⟩
      exact ⟨⟨h1, h2⟩, fun c hcm => (evalA_iff m h x a hx c (hc c hcm)).1 (h3 c hcm)⟩

theorem hasCC_iff (m : Mol) : hasCC m = true ↔ HasCC m := by
  unfold hasCC HasCC
  simp only [List.any_eq_true, Bool.and_eq_true, beq_iff_eq]
  constructor
  · rintro ⟨e, he, hk, hz⟩
    refine ⟨e, he, hk, ?_⟩
    cases ha : m.atom? e.a <;> cases hb : m.atom? e.b <;> simp [ha, hb] at hz
    exact ⟨_, _, rfl, rfl, hz.1, hz.2⟩
  · rintro ⟨e, he, hk, a, b, ha, hb, hz⟩
    exact ⟨e, he, hk, by simp [ha, hb, hz]⟩

theorem molCons_iff (m : Mol) (p : MolPrefix) : molCons m p = true ↔ MolPrefixHolds m p := by
  cases p <;> simp [molCons, MolPrefixHolds, ← hasCC_iff, Mol.numRings]

theorem bondAt_iff (m : Mol) (f : List Nat) (i j : Nat) (p : Bond → Bool) :
    bondAt m f i j p = true ↔ BondAt m f i j (p · = true) := by
  unfold bondAt BondAt
  constructor
  · intro h
    split at h
    · split at h
      · exact ⟨_, _, _, ‹_›, ‹_›, ‹_›, h⟩
      · cases h
    · cases h
  · rintro ⟨x, y, e, hx, hy, he, h⟩
    simp only [hx, hy, he]
    exact h

/-- a declared bond between the images exists with the declared kind exactly when it passes the query bond's
type test and every bond constraint -/
theorem bondAt_split (m : Mol) (f : List Nat) (b : QBond) :
    BondAt m f b.i b.j (BondHolds b.spec) ↔
      bondAt m f b.i b.j (rdBondMatch b.spec) = true ∧
      ∀ c ∈ bondCons b.spec, bondAt m f b.i b.j (bondQuery c) = true := by
  simp only [bondAt_iff, BondAt, bond_split]
  constructor
  · rintro ⟨x, y, e, hx, hy, he, h1, h2⟩
    exact ⟨⟨x, y, e, hx, hy, he, h1⟩, fun c hc => ⟨x, y, e, hx, hy, he, h2 c hc⟩⟩
  · rintro ⟨⟨x, y, e, hx, hy, he, h1⟩, h2⟩
    refine ⟨x, y, e, hx, hy, he, h1, fun c hc => ?_⟩
    obtain ⟨_, _, _, hx', hy', he', h⟩ := h2 c hc
    cases hx.symm.trans hx'; cases hy.symm.trans hy'; cases he.symm.trans he'; exact h

/-- the truth table of `DoubleBondStereoConstraint` against the reference table, over the stereo word, the
negation, the bond's mark and the number of reference substituents among `x1`, `x2`; that number is at most 2
(`hle`), so the last `else true` of `stereoJudge` is never reached -/
theorem stereoJudge_iff (s : QStereo) (e : Bond) (x1 x2 : Nat) :
    stereoJudge s e x1 x2 = true ↔ Negated s.neg (StereoRel e x1 x2 s.kind) := by
  unfold stereoJudge StereoRel sameSide
  have hle : (([x1, x2].eraseDups).filter (e.stereoAtoms.contains ·)).length ≤ 2 := by
    refine Nat.le_trans (List.length_filter_le _ _) ?_
    by_cases hx : x2 = x1 <;> simp [List.eraseDups_cons, hx]
  generalize (([x1, x2].eraseDups).filter (e.stereoAtoms.contains ·)).length = n at hle ⊢
  generalize s.neg = neg
  have hn : n = 0 ∨ n = 1 ∨ n = 2 := by omega
  rcases hn with rfl | rfl | rfl <;> cases s.kind <;> cases e.stereo <;> revert neg <;> decide

theorem stereoCons_iff (m : Mol) (f : List Nat) (s : QStereo) :
    stereoCons m f s = true ↔ StereoHolds m f s := by
  unfold stereoCons StereoHolds
  constructor
  · intro h
    split at h
    · split at h
      · cases h
      · exact ⟨_, _, _, _, _, ‹_›, ‹_›, ‹_›, ‹_›, ‹_›, (stereoJudge_iff ..).1 h⟩
    · cases h
  · rintro ⟨x1, x2, x3, x4, e, h1, h2, h3, h4, hb, h⟩
    simp only [h1, h2, h3, h4, hb]
    exact (stereoJudge_iff ..).2 h

theorem all_zip_iff {α β : Type} (p : α × β → Bool) (l1 : List α) (l2 : List β) :
    (l1.zip l2).all p = true ↔
      ∀ (i : Nat) (a : α) (b : β), l1[i]? = some a → l2[i]? = some b → p (a, b) = true := by
  simp only [List.all_eq_true, List.mem_iff_getElem?, List.getElem?_zip_eq_some]
  exact ⟨fun h i a b ha hb => h (a, b) ⟨i, ha, hb⟩, fun h _ ⟨i, ha, hb⟩ => h i _ _ ha hb⟩

theorem noStar_atoms (q : Query) (h : NoStar q = true) (i : Nat) (qa : QAtom) (hqa : q.atoms[i]? = some qa) :
    qa.ty.suf ≠ .star ∧ ∀ c ∈ qa.chain, consNoStar c = true := by
  have h' : (q.atoms.all fun a => a.ty.suf != .star && a.chain.all consNoStar) = true := h
  simpa only [List.all_eq_true, Bool.and_eq_true, bne_iff_ne, ne_eq] using
    List.all_eq_true.1 h' qa (List.mem_of_getElem? hqa)

/-- the filtering stages keep a candidate exactly when it passes all of them -/
theorem mem_pipeline (raw : List (List Nat)) (q : Query) (m : Mol) (f : List Nat) :
    f ∈ pipeline raw q m ↔ f ∈ raw ∧ molConsOK q m = true ∧ bondConsOK q m f = true ∧
      atomConsOK q m f = true ∧ stereoOK q m f = true := by
  unfold pipeline
  split
  · simp only [List.mem_filter, and_assoc, true_and, *]
  · simp [*]

/-- **the embeddings are the candidates that pass every constraint stage** -/
theorem embeds_iff (q : Query) (m : Mol) (f : List Nat) (hm : m.wf = true) (hstar : NoStar q = true) :
    Embeds q m f ↔ Cand q m f ∧ molConsOK q m = true ∧ bondConsOK q m f = true ∧
      atomConsOK q m f = true ∧ stereoOK q m f = true := by
  have hatom : ∀ (i : Nat) (qa : QAtom) (x : Nat), q.atoms[i]? = some qa → (AtomHolds m qa x ↔
      (∃ a, m.atom? x = some a ∧ rdAtomMatch qa.ty a = true) ∧ atomCons m qa x = true) := fun i qa x hqa =>
    have ⟨hs, hcs⟩ := noStar_atoms q hstar i qa hqa
    atom_split m hm qa x hs hcs
  simp only [atomConsOK, all_zip_iff]
  simp only [molConsOK, bondConsOK, stereoOK, List.all_eq_true, molCons_iff, stereoCons_iff]
  constructor
  · intro he
    exact ⟨⟨he.length, he.inj, he.range, fun i qa x hqa hx => ((hatom i qa x hqa).1 (he.atoms i qa x hqa hx)).1,
        fun b hb => ((bondAt_split m f b).1 (he.bonds b hb)).1⟩,
      he.molecule, fun b hb => ((bondAt_split m f b).1 (he.bonds b hb)).2,
      fun i qa x hqa hx => ((hatom i qa x hqa).1 (he.atoms i qa x hqa hx)).2, he.stereo⟩
  · rintro ⟨hc, hmol, hb, ha, hs⟩
    exact ⟨hc.length, hc.inj, hc.range,
      fun i qa x hqa hx => (hatom i qa x hqa).2 ⟨hc.atoms i qa x hqa hx, ha i qa x hqa hx⟩,
      fun b hb' => (bondAt_split m f b).2 ⟨hc.bonds b hb', hb b hb'⟩, hmol, hs⟩

/-- **Main refinement**: the pipeline over the candidates returns exactly the embeddings. -/
theorem mem_queryMatches (q : Query) (m : Mol) (f : List Nat)
    (hq : q.wf = true) (hm : m.wf = true) (hstar : NoStar q = true) :
    f ∈ queryMatches q m ↔ Embeds q m f := by
  rw [queryMatches, mem_pipeline, mem_rawMatches q m f hq, embeds_iff q m f hm hstar]

theorem queryMatches_nodup (q : Query) (m : Mol) : (queryMatches q m).Nodup := by
  unfold queryMatches pipeline
  split
  · exact (((rawMatches_nodup q m).filter _).filter _).filter _
  · exact List.nodup_nil

end PGA.Match
