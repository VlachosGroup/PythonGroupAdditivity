import PGA.Proofs.Merge
/-! Lemmas for C13 at the level of libraries and file trees: the library dictionary (`libLookup`/`libInsert`); the first pass
of `GroupLibrary.Update` raises what the storing pass raises (`libTrial_eq`); the invariant `LibInv Wg E lib` ("`lib` holds,
for every group, a freshly built consistent part of the whole with exactly the data of the entries `E g`") through
`Update`, through the groups of one file and through a tree of includes; the duplicate check of `_do_load`. -/
namespace PGA.Merge
open PGA.Yaml PGA.GroupName

/-! ### the library dictionary -/

theorem libLookup_libInsert (g g' : Name) (v : Option Obj) (l : Lib) :
    libLookup g' (libInsert g v l) = if g = g' then some v else libLookup g' l := by
  induction l with
  | nil => rfl
  | cons kv l ih =>
    obtain ⟨k, w⟩ := kv
    simp only [libInsert]
    by_cases h : k = g
    · subst h
      simp only [if_true, libLookup]
      split <;> rfl
    · simp only [h, if_false, libLookup, ih]
      by_cases h2 : k = g'
      · simp only [if_pos h2, if_neg fun e : g = g' => h (h2.trans e.symm)]
      · simp only [if_neg h2]

theorem libLookup_isSome_iff (g : Name) (l : Lib) : (libLookup g l).isSome = true ↔ g ∈ l.map Prod.fst := by
  induction l with
  | nil => exact ⟨nofun, nofun⟩
  | cons kv l ih =>
    obtain ⟨k, w⟩ := kv
    rw [libLookup, List.map_cons, List.mem_cons]
    by_cases h : k = g
    · rw [if_pos h]; exact ⟨fun _ => Or.inl h.symm, fun _ => rfl⟩
    · rw [if_neg h, ih]; exact ⟨Or.inr, fun hm => hm.resolve_left fun e => h e.symm⟩

theorem libLookup_eq_none_iff (g : Name) (l : Lib) : libLookup g l = none ↔ g ∉ l.map Prod.fst := by
  rw [← libLookup_isSome_iff, Option.isSome_iff_ne_none, not_not]

theorem libInsert_of_absent (g : Name) (v : Option Obj) (l : Lib) (h : libLookup g l = none) :
    libInsert g v l = l ++ [(g, v)] := by
  induction l with
  | nil => rfl
  | cons kv l ih =>
    obtain ⟨k, w⟩ := kv
    rw [libLookup] at h
    by_cases hk : k = g
    · rw [if_pos hk] at h; cases h
    · rw [if_neg hk] at h
      rw [libInsert, if_neg hk, ih h]; rfl

theorem names_libInsert (g : Name) (v : Option Obj) (l : Lib) :
    (libInsert g v l).map Prod.fst = if g ∈ l.map Prod.fst then l.map Prod.fst else l.map Prod.fst ++ [g] := by
  induction l with
  | nil => rfl
  | cons kv l ih =>
    obtain ⟨k, w⟩ := kv
    rw [libInsert, List.map_cons]
    by_cases h : k = g
    · rw [if_pos h, if_pos (h ▸ List.mem_cons_self), h]; rfl
    · rw [if_neg h, List.map_cons, ih]
      by_cases hm : g ∈ l.map Prod.fst
      · rw [if_pos hm, if_pos (List.mem_cons_of_mem _ hm)]
      · rw [if_neg hm, if_neg fun hc => (List.mem_cons.mp hc).elim (fun e => h e.symm) hm]; rfl

theorem nodup_libInsert (g : Name) (v : Option Obj) (l : Lib) (h : (l.map Prod.fst).Nodup) :
    ((libInsert g v l).map Prod.fst).Nodup := by
  rw [names_libInsert]
  split
  · exact h
  · rename_i hk
    exact List.nodup_append.mpr ⟨h, List.pairwise_singleton _ _, fun a ha b hb e => hk (List.mem_singleton.mp hb ▸ e ▸ ha)⟩

theorem libLookup_of_mem_nodup {l : Lib} (hnd : (l.map Prod.fst).Nodup) {g : Name} {x : Option Obj} (h : (g, x) ∈ l) :
    libLookup g l = some x := by
  induction l with
  | nil => cases h
  | cons kv l ih =>
    obtain ⟨k, w⟩ := kv
    obtain ⟨hk, hnd⟩ := List.nodup_cons.mp hnd
    rw [libLookup]
    rcases List.mem_cons.mp h with e | hm
    · cases e; rw [if_pos rfl]
    · rw [if_neg fun e : k = g => hk (e ▸ (List.mem_map_of_mem (f := Prod.fst) hm : g ∈ l.map Prod.fst))]
      exact ih hnd hm

/-! ### the two passes of `GroupLibrary.Update` (repair of FA1) -/

theorem copy_c {m m' : Obj} (h : copy m = .ok m') : m'.c = m.c := by
  unfold copy mk at h
  split at h
  · cases h; rfl
  · cases h

/-- the trial on a copy raises what the call on the original raises: whether `update` raises, and what, depends on the
data fields of the target only -/
theorem update_copy_err (ev : RawEval) {m m' : Obj} (h : copy m = .ok m') (d : Corr) (ow : Bool) :
    (update ev m' d ow).2 = (update ev m d ow).2 := by
  rw [update_eq, update_eq, copy_c h]
  cases mergeData ev m.c d ow <;> rfl

theorem libLookup_updateGroup_ne (ev : RawEval) (ow : Bool) (cur : Lib) (g g' : Name) (ps : Option Obj) (h : g ≠ g') :
    libLookup g' (updateGroup ev ow cur g ps).1 = libLookup g' cur := by
  have : ∃ v, (updateGroup ev ow cur g ps).1 = libInsert g v cur := by
    unfold updateGroup
    cases ps with
    | none => exact ⟨_, rfl⟩
    | some o =>
      simp only
      split
      · split <;> exact ⟨_, rfl⟩
      · exact ⟨_, rfl⟩
  obtain ⟨v, hv⟩ := this
  rw [hv, libLookup_libInsert, if_neg h]

/-- the target's property sets can be copied (they are what the constructor accepts) -/
def Copyable (self : Lib) : Prop := ∀ g m, libLookup g self = some (some m) → ∃ m', copy m = .ok m'

/-- one group: the first pass (against the target as it was) raises exactly what storing the group raises, into a target
that still holds for this group what it held — when the target's property set can be copied, or the first pass raised
nothing (a property set that cannot be copied makes the first pass raise where the storing pass need not) -/
theorem trialGroup_eq (ev : RawEval) (ow : Bool) {cur self0 : Lib} {g : Name} (ps : Option Obj)
    (hl : libLookup g cur = libLookup g self0) (hc : Copyable self0 ∨ trialGroup ev ow self0 g ps = none) :
    trialGroup ev ow self0 g ps = (updateGroup ev ow cur g ps).2 := by
  unfold trialGroup updateGroup at *
  rw [hl]
  cases ps with
  | none => rfl
  | some o =>
    cases hlk : libLookup g self0 with
    | none => simp only; cases copy o <;> rfl
    | some x =>
      cases x with
      | none => simp only; cases copy o <;> rfl
      | some m =>
        rw [hlk] at hc
        simp only at hc ⊢
        cases hm : copy m with
        | ok m' => exact update_copy_err ev hm o.c ow
        | error e =>
          rw [hm] at hc
          rcases hc with hc | hc
          · obtain ⟨m', hm'⟩ := hc g m hlk
            rw [hm] at hm'; cases hm'
          · cases hc

/-- the exception of the first pass is the exception at which the old loop stopped (the groups of the source are
pairwise different: a Python mapping) -/
theorem libTrial_eq (ev : RawEval) (ow : Bool) (self0 : Lib) :
    ∀ (other cur : Lib), (other.map Prod.fst).Nodup → (∀ g ∈ other.map Prod.fst, libLookup g cur = libLookup g self0) →
      Copyable self0 ∨ libTrial ev ow self0 other = none →
      libTrial ev ow self0 other = (libUpdateOld ev ow cur other).2 := by
  intro other
  induction other with
  | nil => intro cur _ _ _; rfl
  | cons gx rest ih =>
    intro cur hnd hag hc
    obtain ⟨g, ps⟩ := gx
    obtain ⟨hg, hnd⟩ := List.nodup_cons.mp hnd
    rw [libTrial] at hc ⊢
    have htg := trialGroup_eq ev ow ps (hag g List.mem_cons_self) (hc.imp_right fun ht => by
      cases htg : trialGroup ev ow self0 g ps with
      | none => rfl
      | some e => rw [htg] at ht; cases ht)
    rw [htg] at hc ⊢
    rw [libUpdateOld]
    cases hu : updateGroup ev ow cur g ps with
    | mk cur' err =>
      rw [hu] at hc
      cases err with
      | some e => rfl
      | none =>
        refine ih cur' hnd (fun g' hg' => ?_) hc
        have := libLookup_updateGroup_ne ev ow cur g g' ps fun e => hg (e ▸ hg')
        rw [hu] at this
        exact this.trans (hag g' (List.mem_cons_of_mem _ hg'))

/-! ### `GroupLibrary.Update` on libraries of parts -/

theorem copy_fresh {b : Corr} (vb : Valid b) : copy (fresh b) = .ok (fresh b) := by
  simp only [copy, mk, fresh, (checkValid_iff _ _ _).mpr vb.ok]

/-- every whole is consistent and has a non-zero reference temperature -/
def WgOK (Wg : Name → Corr) : Prop := ∀ g, Valid (Wg g) ∧ (Wg g).Tref ≠ 0

section libInv
variable {Wg : Name → Corr} {E : Name → List Corr} {lib : Lib}

theorem LibInv_congr {E' : Name → List Corr} (h : ∀ g, E g = E' g) (hi : LibInv Wg E lib) : LibInv Wg E' lib :=
  (funext h : E = E') ▸ hi

/-- what the invariant says of one group -/
theorem LibInv.cases (hi : LibInv Wg E lib) (g : Name) :
    libLookup g lib = none ∧ E g = [] ∨
      ∃ o, libLookup g lib = some (some o) ∧ o = fresh o.c ∧ PartOf o.c (Wg g) ∧ Valid o.c ∧ Covers (E g) o.c ∧ E g ≠ [] := by
  have := hi.2 g
  cases hl : libLookup g lib with
  | none => rw [hl] at this; exact Or.inl ⟨rfl, this⟩
  | some x =>
    rw [hl] at this
    cases x with
    | none => exact this.elim
    | some o => exact Or.inr ⟨o, rfl, this⟩

/-- storing a freshly built consistent part for a group keeps the invariant, with the entries it holds -/
theorem LibInv.insert (hi : LibInv Wg E lib) {g : Name} {c : Corr} {E' : List Corr} (pc : PartOf c (Wg g)) (vc : Valid c)
    (cc : Covers (E g ++ E') c) (hne : E' ≠ []) :
    LibInv Wg (fun g' => E g' ++ if g' = g then E' else []) (libInsert g (some (fresh c)) lib) := by
  refine ⟨nodup_libInsert _ _ _ hi.1, fun g' => ?_⟩
  rw [libLookup_libInsert]
  by_cases e : g = g'
  · subst e
    simp only [if_true]
    exact ⟨rfl, pc, vc, cc, List.append_ne_nil_of_right_ne_nil _ hne⟩
  · simp only [if_neg e, if_neg (Ne.symm e), List.append_nil]
    exact hi.2 g'

theorem libInv_empty (Wg : Name → Corr) : LibInv Wg (fun _ => []) [] :=
  ⟨List.nodup_nil, fun _ => rfl⟩

theorem copyable_of_libInv (hi : LibInv Wg E lib) : Copyable lib := by
  intro g m hl
  rcases hi.cases g with ⟨hn, -⟩ | ⟨o, ho, hm, -, vm, -⟩
  · rw [hn] at hl; cases hl
  · rw [ho] at hl; cases hl
    exact ⟨fresh m.c, by rw [hm]; exact copy_fresh vm⟩

end libInv

/-- one group of the storing pass: `E` are the entries merged into `self` so far, `Eb` those the incoming part `b` holds -/
theorem updateGroup_inv (ev : RawEval) {Wg : Name → Corr} (hWg : WgOK Wg) {E : Name → List Corr} {self : Lib}
    (hi : LibInv Wg E self) {g : Name} {b : Corr} {Eb : List Corr}
    (pb : PartOf b (Wg g)) (vb : Valid b) (cb : Covers Eb b) (hEb : Eb ≠ []) :
    ∃ self', updateGroup ev false self g (some (fresh b)) = (self', none) ∧
      LibInv Wg (fun g' => E g' ++ if g' = g then Eb else []) self' := by
  rcases hi.cases g with ⟨hl, hE⟩ | ⟨o, hl, ho, pa, va, ca, hEa⟩
  · exact ⟨_, by simp only [updateGroup, hl, copy_fresh vb], hi.insert pb vb (hE ▸ cb) hEb⟩
  · obtain ⟨c, hc, pc, vc, cc⟩ := update_parts ev (hWg g).1 (hWg g).2 pa pb va vb ca cb
    refine ⟨_, ?_, hi.insert pc vc cc hEb⟩
    rw [ho] at hl
    simp only [updateGroup, hl]
    rw [show (fresh b).c = b from rfl, hc]

/-- merging a library of parts into a library of parts never fails; every group ends up holding the data of the entries
of both -/
theorem libUpdateOld_inv (ev : RawEval) {Wg : Name → Corr} (hWg : WgOK Wg) {E2 : Name → List Corr} :
    ∀ (other : Lib) (self : Lib) (E1 : Name → List Corr), LibInv Wg E1 self → (other.map Prod.fst).Nodup →
      (∀ gx ∈ other, ∃ b, gx.2 = some (fresh b) ∧ PartOf b (Wg gx.1) ∧ Valid b ∧ Covers (E2 gx.1) b ∧ E2 gx.1 ≠ []) →
      ∃ r, libUpdateOld ev false self other = (r, none) ∧
        LibInv Wg (fun g => E1 g ++ (if g ∈ other.map Prod.fst then E2 g else [])) r := by
  intro other
  induction other with
  | nil => exact fun self E1 hi _ _ => ⟨self, rfl, LibInv_congr (fun g => (List.append_nil _).symm) hi⟩
  | cons gx rest ih =>
    intro self E1 hi hnd hall
    obtain ⟨g, x⟩ := gx
    obtain ⟨b, hx, pb, vb, cb, hEb⟩ := hall (g, x) List.mem_cons_self
    simp only at hx pb cb hEb
    subst hx
    obtain ⟨hg, hnd⟩ := List.nodup_cons.mp hnd
    obtain ⟨self', hs', hi'⟩ := updateGroup_inv ev hWg hi pb vb cb hEb
    obtain ⟨r, hr, hir⟩ := ih self' _ hi' hnd fun gx hgx => hall gx (List.mem_cons_of_mem _ hgx)
    refine ⟨r, by rw [libUpdateOld, hs']; exact hr, LibInv_congr (fun g' => ?_) hir⟩
    simp only [List.map_cons, List.mem_cons, List.append_assoc]
    by_cases e : g' = g
    · subst e; simp only [if_true, true_or, if_neg hg, List.append_nil]
    · simp only [e, if_false, false_or, List.nil_append]

/-- **`Update` with a library that satisfies the invariant**: the first pass goes through, so the method stores what the
old loop stored -/
theorem libUpdate_libInv (ev : RawEval) {Wg : Name → Corr} (hWg : WgOK Wg) {E1 E2 : Name → List Corr} {self other : Lib}
    (h1 : LibInv Wg E1 self) (h2 : LibInv Wg E2 other) :
    ∃ r, libUpdate ev false self other = (r, none) ∧ LibInv Wg (fun g => E1 g ++ E2 g) r := by
  obtain ⟨r, hr, hir⟩ := libUpdateOld_inv ev hWg (E2 := E2) other self E1 h1 h2.1 fun gx hgx => by
    obtain ⟨g, x⟩ := gx
    rcases h2.cases g with ⟨hn, -⟩ | ⟨o, hl, ho, po, vo, co, hE⟩
    · rw [libLookup_of_mem_nodup h2.1 hgx] at hn; cases hn
    · rw [libLookup_of_mem_nodup h2.1 hgx] at hl; cases hl
      exact ⟨o.c, congrArg some ho, po, vo, co, hE⟩
  refine ⟨r, ?_, LibInv_congr (fun g => ?_) hir⟩
  · rw [libUpdate, libTrial_eq ev false self other self h2.1 (fun _ _ => rfl) (Or.inl (copyable_of_libInv h1)), hr]
  · split
    · rfl
    · rename_i hg
      rcases h2.cases g with ⟨-, hE⟩ | ⟨o, hl, -⟩
      · rw [hE]
      · rw [(libLookup_eq_none_iff g other).mpr hg] at hl; cases hl

/-! ### the groups of one file -/

theorem ownEntries_append (xs ys : GroupsD) (g : Name) : ownEntries (xs ++ ys) g = ownEntries xs g ++ ownEntries ys g :=
  List.filterMap_append

theorem ownEntries_eq_nil_of_not_mem {xs : GroupsD} {g : Name} (h : some g ∉ xs.map fun te => canonOf te.1) :
    ownEntries xs g = [] := by
  induction xs with
  | nil => rfl
  | cons te xs ih =>
    obtain ⟨h1, h2⟩ := not_or.mp (mt List.mem_cons.mpr h)
    rw [ownEntries, List.filterMap_cons, if_neg (Ne.symm h1)]
    exact ih h2

theorem canonOf_of_parse {t : List Char} {g : Group} (h : parse t = .ok g) : canonOf t = some g.name := by
  rw [canonOf, h]

/-- the loop over the groups of one file: `done` are the groups read so far, `acc` the library built from them, `rest`
those still to be read -/
theorem loadOwn_inv {Wg : Name → Corr} :
    ∀ (rest done : GroupsD) (acc : Lib), GroupsOK Wg (done ++ rest) → LibInv Wg (ownEntries done) acc →
      ∃ lib, loadOwn acc rest = .ok lib ∧ LibInv Wg (ownEntries (done ++ rest)) lib := by
  intro rest
  induction rest with
  | nil => exact fun done acc _ hi => ⟨acc, rfl, by rwa [List.append_nil]⟩
  | cons te rest ih =>
    intro done acc hok hi
    obtain ⟨text, entry⟩ := te
    obtain ⟨grp, l, c, hp, he, hc, pc, vc⟩ := hok.each (text, entry) (List.mem_append_right _ List.mem_cons_self)
    simp only at hp he
    subst he
    have hcanon : canonOf text = some grp.name := canonOf_of_parse hp
    have hnil : ownEntries done grp.name = [] := by
      have hnd := hok.distinct
      rw [List.map_append, List.map_cons, hcanon] at hnd
      exact ownEntries_eq_nil_of_not_mem fun hm => (List.nodup_append.mp hnd).2.2 _ hm _ List.mem_cons_self rfl
    have hlk : libLookup grp.name acc = none := by
      rcases hi.cases grp.name with ⟨hl, -⟩ | ⟨o, -, -, -, -, -, hne⟩
      · exact hl
      · exact absurd hnil hne
    have hstep : LibInv Wg (ownEntries (done ++ [(text, Except.ok (some l))])) (acc ++ [(grp.name, some (fresh c))]) := by
      rw [← libInsert_of_absent grp.name (some (fresh c)) acc hlk]
      refine LibInv_congr (fun g' => ?_) (hi.insert pc vc (by rw [hnil]; exact covers_self c) (List.cons_ne_nil _ _))
      rw [ownEntries_append]
      congr 1
      simp only [ownEntries, List.filterMap_cons, List.filterMap_nil, hcanon, hc, Option.some.injEq, eq_comm]
      split <;> rfl
    obtain ⟨lib, hlib, hil⟩ := ih (done ++ [(text, Except.ok (some l))]) (acc ++ [(grp.name, some (fresh c))])
      (by rwa [List.append_assoc]) hstep
    refine ⟨lib, ?_, by rwa [List.append_assoc] at hil⟩
    rw [loadOwn, hp]
    simp only [hlk, Option.isSome_none, Bool.false_eq_true, if_false, hc]
    exact hlib

/-! ### trees of files -/

/-- **Loading a tree of files.**  Every file well formed (its groups parse, load to consistent parts of their wholes,
and are pairwise different groups): merging the tree into a library that satisfies the invariant never fails and adds
exactly the entries of the tree. -/
theorem loadIncs_inv (ev : RawEval) {Wg : Name → Corr} (hWg : WgOK Wg) :
    ∀ (t : Incs) (acc : Lib) (E : Name → List Corr), TreeOK Wg t → LibInv Wg E acc →
      ∃ r, loadIncs ev acc t = .ok r ∧ LibInv Wg (fun g => E g ++ treeEntries t g) r := by
  intro t
  induction t with
  | nil => exact fun acc E _ hi => ⟨acc, rfl, LibInv_congr (fun g => (List.append_nil _).symm) hi⟩
  | cons groups sub rest ihsub ihrest =>
    intro acc E hok hi
    obtain ⟨hg, hsub, hrest⟩ := hok
    obtain ⟨own, hown, hiown⟩ := loadOwn_inv (Wg := Wg) groups [] [] hg (libInv_empty Wg)
    obtain ⟨inc, hinc, hiinc⟩ := ihsub own _ hsub hiown
    obtain ⟨acc', hacc', hiacc'⟩ := libUpdate_libInv ev hWg hi hiinc
    obtain ⟨r, hr, hir⟩ := ihrest acc' _ hrest hiacc'
    refine ⟨r, ?_, LibInv_congr (fun g => by simp only [treeEntries, List.nil_append, List.append_assoc]) hir⟩
    rw [loadIncs, hown]
    simp only [hinc, hacc']
    exact hr

/-- a file with its includes: its own groups first (into the empty library), then the tree of includes merged into that -/
theorem loadFile_inv (ev : RawEval) {Wg : Name → Corr} (hWg : WgOK Wg) {groups : GroupsD} {incs : Incs}
    (hg : GroupsOK Wg groups) (ht : TreeOK Wg incs) :
    ∃ r, loadFile ev groups incs = .ok r ∧ LibInv Wg (fun g => ownEntries groups g ++ treeEntries incs g) r := by
  obtain ⟨own, hown, hiown⟩ := loadOwn_inv (Wg := Wg) groups [] [] hg (libInv_empty Wg)
  obtain ⟨r, hr, hir⟩ := loadIncs_inv ev hWg incs own _ ht hiown
  exact ⟨r, by rw [loadFile, hown]; exact hr, hir⟩

/-! ### duplicate spellings -/

/-- a group that is read passes the duplicate check and is appended under its canonical name -/
theorem loadOwn_cons_ok {acc lib : Lib} {text : List Char} {entry : Except LoadErr (Option Loaded)} {rest : GroupsD}
    (h : loadOwn acc ((text, entry) :: rest) = .ok lib) :
    ∃ grp x, parse text = .ok grp ∧ libLookup grp.name acc = none ∧ loadOwn (acc ++ [(grp.name, x)]) rest = .ok lib := by
  rw [loadOwn] at h
  split at h
  · cases h
  · cases h
  · rename_i grp hp
    split at h
    · cases h
    · rename_i hl
      have hl' : libLookup grp.name acc = none := by simpa using hl
      split at h
      · cases h
      · exact ⟨grp, _, hp, hl', h⟩
      · split at h
        · cases h
        · exact ⟨grp, _, hp, hl', h⟩

theorem loadOwn_append (acc : Lib) (xs ys : GroupsD) :
    loadOwn acc (xs ++ ys) = match loadOwn acc xs with
      | .ok l => loadOwn l ys
      | .error e => .error e := by
  induction xs generalizing acc with
  | nil => rfl
  | cons te xs ih =>
    obtain ⟨text, entry⟩ := te
    simp only [List.cons_append, loadOwn]
    cases parse text with
    | error e => cases e <;> rfl
    | ok g =>
      simp only
      split
      · rfl
      · cases entry with
        | error e => rfl
        | ok o =>
          cases o with
          | none => exact ih _
          | some l =>
            simp only
            cases toCorr l with
            | none => rfl
            | some c => exact ih _

theorem loadOwn_keeps (g : Name) :
    ∀ (xs : GroupsD) (acc lib : Lib), loadOwn acc xs = .ok lib → (libLookup g acc).isSome = true →
      (libLookup g lib).isSome = true := by
  intro xs
  induction xs with
  | nil => intro acc lib h hl; cases h; exact hl
  | cons te xs ih =>
    intro acc lib h hl
    obtain ⟨grp, x, -, -, h'⟩ := loadOwn_cons_ok h
    refine ih _ lib h' ?_
    rw [libLookup_isSome_iff] at hl ⊢
    rw [List.map_append]
    exact List.mem_append_left _ hl

/-- reading a group whose canonical name is already in the file's table is `KeyError` -/
theorem loadOwn_duplicate {acc : Lib} {text : List Char} {grp : Group} (hp : parse text = .ok grp)
    (hl : (libLookup grp.name acc).isSome = true) (entry : Except LoadErr (Option Loaded)) (rest : GroupsD) :
    loadOwn acc ((text, entry) :: rest) = .error .key := by
  rw [loadOwn, hp]
  simp only [hl, if_true]

theorem loadOwn_adds {acc lib : Lib} {text : List Char} {grp : Group} (hp : parse text = .ok grp)
    {entry : Except LoadErr (Option Loaded)} {rest : GroupsD} (h : loadOwn acc ((text, entry) :: rest) = .ok lib) :
    (libLookup grp.name lib).isSome = true := by
  obtain ⟨grp', x, hp', -, h'⟩ := loadOwn_cons_ok h
  cases hp.symm.trans hp'
  refine loadOwn_keeps _ _ _ _ h' ?_
  rw [libLookup_isSome_iff, List.map_append]
  exact List.mem_append_right _ List.mem_cons_self

end PGA.Merge
