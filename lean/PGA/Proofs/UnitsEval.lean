import PGA.Proofs.UnitsParser
/-! Evaluation of a parsed tree ends in a value, the units parse error or an arithmetic error. -/
namespace PGA.Units

theorem Mag.div_error {a b : Mag} {e : Err} (h : a.div b = .error e) : e = .math := by
  unfold Mag.div at h
  split at h
  · cases h; rfl
  · cases h

theorem Mag.pow_error {a : Mag} {x : Rat} {e : Err} (h : a.pow x = .error e) :
    e = .math ∨ (e = .internal .complexPower ∧ a.isNeg = true ∧ isInt x = false) := by
  unfold Mag.pow at h
  -- the four branches of `pow` that end in an error, as `pow` lists them: `0 ** negative` for an integer and for a
  -- fractional exponent, then a negative exact and a negative inexact base to a fractional exponent
  cases a <;> dsimp only at h <;> (repeat' split at h) <;> cases h
  · exact .inl rfl
  · exact .inl rfl
  · rename_i hx _ h0 hq
    exact .inr ⟨rfl, decide_eq_true (lt_of_le_of_ne (not_lt.mp hq) h0), eq_false_of_ne_true hx⟩
  · rename_i hx hn
    exact .inr ⟨rfl, hn, eq_false_of_ne_true hx⟩

theorem lookup_error {cfg : Cfg} {name : Name} {e : Err} (h : lookup cfg name = .error e) : e = .unitsParse := by
  unfold lookup at h
  split at h
  · cases h
  · split at h
    · cases h
    · split at h
      · cases h
      · cases h; rfl

theorem bind_error {α β} {x : Res α} {f : α → Res β} {e : Err} (h : x >>= f = .error e) :
    x = .error e ∨ ∃ a, x = .ok a ∧ f a = .error e := by
  cases x with
  | error e' => exact .inl (congrArg _ (Except.error.inj h))
  | ok a => exact .inr ⟨a, rfl, h⟩

theorem bind_ok {α β} {x : Res α} {f : α → Res β} {w : β} (h : x >>= f = .ok w) : ∃ a, x = .ok a ∧ f a = .ok w := by
  cases x with
  | error e => cases h
  | ok a => exact ⟨a, rfl, h⟩

/-- evaluating a tree never ends in an internal error or the units error -/
theorem evalTree_error (cfg : Cfg) (t : Tree) (e : Err) (h : evalTree cfg t = .error e) :
    e = .unitsParse ∨ e = .math := by
  induction t generalizing e with
  | num q => cases h
  | name s => exact .inl (lookup_error h)
  | mul a b iha ihb =>
    rcases bind_error h with ha | ⟨x, _, h⟩
    · exact iha e ha
    rcases bind_error h with hb | ⟨y, _, h⟩
    · exact ihb e hb
    · cases h
  | div a b iha ihb =>
    rcases bind_error h with ha | ⟨x, _, h⟩
    · exact iha e ha
    rcases bind_error h with hb | ⟨y, _, h⟩
    · exact ihb e hb
    rcases bind_error h with hm | ⟨m, _, h⟩
    · exact .inr (Mag.div_error hm)
    · cases h
  | pow a x iha =>
    rcases bind_error h with ha | ⟨v, _, h⟩
    · exact iha e ha
    split at h
    · cases h; exact .inl rfl
    · next hguard =>
      rcases bind_error h with hm | ⟨m, _, h⟩
      · rcases Mag.pow_error hm with hm | ⟨_, hneg, hint⟩
        · exact .inr hm
        · exact absurd (by rw [hneg, hint]; rfl) hguard
      · cases h

end PGA.Units
