import PGA.Proofs.Enum
/-! The candidate enumeration (`rawMatches`) returns exactly the injective, in-range assignments of
the right length that pass every query atom and every declared bond's type test, provided the query is
well-formed (`q.wf`: a declared bond between undeclared atoms is tested by no prefix). -/
namespace PGA.Match

/-- what RDKit's candidate enumeration stands for -/
structure Cand (q : Query) (m : Mol) (f : List Nat) : Prop where
  length : f.length = q.atoms.length
  inj : f.Nodup
  range : ∀ x ∈ f, x < m.natoms
  atoms : ∀ (i : Nat) (qa : QAtom) (x : Nat), q.atoms[i]? = some qa → f[i]? = some x →
    ∃ a, m.atom? x = some a ∧ rdAtomMatch qa.ty a = true
  bonds : ∀ b ∈ q.bonds, bondAt m f b.i b.j (rdBondMatch b.spec) = true

theorem nodup_iff_not_mem_take (f : List Nat) :
    f.Nodup ↔ ∀ (i : Nat) (hi : i < f.length), f[i] ∉ f.take i := by
  simp only [List.Nodup, List.pairwise_iff_getElem, List.mem_take_iff_getElem, not_exists]
  exact ⟨fun h j hj i hm => h i j (by omega) hj (by omega), fun h i j hi hj hij => h j hj i (by omega)⟩

theorem bondAt_take (m : Mol) (f : List Nat) (n i j : Nat) (p : Bond → Bool) (hi : i < n) (hj : j < n) :
    bondAt m (f.take n) i j p = bondAt m f i j p := by
  simp only [bondAt, List.getElem?_take, hi, hj, if_true]

/-- the pruning test on the prefix of length `i + 1` speaks of the atom at position `i` only -/
theorem candOK_take (q : Query) (m : Mol) (f : List Nat) (i : Nat) (hi : i < f.length) (qa : QAtom)
    (hqa : q.atoms[i]? = some qa) :
    candOK q m (f.take (i + 1)) = true ↔
      f[i] ∉ f.take i ∧ (∃ a, m.atom? f[i] = some a ∧ rdAtomMatch qa.ty a = true) ∧
      (∀ b ∈ q.bonds, max b.i b.j = i → bondAt m f b.i b.j (rdBondMatch b.spec) = true) := by
  have hlen : (f.take (i + 1)).length = i + 1 := by rw [List.length_take]; omega
  have hget : (f.take (i + 1))[i]? = some f[i] := by
    rw [List.getElem?_take, if_pos i.lt_succ_self, List.getElem?_eq_getElem hi]
  have htake : (f.take (i + 1)).take i = f.take i := by rw [List.take_take, Nat.min_eq_left i.le_succ]
  unfold candOK
  simp only [hlen, hget, hqa, htake, Bool.and_eq_true, Bool.not_eq_true', List.all_eq_true, and_assoc]
  refine and_congr (by rw [← Bool.not_eq_true, List.contains_iff_mem]) (and_congr ?_ (forall₂_congr fun b _ => ?_))
  · cases m.atom? f[i] <;> simp
  · by_cases hmax : max b.i b.j = i
    · rw [if_pos (beq_iff_eq.2 hmax), bondAt_take m f (i + 1) b.i b.j _ (by omega) (by omega)]
      exact ⟨fun h _ => h, fun h => h hmax⟩
    · simp [hmax]

theorem mem_rawMatches (q : Query) (m : Mol) (f : List Nat) (hq : q.wf = true) :
    f ∈ rawMatches q m ↔ Cand q m f := by
  have hb : ∀ b ∈ q.bonds, b.i < q.atoms.length ∧ b.j < q.atoms.length := by
    simp only [Query.wf, Bool.and_eq_true, List.all_eq_true, decide_eq_true_eq] at hq
    exact hq.1
  rw [rawMatches, mem_enum]
  simp only [List.nil_append, List.length_nil, exists_eq_left', PrefOK]
  constructor
  · rintro ⟨⟨hlen, hrange⟩, hok⟩
    have step (i : Nat) (hi : i < f.length) (qa : QAtom) (hqa : q.atoms[i]? = some qa) :=
      (candOK_take q m f i hi qa hqa).1 (hok (i + 1) i.succ_pos hi)
    have at_ (i : Nat) (hi : i < f.length) : q.atoms[i]? = some q.atoms[i] := List.getElem?_eq_getElem (hlen ▸ hi)
    refine ⟨hlen, (nodup_iff_not_mem_take f).2 fun i hi => (step i hi _ (at_ i hi)).1, hrange,
      fun i qa x hqa hx => ?_, fun b hbm => ?_⟩
    · obtain ⟨hi, rfl⟩ := List.getElem?_eq_some_iff.1 hx
      exact (step i hi qa hqa).2.1
    · have hi : max b.i b.j < f.length := by have := hb b hbm; omega
      exact (step _ hi _ (at_ _ hi)).2.2 b hbm rfl
  · rintro ⟨hlen, hinj, hrange, hatoms, hbonds⟩
    refine ⟨⟨hlen, hrange⟩, fun j hj0 hj => ?_⟩
    obtain ⟨i, rfl⟩ := Nat.exists_eq_succ_of_ne_zero (Nat.ne_of_gt hj0)
    have hi' : i < q.atoms.length := hlen ▸ hj
    rw [candOK_take q m f i hj q.atoms[i] (List.getElem?_eq_getElem hi')]
    exact ⟨(nodup_iff_not_mem_take f).1 hinj i hj,
      hatoms i _ _ (List.getElem?_eq_getElem hi') (List.getElem?_eq_getElem hj), fun b hbm _ => hbonds b hbm⟩

theorem rawMatches_nodup (q : Query) (m : Mol) : (rawMatches q m).Nodup := enum_nodup _ _ _ _

end PGA.Match
