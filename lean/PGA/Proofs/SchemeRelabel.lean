import PGA.Spec.Relabel
import PGA.Proofs.Scheme
import PGA.Proofs.SchemeSets
import PGA.Proofs.GroupName
import Mathlib.Algebra.BigOperators.Group.Finset.Basic
/-! Invariance of the decomposition model under renumbering of the atoms (C03). -/
namespace PGA.Scheme
open PGA

variable {inp inp' : Input} {π : Nat → Nat}

/-- two atoms, each in its own numbering, claimed by corresponding patterns are claimed equally often and get the
same names -/
theorem cnt_firstMatch_congr {ps ps' : List CentrePat} {i j : Nat}
    (h : List.Forall₂ (fun p p' => p'.center = p.center ∧ p'.periph = p.periph ∧
      (j ∈ firstAtoms p'.ms ↔ i ∈ firstAtoms p.ms)) ps ps') :
    cnt ps' j = cnt ps i ∧ firstMatch ps' j = firstMatch ps i := by
  induction h with
  | nil => exact ⟨rfl, rfl⟩
  | cons hp _ ih =>
    obtain ⟨hc, hpe, hm⟩ := hp
    simp only [cnt_cons, firstMatch_cons, ih.1, ih.2, hc, hpe, hm, and_self]

theorem cnt_relabel (R : Relabel inp inp' π) (i : Nat) : cnt inp'.centres (π i) = cnt inp.centres i :=
  (cnt_firstMatch_congr (R.centres.imp fun _ _ hp => ⟨hp.1, hp.2.1, hp.2.2 i⟩)).1

theorem firstMatch_relabel (R : Relabel inp inp' π) (i : Nat) :
    firstMatch inp'.centres (π i) = firstMatch inp.centres i :=
  (cnt_firstMatch_congr (R.centres.imp fun _ _ hp => ⟨hp.1, hp.2.1, hp.2.2 i⟩)).2

/-- centre classification succeeds for the renumbered molecule exactly when it does for the original -/
theorem centres_ok_relabel (R : Relabel inp inp' π) :
    (∃ a', assignCentres inp' = .ok a') ↔ (∃ a, assignCentres inp = .ok a) := by
  rw [assignCentres_ok_iff, assignCentres_ok_iff]
  constructor
  · rintro ⟨h1, h2⟩
    refine ⟨fun i => ?_, fun i hi => ?_⟩
    · rw [← cnt_relabel R i]; exact h1 _
    · rw [← cnt_relabel R i]; exact h2 _ (by rw [R.n_eq]; exact (R.range i).mpr hi)
  · rintro ⟨h1, h2⟩
    refine ⟨fun j => ?_, fun j hj => ?_⟩
    · obtain ⟨i, rfl⟩ := R.surj j; rw [cnt_relabel R i]; exact h1 i
    · obtain ⟨i, rfl⟩ := R.surj j; rw [cnt_relabel R i]
      exact h2 i ((R.range i).mp (by rw [← R.n_eq]; exact hj))

theorem get_relabel (R : Relabel inp inp' π) (a a' : Assign)
    (ha : assignCentres inp = .ok a) (ha' : assignCentres inp' = .ok a') (i : Nat) :
    a'.get? (π i) = a.get? i := by
  rw [assignCentres_get inp' a' ha', assignCentres_get inp a ha, firstMatch_relabel R]

/-- the group of an atom is that of an atom with the same names whose neighbours, carried over by `f` and in any
order, have the same names -/
theorem groupName_congr {a a' : Assign} {nbrs nbrs' : List (List Nat)} {i j : Nat} (f : Nat → Nat)
    (hg : a'.get? j = a.get? i) (hn : (nbrs'.getD j []).Perm ((nbrs.getD i []).map f))
    (hf : ∀ x ∈ nbrs.getD i [], a'.get? (f x) = a.get? x) :
    groupName a' nbrs' j = groupName a nbrs i := by
  unfold groupName
  rw [hg]
  cases a.get? i with
  | none => rfl
  | some v =>
    dsimp only
    refine ite_congr rfl (fun _ => rfl) fun _ => congrArg (fun l => some (String.ofList l))
      (PGA.GroupName.canon_perm _ (((hn.filterMap _).trans (.of_eq ?_)).map _))
    rw [List.filterMap_map]
    exact List.filterMap_congr fun x hx => by rw [Function.comp, hf x hx]

/-- the group an atom contributes does not depend on the numbering -/
theorem groupName_relabel (R : Relabel inp inp' π) (a a' : Assign)
    (ha : assignCentres inp = .ok a) (ha' : assignCentres inp' = .ok a') (i : Nat) :
    groupName a' inp'.nbrs (π i) = groupName a inp.nbrs i :=
  groupName_congr π (get_relabel R a a' ha ha' i) (R.nbrs i) fun x _ => get_relabel R a a' ha ha' x

/-- a permutation of the atoms maps `0..n-1` onto a permutation of `0..n-1` -/
theorem range_map_perm (n : Nat) (hinj : Function.Injective π) (hr : ∀ i, π i < n ↔ i < n) :
    ((List.range n).map π).Perm (List.range n) := by
  have hnd : ((List.range n).map π).Nodup := (List.nodup_range).map hinj
  have hsub : ((List.range n).map π) ⊆ List.range n := by
    intro j hj
    obtain ⟨i, hi, rfl⟩ := List.mem_map.mp hj
    exact List.mem_range.mpr ((hr i).mpr (List.mem_range.mp hi))
  have hsp : ((List.range n).map π).Subperm (List.range n) := List.subperm_of_subset hnd hsub
  exact hsp.perm_of_length_le (by simp)

/-- the number of atoms contributing a given group name is the same in both numberings -/
theorem groupCount_relabel (R : Relabel inp inp' π) (a a' : Assign)
    (ha : assignCentres inp = .ok a) (ha' : assignCentres inp' = .ok a') (g : String) :
    ((List.range inp'.n).filter fun j => decide (groupName a' inp'.nbrs j = some g)).length
      = ((List.range inp.n).filter fun i => decide (groupName a inp.nbrs i = some g)).length := by
  rw [R.n_eq]
  have hp := range_map_perm inp.n R.inj R.range
  rw [← (hp.filter _).length_eq, List.filter_map, List.length_map]
  congr 1
  apply List.filter_congr
  intro i _
  simp only [Function.comp, groupName_relabel R a a' ha ha' i]

/-- the number of distinct matched atom sets of a correction descriptor does not depend on the numbering -/
theorem distinctSets_relabel (hinj : Function.Injective π) (ms ms' : List Match)
    (h : (ms'.map List.toFinset).toFinset = ((ms.map List.toFinset).toFinset).image (Finset.image π)) :
    distinctSets ms' = distinctSets ms := by
  rw [distinctSets_card, distinctSets_card, h]
  exact Finset.card_image_of_injective _ (Finset.image_injective hinj)

theorem countDescs_relabel_aux (hinj : Function.Injective π) (ds ds' : List DescPat)
    (h : List.Forall₂ (fun d d' => d'.name = d.name ∧
      (d'.ms.map List.toFinset).toFinset = ((d.ms.map List.toFinset).toFinset).image (Finset.image π)) ds ds')
    (c : Counts) : countDescs ds' c = countDescs ds c := by
  induction h generalizing c with
  | nil => rfl
  | @cons d d' ds ds' hd _ ih =>
    obtain ⟨hn, hm⟩ := hd
    unfold countDescs
    simp only [distinctSets_relabel hinj d.ms d'.ms hm, hn, ih]

theorem remapAll_get_finset (rm : List (String × List (Rat × String))) (hcf : ChainFree rm)
    (d : Counts) (hd : (Counts.keys d).Nodup) (K : Finset String) (hK : (Counts.keys d).toFinset ⊆ K) (t : String) :
    (remapAll rm d).get t = ∑ k ∈ K, contrib rm k (d.get k) t := by
  rw [remapAll_get rm hcf d hd, sum_entries_eq_sum_keys d hd (fun k v => contrib rm k v t), ← List.sum_toFinset _ hd]
  refine Finset.sum_subset hK fun k _ hk => ?_
  rw [Counts.get_of_not_mem d k fun h => hk (List.mem_toFinset.mpr h), contrib_zero]

/-- **the remap pass depends on the dictionary only through its counts** (not on insertion order) -/
theorem remapAll_get_congr (rm : List (String × List (Rat × String))) (hcf : ChainFree rm)
    (c c' : Counts) (hc : (Counts.keys c).Nodup) (hc' : (Counts.keys c').Nodup)
    (hget : ∀ k, c.get k = c'.get k) (t : String) :
    (remapAll rm c).get t = (remapAll rm c').get t := by
  rw [remapAll_get_finset rm hcf c hc _ Finset.subset_union_left,
    remapAll_get_finset rm hcf c' hc' _ Finset.subset_union_right]
  exact Finset.sum_congr rfl fun k _ => by rw [hget k]

end PGA.Scheme
