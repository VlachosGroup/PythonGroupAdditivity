import PGA.Proofs.MolUnion
import PGA.Proofs.OneSide
import PGA.Proofs.ReadConnected
import PGA.Proofs.DecomposeRelabel
import PGA.Proofs.SchemeUnion
/-! The end-to-end model on a disjoint union of two graphs: an embedding of a connected pattern without molecule-level
prefix lies in one part, hence `Scheme.union (toInput S a) (toInput S b)` carries exactly the embeddings into `a ⊔ b`: it
*declares* the scheme on `a ⊔ b`, and so is related to `toInput S (a ⊔ b)` by `Relabel … id`.  Last, additivity over two
parts passes to any decomposition that agrees with the union's (`additive_of_agree`; used for C03 ∘ C04). -/
namespace PGA.Decompose
open PGA PGA.Spec PGA.Scheme PGA.Match

/-! ### the reader yields connected patterns -/
theorem SchemeDef.connected_iff (S : SchemeDef) : S.connected = true ↔
    (∀ c ∈ S.centres, c.q.connected = true ∧ 0 < c.q.atoms.length) ∧
    ∀ d ∈ S.descs, d.q.connected = true ∧ 0 < d.q.atoms.length := by
  simp only [SchemeDef.connected, Bool.and_eq_true, List.all_eq_true, decide_eq_true_eq]

theorem load_connected (src : SchemeSrc) (S : SchemeDef) (h : src.load = .ok S) : S.connected = true :=
  have ⟨hc, hd⟩ := load_queries src S h
  S.connected_iff.2 ⟨fun c hcm => let ⟨t, ht⟩ := hc c hcm; readFragment_connected t _ ht,
    fun d hdm => let ⟨t, ht⟩ := hd d hdm; readFragment_connected t _ ht⟩

/-! ### embeddings into a union -/
theorem map_sub_add (f : List Nat) (n : Nat) (h : ∀ x ∈ f, n ≤ x) : (f.map (· - n)).map (· + n) = f := by
  rw [List.map_map]
  exact (List.map_congr_left fun x hx => Nat.sub_add_cancel (h x hx)).trans (List.map_id _)

/-- **An embedding of a connected pattern without molecule-level prefix into `A ⊔ B` is an embedding into `A` or a
shifted embedding into `B`** (and conversely). -/
theorem embeds_union_iff (A B : Mol) (hA : A.wf = true) (hB : B.wf = true) (q : Query)
    (hc : q.connected = true) (hmp : q.molPre = []) (f : List Nat) :
    Embeds q (A.union B) f ↔ Embeds q A f ∨ ∃ g, Embeds q B g ∧ f = g.map (· + A.natoms) := by
  have L := union_openMap_left A B hA hB
  have R := union_openMap_right A B hA hB
  -- a molecule-level prefix looks at the whole graph, so it need not agree on a part and on the union: none is allowed
  have hmol : ∀ (m m' : Mol), ∀ p ∈ q.molPre, (MolPrefixHolds m' p ↔ MolPrefixHolds m p) :=
    fun m m' p hp => nomatch hmp ▸ hp
  constructor
  · intro E
    rcases one_side (A.union B) A.natoms (union_bond_sides A B hA) q hc f E with hl | hr
    · exact .inl ((L.embeds q f hl (hmol A _)).1 (by rwa [List.map_id]))
    · have back := map_sub_add f A.natoms hr
      refine .inr ⟨f.map (· - A.natoms), (R.embeds q _ ?_ (hmol B _)).1 (by rwa [back]), back.symm⟩
      refine List.forall_mem_map.2 fun y hy => ?_
      have h1 := E.range y hy
      rw [union_natoms] at h1
      have h2 := hr y hy
      omega
  · rintro (E | ⟨g, E, rfl⟩)
    · have := (L.embeds q f E.range (hmol A _)).2 E
      rwa [List.map_id] at this
    · exact (R.embeds q g E.range (hmol B _)).2 E

/-! ### the union of the two inputs declares the scheme on the union of the graphs -/
section
variable (S : SchemeDef) (a b : Mol) (ha : a.wf = true) (hb : b.wf = true)
  (hq : S.wf = true) (hs : S.noStar = true) (hmp : S.noMolPrefix = true) (hcn : S.connected = true)
  (capa : maxRaw S a < maxMatches) (capb : maxRaw S b < maxMatches) (capu : maxRaw S (a.union b) < maxMatches)

theorem nbrs_union (ha : a.wf = true) :
    (List.range (a.union b).natoms).map (neighbours (a.union b)) =
      (List.range a.natoms).map (neighbours a) ++ ((List.range b.natoms).map (neighbours b)).map (shift a.natoms) := by
  rw [union_natoms, List.range_add, List.map_append, List.map_map, List.map_map]
  congr 1
  · exact List.map_congr_left fun i hi => neighbours_union_left a b i (List.mem_range.1 hi)
  · exact List.map_congr_left fun j _ => (congrArg _ (Nat.add_comm _ _)).trans (neighbours_union_right a b ha j)

include ha hb hq hs hmp hcn capa capb in
/-- the union of the two inputs lists, for every pattern, exactly its embeddings into `a ⊔ b` -/
theorem union_declares : Declares S (a.union b) (Scheme.union (toInput S a) (toInput S b)) := by
  obtain ⟨aC, aD⟩ := mem_capped_scheme S a ha hq hs capa
  obtain ⟨bC, bD⟩ := mem_capped_scheme S b hb hq hs capb
  obtain ⟨cnC, cnD⟩ := S.connected_iff.1 hcn
  simp only [SchemeDef.noMolPrefix, Bool.and_eq_true, List.all_eq_true, List.isEmpty_iff] at hmp
  have key : ∀ (q : Query) (msA msB : List (List Nat)), q.connected = true → q.molPre = [] →
      (∀ f, f ∈ msA ↔ Embeds q a f) → (∀ f, f ∈ msB ↔ Embeds q b f) →
      ∀ f, f ∈ msA ++ msB.map (shift a.natoms) ↔ Embeds q (a.union b) f := fun q msA msB hc hm hA hB f => by
    simp only [embeds_union_iff a b ha hb q hc hm, List.mem_append, List.mem_map, hA, hB, shift, eq_comm]
  refine ⟨(union_natoms a b).symm, fun i => ?_, ?_, ?_, rfl⟩
  · have := nbrs_declares _ (wf_union a b ha hb) i
    rwa [nbrs_union a b ha] at this
  · show List.Forall₂ _ S.centres (List.zipWith _ (S.centres.map _) (S.centres.map _))
    rw [List.zipWith_map, List.zipWith_self]
    exact forall₂_map_right _ _ _ fun c hc => ⟨rfl, rfl, key c.q _ _ (cnC c hc).1 (hmp.1 c hc) (aC c hc) (bC c hc)⟩
  · show List.Forall₂ _ S.descs (List.zipWith _ (S.descs.map _) (S.descs.map _))
    rw [List.zipWith_map, List.zipWith_self]
    exact forall₂_map_right _ _ _ fun d hd => ⟨rfl, key d.q _ _ (cnD d hd).1 (hmp.2 d hd) (aD d hd) (bD d hd)⟩

include ha hb hq hs hmp hcn capa capb capu in
theorem toInput_union_relabel :
    Relabel (Scheme.union (toInput S a) (toInput S b)) (toInput S (a.union b)) id :=
  declares_relabel S _ _ _ (union_declares S a b ha hb hq hs hmp hcn capa capb)
    (toInput_declares S _ (wf_union a b ha hb) hq hs capu)

theorem sameScheme_toInput : SameScheme (toInput S a) (toInput S b) :=
  ⟨List.forall₂_map_right_iff.2 (List.forall₂_map_left_iff.2 (List.forall₂_same.2 fun _ _ => ⟨rfl, rfl⟩)),
    List.forall₂_map_right_iff.2 (List.forall₂_map_left_iff.2 (List.forall₂_same.2 fun _ _ => rfl)), rfl⟩

include ha hq hs hcn capa in
theorem wF_toInput : WF (toInput S a) := by
  obtain ⟨aC, aD⟩ := mem_capped_scheme S a ha hq hs capa
  refine ⟨by simp only [toInput, List.length_map, List.length_range], List.forall_mem_map.2 fun i _ => ?_,
    List.forall_mem_map.2 fun c hc f hf => ((aC c hc f).1 hf).range, List.forall_mem_map.2 fun d hd f hf => ?_⟩
  · refine List.forall_mem_map.2 fun e he => ?_
    obtain ⟨h1, h2, _⟩ := (a.wf_iff.1 ha).1 e (List.mem_filter.1 he).1
    unfold Bond.other
    split <;> assumption
  · have E := (aD d hd f).1 hf
    refine ⟨fun hnil => ?_, E.range⟩
    have := (S.connected_iff.1 hcn).2 d hd |>.2
    rw [← E.length, hnil] at this
    exact Nat.lt_irrefl _ this
end

end PGA.Decompose

/-! ### additivity passes along agreement (about `Scheme.getDescriptors` and `decompose` alike, hence in `PGA.Scheme`) -/
namespace PGA.Scheme

/-- Additivity over the parts `PA`, `PB` passes from a decomposition `X` to any `Y` that agrees with it (fails when it
fails, gives every name the same count).  `a`, `b` and `C1`, `C2`, `C3` are whatever the additivity statement says besides
about the parts and carries along unchanged: in C04 the centre assignments of the two parts and `Separated`. -/
theorem additive_of_agree {X Y PA PB : Except Err Counts} {α β : Type} {C1 : α → Prop} {C2 : β → Prop} {C3 : α → β → Prop}
    (R : (Y = .error .patternMatch ↔ X = .error .patternMatch) ∧
      ∀ r r', X = .ok r → Y = .ok r' → ∀ t, r'.get t = r.get t)
    (U : (X = .error .patternMatch ↔ PA = .error .patternMatch ∨ PB = .error .patternMatch) ∧
      ∀ rX rA rB a b, X = .ok rX → PA = .ok rA → PB = .ok rB → C1 a → C2 b → C3 a b →
        ∀ t, rX.get t = rA.get t + rB.get t) :
    (Y = .error .patternMatch ↔ PA = .error .patternMatch ∨ PB = .error .patternMatch) ∧
      ∀ rY rA rB a b, Y = .ok rY → PA = .ok rA → PB = .ok rB → C1 a → C2 b → C3 a b →
        ∀ t, rY.get t = rA.get t + rB.get t := by
  refine ⟨R.1.trans U.1, fun rY rA rB a b hY hA hB h1 h2 h3 t => ?_⟩
  obtain ⟨rX, hX⟩ : ∃ rX, X = .ok rX := by
    by_contra hn
    exact nomatch hY.symm.trans (R.1.2 ((error_iff_not_ok X).2 hn))
  rw [R.2 rX rY hX hY t]
  exact U.2 rX rA rB a b hX hA hB h1 h2 h3 t

end PGA.Scheme
