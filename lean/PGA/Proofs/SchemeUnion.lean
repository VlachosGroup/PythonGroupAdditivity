import PGA.Spec.Union
import PGA.Proofs.SchemeRelabel
/-! Additivity of the decomposition model over disjoint unions (C04). -/
namespace PGA.Scheme
open PGA

theorem mem_firstAtoms_union (msA msB : List Match) (k j : Nat) :
    j ∈ firstAtoms (msA ++ msB.map (shift k)) ↔ j ∈ firstAtoms msA ∨ ∃ i ∈ firstAtoms msB, j = i + k := by
  simp only [mem_firstAtoms, List.mem_append, List.mem_map]
  constructor
  · rintro ⟨m, hm | ⟨m', hm', rfl⟩, hh⟩
    · exact Or.inl ⟨m, hm, hh⟩
    · right
      cases m' with
      | nil => simp [shift] at hh
      | cons x m' =>
        simp only [shift, List.map_cons, List.head?_cons, Option.some.injEq] at hh
        exact ⟨x, ⟨x :: m', hm', rfl⟩, hh.symm⟩
  · rintro (⟨m, hm, hh⟩ | ⟨i, ⟨m, hm, hh⟩, rfl⟩)
    · exact ⟨m, Or.inl hm, hh⟩
    · refine ⟨shift k m, Or.inr ⟨m, hm, rfl⟩, ?_⟩
      cases m with
      | nil => simp at hh
      | cons x m =>
        simp only [List.head?_cons, Option.some.injEq] at hh
        simp [shift, hh]

/-- in the union, atom `j` of the first part and atom `i + nA` of the second are claimed by the patterns that claim
them in their part -/
theorem centres_union_aux (nA : Nat) (psA psB : List CentrePat)
    (hs : List.Forall₂ (fun p q => q.center = p.center ∧ q.periph = p.periph) psA psB)
    (hA : ∀ p ∈ psA, ∀ j ∈ firstAtoms p.ms, j < nA) :
    let psU := List.zipWith (fun p q => (⟨p.center, p.periph, p.ms ++ q.ms.map (shift nA)⟩ : CentrePat)) psA psB
    (∀ j < nA, List.Forall₂ (fun p u => u.center = p.center ∧ u.periph = p.periph ∧
      (j ∈ firstAtoms u.ms ↔ j ∈ firstAtoms p.ms)) psA psU) ∧
    (∀ i, List.Forall₂ (fun q u => u.center = q.center ∧ u.periph = q.periph ∧
      (i + nA ∈ firstAtoms u.ms ↔ i ∈ firstAtoms q.ms)) psB psU) := by
  induction hs with
  | nil => exact ⟨fun _ _ => .nil, fun _ => .nil⟩
  | @cons p q psA psB hpq _ ih =>
    obtain ⟨ih1, ih2⟩ := ih fun p' hp' => hA p' (List.mem_cons_of_mem _ hp')
    have hp := hA p List.mem_cons_self
    refine ⟨fun j hj => .cons ⟨rfl, rfl, ?_⟩ (ih1 j hj), fun i => .cons ⟨hpq.1.symm, hpq.2.symm, ?_⟩ (ih2 i)⟩
    · rw [mem_firstAtoms_union, or_iff_left]
      rintro ⟨i, _, rfl⟩; omega
    · rw [mem_firstAtoms_union, or_iff_right fun h => by have := hp _ h; omega]
      exact ⟨fun ⟨i', hi', he⟩ => Nat.add_right_cancel he ▸ hi', fun h => ⟨i, h, rfl⟩⟩

variable {A B : Input}

theorem centres_lt_of_WF (hA : WF A) : ∀ p ∈ A.centres, ∀ j ∈ firstAtoms p.ms, j < A.n :=
  fun p hp => firstAtoms_lt p.ms A.n (hA.centre_lt p hp)

theorem cnt_union_left (hs : SameScheme A B) (hA : WF A) (j : Nat) (hj : j < A.n) :
    cnt (union A B).centres j = cnt A.centres j ∧ firstMatch (union A B).centres j = firstMatch A.centres j :=
  cnt_firstMatch_congr ((centres_union_aux A.n A.centres B.centres hs.centres (centres_lt_of_WF hA)).1 j hj)

theorem cnt_union_right (hs : SameScheme A B) (hA : WF A) (i : Nat) :
    cnt (union A B).centres (i + A.n) = cnt B.centres i ∧
    firstMatch (union A B).centres (i + A.n) = firstMatch B.centres i :=
  cnt_firstMatch_congr ((centres_union_aux A.n A.centres B.centres hs.centres (centres_lt_of_WF hA)).2 i)

/-- the union can be classified exactly when both parts can -/
theorem centres_ok_union (hs : SameScheme A B) (hA : WF A) :
    (∃ a, assignCentres (union A B) = .ok a) ↔
      (∃ a, assignCentres A = .ok a) ∧ (∃ b, assignCentres B = .ok b) := by
  rw [assignCentres_ok_iff, assignCentres_ok_iff, assignCentres_ok_iff]
  have hn : (union A B).n = A.n + B.n := rfl
  constructor
  · rintro ⟨h1, h2⟩
    refine ⟨⟨fun j => ?_, fun j hj => ?_⟩, ⟨fun i => ?_, fun i hi => ?_⟩⟩
    · by_cases hj : j < A.n
      · rw [← (cnt_union_left hs hA j hj).1]; exact h1 j
      · -- an atom index outside A is matched by no pattern of A
        have : cnt A.centres j = 0 := by
          unfold cnt
          rw [List.length_eq_zero_iff, List.filter_eq_nil_iff]
          intro p hp
          simp only [decide_eq_true_eq]
          intro hm; exact hj (centres_lt_of_WF hA p hp j hm)
        omega
    · rw [← (cnt_union_left hs hA j hj).1]; exact h2 j (by rw [hn]; omega)
    · rw [← (cnt_union_right hs hA i).1]; exact h1 _
    · rw [← (cnt_union_right hs hA i).1]; exact h2 _ (by rw [hn]; omega)
  · rintro ⟨⟨a1, a2⟩, ⟨b1, b2⟩⟩
    refine ⟨fun j => ?_, fun j hj => ?_⟩
    · by_cases hjA : j < A.n
      · rw [(cnt_union_left hs hA j hjA).1]; exact a1 j
      · obtain ⟨i, rfl⟩ : ∃ i, j = i + A.n := ⟨j - A.n, by omega⟩
        rw [(cnt_union_right hs hA i).1]; exact b1 i
    · by_cases hjA : j < A.n
      · rw [(cnt_union_left hs hA j hjA).1]; exact a2 j hjA
      · obtain ⟨i, rfl⟩ : ∃ i, j = i + A.n := ⟨j - A.n, by omega⟩
        rw [(cnt_union_right hs hA i).1]; exact b2 i (by rw [hn] at hj; omega)

theorem get_union_left (hs : SameScheme A B) (hA : WF A) (u a : Assign)
    (hu : assignCentres (union A B) = .ok u) (ha : assignCentres A = .ok a) (j : Nat) (hj : j < A.n) :
    u.get? j = a.get? j := by
  rw [assignCentres_get _ u hu, assignCentres_get _ a ha, (cnt_union_left hs hA j hj).2]

theorem get_union_right (hs : SameScheme A B) (hA : WF A) (u b : Assign)
    (hu : assignCentres (union A B) = .ok u) (hb : assignCentres B = .ok b) (i : Nat) :
    u.get? (i + A.n) = b.get? i := by
  rw [assignCentres_get _ u hu, assignCentres_get _ b hb, (cnt_union_right hs hA i).2]

theorem groupName_union_left (hs : SameScheme A B) (hA : WF A) (u a : Assign)
    (hu : assignCentres (union A B) = .ok u) (ha : assignCentres A = .ok a) (j : Nat) (hj : j < A.n) :
    groupName u (union A B).nbrs j = groupName a A.nbrs j := by
  have hlen : j < A.nbrs.length := hA.nbrs_len ▸ hj
  refine groupName_congr id (get_union_left hs hA u a hu ha j hj) (.of_eq ?_) fun x hx => ?_
  · rw [List.map_id, List.getD_eq_getElem?_getD, List.getD_eq_getElem?_getD]
    exact congrArg (·.getD []) (List.getElem?_append_left hlen)
  · rw [List.getD_eq_getElem?_getD, List.getElem?_eq_getElem hlen] at hx
    exact get_union_left hs hA u a hu ha x (hA.nbrs_lt _ (List.getElem_mem hlen) x hx)

theorem groupName_union_right (hs : SameScheme A B) (hA : WF A) (u b : Assign)
    (hu : assignCentres (union A B) = .ok u) (hb : assignCentres B = .ok b) (i : Nat) :
    groupName u (union A B).nbrs (i + A.n) = groupName b B.nbrs i := by
  refine groupName_congr (· + A.n) (get_union_right hs hA u b hu hb i) (.of_eq ?_)
    fun x _ => get_union_right hs hA u b hu hb x
  rw [List.getD_eq_getElem?_getD, List.getD_eq_getElem?_getD]
  refine (congrArg (·.getD []) (List.getElem?_append_right (hA.nbrs_len.trans_le (Nat.le_add_left _ i)))).trans ?_
  rw [hA.nbrs_len, Nat.add_sub_cancel, List.getElem?_map]
  cases B.nbrs[i]? <;> rfl

/-- the number of atoms carrying a given group name adds up -/
theorem groupCount_union (hs : SameScheme A B) (hA : WF A) (u a b : Assign)
    (hu : assignCentres (union A B) = .ok u) (ha : assignCentres A = .ok a) (hb : assignCentres B = .ok b)
    (g : String) :
    ((List.range (union A B).n).filter fun j => decide (groupName u (union A B).nbrs j = some g)).length
      = ((List.range A.n).filter fun j => decide (groupName a A.nbrs j = some g)).length
        + ((List.range B.n).filter fun i => decide (groupName b B.nbrs i = some g)).length := by
  have hn : (union A B).n = A.n + B.n := rfl
  rw [hn, List.range_add, List.filter_append, List.length_append]
  congr 1
  · congr 1
    apply List.filter_congr
    intro j hj
    rw [groupName_union_left hs hA u a hu ha j (List.mem_range.mp hj)]
  · rw [List.filter_map, List.length_map]
    congr 1
    apply List.filter_congr
    intro i _
    have e : groupName u (union A B).nbrs (A.n + i) = groupName b B.nbrs i := by
      rw [Nat.add_comm]; exact groupName_union_right hs hA u b hu hb i
    simp only [Function.comp, e]


/-! ### correction descriptors of a union -/

theorem distinctSets_union (k : Nat) (msA msB : List Match)
    (hA : ∀ m ∈ msA, m ≠ [] ∧ ∀ j ∈ m, j < k) (hB : ∀ m ∈ msB, m ≠ []) :
    distinctSets (msA ++ msB.map (shift k)) = distinctSets msA + distinctSets msB := by
  have e : ((msA ++ msB.map (shift k)).map List.toFinset).toFinset
      = (msA.map List.toFinset).toFinset ∪ ((msB.map List.toFinset).toFinset).image (Finset.image (· + k)) := by
    ext s
    simp only [List.map_append, List.map_map, List.toFinset_append, Finset.mem_union, List.mem_toFinset,
      List.mem_map, Finset.mem_image, Function.comp, exists_exists_and_eq_and]
    refine or_congr_right (exists_congr fun m => and_congr_right fun _ => ?_)
    rw [show (shift k m).toFinset = m.toFinset.image (· + k) by ext y; simp [shift]]
  rw [distinctSets_card, distinctSets_card, distinctSets_card, e, Finset.card_union_of_disjoint,
    Finset.card_image_of_injective _ (Finset.image_injective (add_left_injective k))]
  -- a set matched in `A` has an element below `k`, a shifted one has none
  simp only [Finset.disjoint_left, List.mem_toFinset, List.mem_map, Finset.mem_image]
  rintro _ ⟨m, hm, rfl⟩ ⟨_, ⟨m', hm', rfl⟩, he⟩
  obtain ⟨hne, hlt⟩ := hA m hm
  obtain ⟨x, hx⟩ := List.exists_mem_of_ne_nil m hne
  obtain ⟨y, _, hy⟩ := Finset.mem_image.mp (he ▸ List.mem_toFinset.mpr hx)
  have := hlt x hx
  omega

/-- the correction-descriptor dictionary of the union holds, for every name, the sum of the parts' counts, and a name
is present exactly when it is present in one of the parts -/
theorem countDescs_union_aux (k : Nat) (dsA dsB : List DescPat)
    (hs : List.Forall₂ (fun d e => e.name = d.name) dsA dsB)
    (hA : ∀ d ∈ dsA, ∀ m ∈ d.ms, m ≠ [] ∧ ∀ j ∈ m, j < k) (hB : ∀ d ∈ dsB, ∀ m ∈ d.ms, m ≠ [])
    (cU cA cB : Counts)
    (hget : ∀ t, cU.get t = cA.get t + cB.get t)
    (hkeys : ∀ t, t ∈ Counts.keys cU ↔ t ∈ Counts.keys cA ∨ t ∈ Counts.keys cB) :
    let dsU := List.zipWith (fun d e => (⟨d.name, d.ms ++ e.ms.map (shift k)⟩ : DescPat)) dsA dsB
    (∀ t, (countDescs dsU cU).get t = (countDescs dsA cA).get t + (countDescs dsB cB).get t) ∧
    (∀ t, t ∈ Counts.keys (countDescs dsU cU) ↔
      t ∈ Counts.keys (countDescs dsA cA) ∨ t ∈ Counts.keys (countDescs dsB cB)) := by
  induction hs generalizing cU cA cB with
  | nil => exact ⟨hget, hkeys⟩
  | @cons d e dsA dsB hde _ ih =>
    simp only [List.zipWith_cons_cons, countDescs_cons,
      distinctSets_union k d.ms e.ms (hA d List.mem_cons_self) (hB e List.mem_cons_self)]
    -- both invariants survive one entry: the three dictionaries get `a + b`, `a`, `b` matches under one name, each only if not 0
    refine ih (fun d' hd' => hA d' (List.mem_cons_of_mem _ hd')) (fun e' he' => hB e' (List.mem_cons_of_mem _ he'))
      _ _ _ (fun t => ?_) (fun t => ?_)
    · rw [Counts.get_ite_add, Counts.get_ite_add, Counts.get_ite_add, hget, hde, Nat.cast_add, ite_add_zero]
      ring
    · rw [Counts.mem_keys_ite_add, Counts.mem_keys_ite_add, Counts.mem_keys_ite_add, hkeys, hde,
        Ne, Nat.add_eq_zero_iff, not_and_or, and_or_left, or_or_or_comm]

/-! ### remaps of a union -/

/-- **the remap pass is additive in the counts** -/
theorem remapAll_get_add (rm : List (String × List (Rat × String))) (hcf : ChainFree rm)
    (cU cA cB : Counts) (hU : (Counts.keys cU).Nodup) (hA : (Counts.keys cA).Nodup) (hB : (Counts.keys cB).Nodup)
    (hget : ∀ k, cU.get k = cA.get k + cB.get k) (t : String) :
    (remapAll rm cU).get t = (remapAll rm cA).get t + (remapAll rm cB).get t := by
  rw [remapAll_get_finset rm hcf cU hU ((Counts.keys cU).toFinset ∪ ((Counts.keys cA).toFinset ∪ (Counts.keys cB).toFinset))
      Finset.subset_union_left,
    remapAll_get_finset rm hcf cA hA _ (Finset.subset_union_left.trans Finset.subset_union_right),
    remapAll_get_finset rm hcf cB hB _ (Finset.subset_union_right.trans Finset.subset_union_right),
    ← Finset.sum_add_distrib]
  exact Finset.sum_congr rfl fun k _ => by rw [hget k, contrib_mul, add_mul, ← contrib_mul, ← contrib_mul]

/-- if the names present in `cU` are those present in `cA` or `cB`, the same holds after the remap pass -/
theorem mem_keys_remapAll_union (rm : List (String × List (Rat × String))) (hcf : ChainFree rm)
    (cU cA cB : Counts) (hU : (Counts.keys cU).Nodup) (hA : (Counts.keys cA).Nodup) (hB : (Counts.keys cB).Nodup)
    (hkeys : ∀ t, t ∈ Counts.keys cU ↔ t ∈ Counts.keys cA ∨ t ∈ Counts.keys cB) (t : String) :
    t ∈ Counts.keys (remapAll rm cU) ↔ t ∈ Counts.keys (remapAll rm cA) ∨ t ∈ Counts.keys (remapAll rm cB) := by
  simp only [mem_keys_remapAll rm hcf _ hU, mem_keys_remapAll rm hcf _ hA, mem_keys_remapAll rm hcf _ hB, hkeys,
    or_and_right, exists_or]
  exact or_or_or_comm

end PGA.Scheme
