import PGA.Proofs.RingPos
/-! # Top-level consequences for `parse` (C09-T2, T3, T5)

`parse_accepted` reads the run of the engine off an accepting outcome of `parse`; the theorems about `parse` carry
the invariants of `eval` across to it. -/
set_option linter.unusedVariables false
namespace PGA.Ring
open PGA.Chars

/-- an accepted text: the root rule succeeded from the state after the leading filler, consumed the text and
output the tree first -/
theorem parse_accepted {G : Grammar} {s : List Char} {ast : Ast} {fin : St} (h : parse G s = .accepted ast fin) :
    ∃ st0 out cur, skipFiller G.filler ⟨s, 0, 1, 1⟩ = some st0 ∧
      eval G (.ref G.root) st0 none G.top = .ok fin (ast :: out) cur ∧ fin.rest = [] := by
  unfold parse at h
  split at h
  · cases h
  · next st0 h0 =>
    split at h
    · next st out cur he =>
      split at h
      · next hrest =>
        split at h
        · cases h; exact ⟨st0, _, cur, h0, he, hrest⟩
        · cases h
      · cases h
    · cases h
    · cases h

/-- the position invariant holds of the root rule's run -/
theorem parse_inv (G : Grammar) {s : List Char} {st0 : St} (h0 : skipFiller G.filler ⟨s, 0, 1, 1⟩ = some st0) :
    ResInv s (eval G (.ref G.root) st0 none G.top) :=
  eval_inv G s _ st0 none _ (skipFillerAux_inv s G.filler s 0 1 1 st0 h0 ⟨Nat.zero_le _, rfl, rfl, rfl⟩) trivial

/-- **no abort**: on a well-ranked table `parse` ends in `accepted` or `syntaxError` for every text -/
theorem parse_no_abort (G : Grammar) (nt : List Bool) (hG : WellRanked G nt) (hc : decimalCovered = true)
    (s : List Char) : ∀ a, parse G s ≠ .abort a := by
  intro a
  unfold parse
  obtain ⟨st0, h0⟩ := skipFillerAux_isSome G.filler hG.filler s 0 1 1
  simp only [skipFiller, h0]
  obtain ⟨b, hb⟩ := hG.root
  obtain ⟨r, hr, hrt⟩ := hG.ranked G.root b hb
  have g := eval_good G nt hG hc (.ref G.root) st0 none G.top (Or.inl (by simp [wfE, hb, hr, hrt]))
    (by simp [leftOK, hr, hrt])
  simp only [eval_ref, hb, hr, if_pos hrt] at g ⊢
  generalize eval G b st0 none r = res at g
  cases res with
  | ok st out cur => dsimp only [nodePost]; split <;> nofun
  | fail e cur => nofun
  | abort a' => exact absurd rfl (g.1 a')

/-- **position**: a syntax error reported by `parse` carries the line/column of an index of the text -/
theorem parse_error_inside (G : Grammar) (s : List Char) (e : Err) (h : parse G s = .syntaxError e) :
    Inside s e.line e.col := by
  unfold parse at h
  split at h
  · cases h
  · next st0 h0 =>
    have g := parse_inv G h0
    split at h
    · next st out cur he =>
      rw [he] at g
      split at h
      · split at h <;> cases h
      · cases h; exact errAt_inside s st _ g.1
    · next e' cur he => rw [he] at g; cases h; exact g.1
    · cases h

/-- **consumption**: accepted text has been consumed in full, and the final state is the end position -/
theorem parse_accepted_end (G : Grammar) (s : List Char) (ast : Ast) (fin : St) (h : parse G s = .accepted ast fin) :
    fin.rest = [] ∧ fin.idx = s.length ∧ fin.line = lineOf s ∧ fin.col = colOf s := by
  obtain ⟨st0, out, cur, h0, he, hrest⟩ := parse_accepted h
  have g := parse_inv G h0
  rw [he] at g
  obtain ⟨h1, h2, h3, h4⟩ := g.1
  have hidx : fin.idx = s.length :=
    Nat.le_antisymm h1 (List.drop_eq_nil_iff.mp (h2.symm.trans hrest))
  rw [hidx, List.take_length] at h3 h4
  exact ⟨hrest, hidx, h3, h4⟩

end PGA.Ring
