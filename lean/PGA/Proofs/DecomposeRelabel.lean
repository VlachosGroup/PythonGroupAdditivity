import PGA.Proofs.MolIso
import PGA.Proofs.Decompose
import Mathlib.Logic.Function.Basic
/-! The end-to-end model under a renumbering of the atoms: any two inputs that declare the scheme on two isomorphic
graphs — in particular `toInput S a` and `toInput S a'` — are related by `Scheme.Relabel … π`. -/
namespace PGA.Decompose
open PGA PGA.Spec PGA.Scheme PGA.Match

variable {π : Nat → Nat} {a a' : Mol}

/-- the neighbours of a renamed atom in a graph that holds a renamed copy and no further bond at that atom -/
theorem neighbours_image {m m' : Mol} {rest : List Bond} {x : Nat} (hinj : Function.Injective π)
    (hb : m'.bonds.Perm (m.bonds.map (relabelBond π) ++ rest)) (hr : ∀ e ∈ rest, e.touches (π x) = false) :
    (neighbours m' (π x)).Perm ((neighbours m x).map π) := by
  unfold neighbours
  refine ((bondsOf_image hinj hb hr).map _).trans (.of_eq ?_)
  rw [List.map_map, List.map_map]
  exact List.map_congr_left fun e _ => other_relabel hinj e x

theorem embeds_iso (iso : MolIso π a a') (ha : a.wf = true) (q : Query) (f : List Nat) (hf : ∀ x ∈ f, x < a.natoms) :
    Embeds q a' (f.map π) ↔ Embeds q a f :=
  (iso.openMap ha (iso.wf ha)).embeds q f hf (fun p _ => iso.molPrefix p)

/-- any two inputs that declare the scheme on a graph and on a renumbering of it differ by that renumbering -/
theorem declares_relabel_iso {S : SchemeDef} {inp inp' : Input} (iso : MolIso π a a') (ha : a.wf = true)
    (D : Declares S a inp) (D' : Declares S a' inp') : Relabel inp inp' π := by
  refine relabel_of_declares iso.inj iso.surj iso.natoms iso.range
    (fun i => neighbours_image iso.inj iso.copy (fun _ h => nomatch h)) (fun q f' => ⟨fun E' => ?_, ?_⟩) D D'
  · -- an embedding into the renumbered graph is the renumbering of its preimage
    have inv : ∀ y, π (Function.invFun π y) = y := Function.rightInverse_invFun iso.surj
    have back : (f'.map (Function.invFun π)).map π = f' := by
      rw [List.map_map, show π ∘ Function.invFun π = id from funext inv, List.map_id]
    refine ⟨_, (embeds_iso iso ha q _ (List.forall_mem_map.2 fun y hy => (iso.range _).1 ?_)).1 (back.symm ▸ E'), back⟩
    rw [inv, ← iso.natoms]
    exact E'.range y hy
  · rintro ⟨f, E, rfl⟩
    exact (embeds_iso iso ha q f E.range).2 E

theorem toInput_relabel (S : SchemeDef) (iso : MolIso π a a') (ha : a.wf = true) (ha' : a'.wf = true)
    (hq : S.wf = true) (hs : S.noStar = true) (hcap : maxRaw S a < maxMatches) (hcap' : maxRaw S a' < maxMatches) :
    Relabel (toInput S a) (toInput S a') π :=
  declares_relabel_iso iso ha (toInput_declares S a ha hq hs hcap) (toInput_declares S a' ha' hq hs hcap')

end PGA.Decompose
