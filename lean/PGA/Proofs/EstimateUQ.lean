import PGA.Proofs.Estimate
import Mathlib.Data.List.Nodup
/-! Helper lemmas for C20: the count vector, the quadratic form. -/
namespace PGA.Estimate

/-! ### vectors -/

theorem dot_eq_specDot (a b : List Rat) : dot a b = specDot a b := by
  induction a generalizing b with
  | nil => rfl
  | cons x xs ih =>
    cases b with
    | nil => rfl
    | cons y ys => rw [dot, ih ys]; rfl

theorem dot_zeros (n : Nat) (y : List Rat) : dot (zeros n) y = 0 := by
  induction n generalizing y with
  | zero => simp [zeros, dot]
  | succ n ih =>
    cases y with
    | nil => simp [zeros, List.replicate_succ, dot]
    | cons y ys =>
      have := ih ys
      simp only [zeros, List.replicate_succ, dot] at this ⊢
      rw [this]; ring

theorem vadd_length (a b : List Rat) (h : a.length = b.length) : (vadd a b).length = a.length := by
  induction a generalizing b with
  | nil => cases b <;> rfl
  | cons x xs ih =>
    cases b with
    | nil => nomatch h
    | cons y ys => rw [vadd, List.length_cons, List.length_cons, ih ys (Nat.succ.inj h)]

theorem dot_vadd (a b y : List Rat) (h : a.length = b.length) : dot (vadd a b) y = dot a y + dot b y := by
  induction a generalizing b y with
  | nil =>
    cases b with
    | nil => exact (add_zero _).symm
    | cons z zs => nomatch h
  | cons x xs ih =>
    cases b with
    | nil => nomatch h
    | cons z zs =>
      cases y with
      | nil => exact (add_zero _).symm
      | cons w ws =>
        simp only [vadd, dot, ih zs ws (Nat.succ.inj h)]
        ring

theorem dot_smul (k : Rat) (a y : List Rat) : dot (a.map (k * ·)) y = k * dot a y := by
  induction a generalizing y with
  | nil => simp [dot]
  | cons x xs ih =>
    cases y with
    | nil => simp [dot]
    | cons w ws => simp only [List.map_cons, dot, ih ws]; ring

theorem dot_smul_right (k : Rat) (a y : List Rat) : dot a (y.map (k * ·)) = k * dot a y := by
  induction a generalizing y with
  | nil => simp [dot]
  | cons x xs ih =>
    cases y with
    | nil => simp [dot]
    | cons w ws => simp only [List.map_cons, dot, ih ws]; ring

theorem vecMat_length (n : Nat) (xs : List Rat) (rows : List (List Rat)) (h : ∀ row ∈ rows, row.length = n) :
    (vecMat n xs rows).length = n := by
  induction xs generalizing rows with
  | nil => simp [vecMat, zeros]
  | cons x xs ih =>
    cases rows with
    | nil => simp [vecMat, zeros]
    | cons row rows =>
      have h1 : row.length = n := h row (by simp)
      have h2 := ih rows (fun r hr => h r (List.mem_cons_of_mem _ hr))
      simp only [vecMat]
      rw [vadd_length _ _ (by simp [h1, h2])]
      simp [h1]

/-- `(xᵀM)·y = Σ_i x_i (row_i · y)` -/
theorem dot_vecMat (n : Nat) (xs : List Rat) (rows : List (List Rat)) (y : List Rat)
    (h : ∀ row ∈ rows, row.length = n) :
    dot (vecMat n xs rows) y = (List.zipWith (fun xi row => xi * specDot row y) xs rows).sum := by
  induction xs generalizing rows with
  | nil => simp [vecMat, dot_zeros]
  | cons x xs ih =>
    cases rows with
    | nil => simp [vecMat, dot_zeros]
    | cons row rows =>
      have h1 : row.length = n := h row (by simp)
      have hr : ∀ r ∈ rows, r.length = n := fun r hr => h r (List.mem_cons_of_mem _ hr)
      simp only [vecMat, List.zipWith_cons_cons, List.sum_cons]
      rw [dot_vadd _ _ _ (by simp [h1, vecMat_length n xs rows hr]), dot_smul, ih rows hr, dot_eq_specDot]

/-- the model's `(xᵀM)x` is the specification's double sum -/
theorem quad_eq_specQuad (x : List Rat) (M : List (List Rat)) (h : ∀ row ∈ M, row.length = x.length) :
    quad x M = specQuad M x := by
  unfold quad specQuad
  exact dot_vecMat x.length x M x h

theorem specDot_smul_right (k : Rat) (a y : List Rat) : specDot a (y.map (k * ·)) = k * specDot a y := by
  rw [← dot_eq_specDot, ← dot_eq_specDot, dot_smul_right]

/-- scaling the vector by `k` scales the quadratic form by `k²` -/
theorem specQuad_smul (k : Rat) (M : List (List Rat)) (x : List Rat) :
    specQuad M (x.map (k * ·)) = k * k * specQuad M x := by
  unfold specQuad
  have key : ∀ (xs : List Rat) (rows : List (List Rat)),
      (List.zipWith (fun xi row => xi * specDot row (x.map (k * ·))) (xs.map (k * ·)) rows).sum
        = k * k * (List.zipWith (fun xi row => xi * specDot row x) xs rows).sum := by
    intro xs
    induction xs with
    | nil => simp
    | cons a as ih =>
      intro rows
      cases rows with
      | nil => simp
      | cons r rs =>
        simp only [List.map_cons, List.zipWith_cons_cons, List.sum_cons]
        rw [ih rs, specDot_smul_right]
        ring
  exact key x M

theorem shapeOK_iff (n : Nat) (M : List (List Rat)) : shapeOK n M = true ↔ n ≠ 0 ∧ Square n M := by
  simp [shapeOK, Square, List.all_eq_true]
  tauto

/-! ### the count vector -/
section
variable {N : Type} [DecidableEq N]

/-- `x` after the placement loop: basis position `i` holds the mapping's count for `basis[i]`, else the old entry -/
def fillX (basis : List N) (gs : List (N × Rat)) (x : List Rat) : List Rat :=
  List.zipWith (fun b xi => match gs.lookup b with | some n => n | none => xi) basis x

theorem fillX_length (basis : List N) (gs : List (N × Rat)) (x : List Rat) (hx : x.length = basis.length) :
    (fillX basis gs x).length = basis.length := by
  simp [fillX, hx]

theorem fillX_nil (basis : List N) (x : List Rat) (hx : x.length = basis.length) : fillX basis [] x = x :=
  List.ext_getElem (by simp [fillX, hx]) fun j _ _ => by simp [fillX]

theorem lookup_none_of_not_mem (gs : List (N × Rat)) (g : N) (h : g ∉ gs.map (·.1)) : gs.lookup g = none := by
  rw [List.lookup_eq_none_iff]
  intro p hp
  simp only [bne_iff_ne, ne_eq]
  intro hg
  exact h (List.mem_map.mpr ⟨p, hp, hg.symm⟩)

theorem placeX_spec (basis : List N) (hb : basis.Nodup) (gs : List (N × Rat)) (hk : (gs.map (·.1)).Nodup)
    (x y : List Rat) (hx : x.length = basis.length) (h : placeX basis gs x = .ok y) : y = fillX basis gs x := by
  induction gs generalizing x with
  | nil =>
    simp only [placeX, Except.ok.injEq] at h
    rw [fillX_nil basis x hx, h]
  | cons p rest ih =>
    obtain ⟨g, n⟩ := p
    simp only [List.map_cons, List.nodup_cons] at hk
    unfold placeX at h
    split at h
    · cases h
    · rename_i i hi
      obtain ⟨hlt, hgi, _⟩ := List.idxOf?_eq_some_iff.mp hi
      have hy := ih hk.2 (x.set i n) (by simp [hx]) h
      rw [hy]
      have hgn : rest.lookup g = none := lookup_none_of_not_mem rest g hk.1
      apply List.ext_getElem
      · simp [fillX]
      · intro j h1 h2
        simp only [fillX, List.getElem_zipWith, List.lookup_cons]
        by_cases hji : j = i
        · subst hji
          simp [hgi, hgn]
        · have hne : basis[j]'(by simp [fillX] at h1; omega) ≠ g := by
            intro heq
            apply hji
            have := (List.Nodup.getElem_inj_iff hb (i := j) (j := i) (hi := by simp [fillX] at h1; omega) (hj := hlt)).mp
              (heq.trans hgi.symm)
            exact this
          have hbeq : (basis[j]'(by simp [fillX] at h1; omega) == g) = false := by simpa using hne
          simp only [hbeq]
          rw [List.getElem_set_ne (Ne.symm hji)]

theorem fillX_zeros (basis : List N) (gs : List (N × Rat)) :
    fillX basis gs (zeros basis.length) = specX basis gs := by
  unfold fillX specX zeros
  induction basis with
  | nil => simp
  | cons b bs ih =>
    simp only [List.length_cons, List.replicate_succ, List.zipWith_cons_cons, List.map_cons]
    rw [ih]
    rfl

/-- with distinct keys, `lookup` is membership -/
theorem lookup_eq_some_of_nodup (gs : List (N × Rat)) (hk : (gs.map (·.1)).Nodup) (b : N) (n : Rat) :
    gs.lookup b = some n ↔ (b, n) ∈ gs := by
  induction gs with
  | nil => simp
  | cons p rest ih =>
    obtain ⟨g, m⟩ := p
    simp only [List.map_cons, List.nodup_cons] at hk
    rw [List.lookup_cons]
    by_cases hbg : b = g
    · subst hbg
      simp only [beq_self_eq_true, Option.some.injEq, List.mem_cons, Prod.mk.injEq, true_and]
      constructor
      · intro h; exact Or.inl h.symm
      · rintro (h | h)
        · exact h.symm
        · exact absurd (List.mem_map.mpr ⟨(b, n), h, rfl⟩) hk.1
    · have : (b == g) = false := by simpa using hbg
      simp only [this, ih hk.2, List.mem_cons, Prod.mk.injEq, hbg, false_and, false_or]

theorem lookup_perm (gs gs' : List (N × Rat)) (hp : gs.Perm gs') (hk : (gs.map (·.1)).Nodup) (b : N) :
    gs.lookup b = gs'.lookup b := by
  have hk' : (gs'.map (·.1)).Nodup := (hp.map _).nodup_iff.mp hk
  apply Option.ext
  intro n
  rw [lookup_eq_some_of_nodup gs hk, lookup_eq_some_of_nodup gs' hk', hp.mem_iff]

/-- the count vector does not depend on the order of the mapping -/
theorem specX_perm (basis : List N) (gs gs' : List (N × Rat)) (hp : gs.Perm gs') (hk : (gs.map (·.1)).Nodup) :
    specX basis gs = specX basis gs' :=
  List.map_congr_left fun b _ => by rw [lookup_perm gs gs' hp hk b]

theorem lookup_scale (k : Rat) (gs : List (N × Rat)) (b : N) :
    (gs.map fun g => (g.1, k * g.2)).lookup b = (gs.lookup b).map (k * ·) := by
  induction gs with
  | nil => simp
  | cons p rest ih =>
    obtain ⟨g, m⟩ := p
    simp only [List.map_cons, List.lookup_cons]
    cases b == g <;> simp [ih]

/-- scaling every count by `k` scales the count vector by `k` -/
theorem specX_scale (k : Rat) (basis : List N) (gs : List (N × Rat)) :
    specX basis (gs.map fun g => (g.1, k * g.2)) = (specX basis gs).map (k * ·) := by
  unfold specX
  rw [List.map_map]
  apply List.map_congr_left
  intro b _
  simp only [Function.comp, lookup_scale]
  cases gs.lookup b <;> simp

theorem specX_length (basis : List N) (gs : List (N × Rat)) : (specX basis gs).length = basis.length := by
  simp [specX]

variable {S : Type} [DecidableEq S]

theorem estimate_uq (reg : List S) (lib : Library N S) (gs : List (N × Rat)) (s : S) (e : Estimator) (u : UQ N)
    (he : estimate reg lib gs s = .ok e) (hu : lib.uq = some u) :
    ∃ q, buildUQ u gs = .ok q ∧ e.uq = some q := by
  obtain ⟨_, _, hc⟩ := (estimate_ok_iff reg lib gs s e).mp he
  obtain ⟨cs, uq, _, huq, hf⟩ := (construct_ok_iff lib s gs e).mp hc
  obtain ⟨rfl, _⟩ := (finish_ok_iff _ _ _ _).mp hf
  simp only [uqPart, hu] at huq
  split at huq <;> cases huq
  exact ⟨_, ‹_›, rfl⟩

/-- first out-of-basis descriptor → that error -/
theorem placeX_notInBasis (basis : List N) (pre : List (N × Rat)) (g : N) (n : Rat) (post : List (N × Rat)) (x : List Rat)
    (hpre : ∀ p ∈ pre, p.1 ∈ basis) (hg : g ∉ basis) :
    placeX basis (pre ++ (g, n) :: post) x = .error (.notInBasis g) := by
  induction pre generalizing x with
  | nil =>
    simp only [List.nil_append, placeX]
    have : basis.idxOf? g = none := List.idxOf?_eq_none_iff.mpr hg
    simp [this]
  | cons p pre ih =>
    obtain ⟨g', n'⟩ := p
    simp only [List.cons_append, placeX]
    have hin : g' ∈ basis := hpre (g', n') (by simp)
    cases hi : basis.idxOf? g' with
    | none => exact absurd hin (List.idxOf?_eq_none_iff.mp hi)
    | some i => exact ih _ (fun p hp => hpre p (List.mem_cons_of_mem _ hp))

end

end PGA.Estimate
