import PGA.Proofs.RingShape
import PGA.Model.RingRead
/-!
# The readers never meet a tree shape they do not expect (C09-T4)

For every tree that conforms to the generated `enhanced_grammar` (`Conf`, which `parse_conf` gives for
every accepted text) the outcome model of the readers does not end in `shape`.  The proofs use the
child-kind tables of the rules the readers visit (`ruleKinds`, each re-checked by `decide +kernel`
over the regenerated grammar): `conf_fit` and `kids_shapes` turn a table into the explicit forms the
children of a node can have, and on each form the reader's own pattern match takes the branch written
for it, by computation.
-/
set_option linter.unusedVariables false
namespace PGA.Ring
open PGA.Chars PGA.Gen.RingGrammar

def ruleKinds (G : Grammar) (n : Nat) : List (List Kind) :=
  match G.rules[n]? with | some (some b) => kinds b | _ => []

theorem map_kind_nil {kids : List Ast} : kids.map kindOf = [] ↔ kids = [] := List.map_eq_nil_iff
theorem map_kind_cons {kids : List Ast} {K : Kind} {Ks : List Kind} :
    kids.map kindOf = K :: Ks ↔ ∃ a as, kids = a :: as ∧ kindOf a = K ∧ as.map kindOf = Ks := List.map_eq_cons_iff
theorem kindOf_node {a : Ast} {n : Nat} : kindOf a = .node n ↔ ∃ c, a = .node n c := by
  cases a <;> simp [kindOf]
theorem kindOf_str {a : Ast} : kindOf a = .str ↔ ∃ s, a = .str s := by
  cases a <;> simp [kindOf]
theorem kindOf_int {a : Ast} : kindOf a = .int ↔ ∃ v, a = .int v := by
  cases a <;> simp [kindOf]

/-- all of `kids` conform; on an explicit list, the conjunction of the `Conf` facts in order -/
def Confs (G : Grammar) : List Ast → Prop
  | [] => True
  | t :: ts => Conf G t ∧ Confs G ts

theorem confs_of_forall {G : Grammar} : ∀ {kids : List Ast}, (∀ k ∈ kids, Conf G k) → Confs G kids
  | [], _ => trivial
  | t :: ts, h => ⟨h t (.head _), confs_of_forall fun k hk => h k (.tail _ hk)⟩

/-- the kinds of the children of a conforming node are a row of the table of its rule, and the children conform -/
theorem conf_fit {G : Grammar} {n : Nat} {kids : List Ast} {L : List (List Kind)} (h : Conf G (.node n kids))
    (hr : ruleKinds G n = L) : kids.map kindOf ∈ L ∧ Confs G kids := by
  cases h with
  | node _ body _ hb hk hc => exact ⟨by simpa only [← hr, ruleKinds, hb] using hk, confs_of_forall hc⟩

/-- destructure `kids.map kindOf ∈ [...]` into a disjunction of explicit shapes -/
macro "kids_shapes" h:ident : tactic =>
  `(tactic| simp only [List.mem_cons, List.not_mem_nil, or_false, map_kind_cons, map_kind_nil, kindOf_node, kindOf_str,
      kindOf_int] at $h:ident)

/-- not a shape failure -/
def Safe {α : Type} (r : RM α) : Prop := r ≠ .error .shape

theorem safe_ok {α : Type} (a : α) : Safe (pure a : RM α) := nofun
theorem safe_reader {α : Type} : Safe (throw .reader : RM α) := nofun
theorem safe_notImpl {α : Type} : Safe (throw .notImpl : RM α) := nofun
theorem safe_shape_false {α : Type} : ¬ Safe (throw .shape : RM α) := fun h => h rfl
theorem safe_bind {α β : Type} {x : RM α} {f : α → RM β} (hx : Safe x) (hf : ∀ a, Safe (f a)) : Safe (x >>= f) := by
  cases x with
  | error e => intro h; cases h; exact hx rfl
  | ok a => exact hf a
theorem safe_ite {α : Type} {c : Prop} [Decidable c] {a b : RM α} (ha : Safe a) (hb : Safe b) : Safe (if c then a else b) := by
  split <;> assumption
/-- `if c then throw e` in front of the rest `k` of a `do` block -/
theorem safe_guard {β : Type} {c : Prop} [Decidable c] {x : RM PUnit} {k : PUnit → RM β} (hx : Safe x) (hk : Safe (k ())) :
    Safe (if c then x >>= k else k ()) := safe_ite (safe_bind hx fun _ => hk) hk
theorem safe_reader_bind {α β : Type} (f : α → RM β) : Safe ((throw .reader : RM α) >>= f) := nofun
theorem bind_pure_eq {α β : Type} (a : α) (f : α → RM β) : (pure a : RM α) >>= f = f a := rfl

/-- a one-string-child node of the grammar (`Symbols`, `AtomLabel`, `BondType`, names, …) -/
def OneStr (G : Grammar) (n : Nat) : Prop := ∀ k ∈ ruleKinds G n, k = [Kind.str]
theorem conf_oneStr {G : Grammar} {n : Nat} {kids : List Ast} (h : Conf G (.node n kids)) (h1 : OneStr G n) :
    ∃ s, s ≠ [] ∧ kids = [.str s] := by
  obtain ⟨hk, hc⟩ := conf_fit h rfl
  have hk := h1 _ hk
  kids_shapes hk
  obtain ⟨_, _, rfl, ⟨s, rfl⟩, rfl⟩ := hk
  cases hc.1 with
  | str _ hs => exact ⟨s, hs, rfl⟩

/-! ## table facts about `enhanced_grammar` -/

theorem one_Symbols : OneStr enhanced rSymbols := by unfold OneStr; decide +kernel
theorem one_AtomSuffix : OneStr enhanced rAtomSuffix := by unfold OneStr; decide +kernel
theorem one_AtomPrefix : OneStr enhanced rAtomPrefix := by unfold OneStr; decide +kernel
theorem one_AtomLabel : OneStr enhanced rAtomLabel := by unfold OneStr; decide +kernel
theorem one_BondType : OneStr enhanced rBondType := by unfold OneStr; decide +kernel
theorem one_Boolean : OneStr enhanced rBoolean := by unfold OneStr; decide +kernel
theorem one_GroupName : OneStr enhanced rGroupName := by unfold OneStr; decide +kernel
theorem one_FragmentName : OneStr enhanced rFragmentName := by unfold OneStr; decide +kernel
theorem one_ReactantName : OneStr enhanced rReactantName := by unfold OneStr; decide +kernel
theorem one_ReactionName : OneStr enhanced rReactionName := by unfold OneStr; decide +kernel
theorem one_StereoType : OneStr enhanced rDoubleBondStereoType := by unfold OneStr; decide +kernel

theorem rk_AtomType : ruleKinds enhanced rAtomType =
    [[.node rSymbols], [.node rSymbols, .node rAtomSuffix], [.node rAtomPrefix, .node rSymbols],
     [.node rAtomPrefix, .node rSymbols, .node rAtomSuffix]] := by decide +kernel
theorem rk_ConstraintNumber : ruleKinds enhanced rConstraintNumber = [[.int], [.str, .int]] := by decide +kernel
theorem rk_Conn : ruleKinds enhanced rAtomConstraintConnectivity =
    [[.node rGroupName], [.node rGroupName, .node rBondType], [.node rAtomType], [.node rAtomType, .node rBondType],
     [.node rConstraintNumber, .node rGroupName], [.node rConstraintNumber, .node rGroupName, .node rBondType],
     [.node rConstraintNumber, .node rAtomType], [.node rConstraintNumber, .node rAtomType, .node rBondType],
     [.node rBoolean, .node rGroupName], [.node rBoolean, .node rGroupName, .node rBondType],
     [.node rBoolean, .node rAtomType], [.node rBoolean, .node rAtomType, .node rBondType],
     [.node rBoolean, .node rConstraintNumber, .node rGroupName],
     [.node rBoolean, .node rConstraintNumber, .node rGroupName, .node rBondType],
     [.node rBoolean, .node rConstraintNumber, .node rAtomType],
     [.node rBoolean, .node rConstraintNumber, .node rAtomType, .node rBondType]] := by decide +kernel
theorem rk_Ring : ruleKinds enhanced rAtomConstraintRing = [[.node rConstraintNumber], [.node rBoolean, .node rConstraintNumber]] := by
  decide +kernel
theorem rk_Radical : ruleKinds enhanced rAtomConstraintRadical = [[.node rConstraintNumber], [.node rBoolean, .node rConstraintNumber]] := by
  decide +kernel
theorem rk_NRing : ruleKinds enhanced rAtomConstraintNRing = [[.node rConstraintNumber], [.node rBoolean, .node rConstraintNumber]] := by
  decide +kernel
theorem rk_Constraints : ruleKinds enhanced rAtomConstraints =
    [[.node rAtomConstraintConnectivity], [.node rAtomConstraintRing], [.node rAtomConstraintRadical], [.node rAtomConstraintNRing]] := by
  decide +kernel
theorem rk_ConstraintChain : ruleKinds enhanced rAtomConstraintChain =
    [[.node rAtomConstraints], [.node rAtomConstraints, .node rAtomConstraintChain]] := by decide +kernel
theorem rk_Atom : ruleKinds enhanced rAtom =
    [[.node rAtomType, .node rAtomLabel], [.node rAtomType, .node rAtomLabel, .node rAtomConstraintChain]] := by decide +kernel
theorem rk_BondedAtom : ruleKinds enhanced rBondedAtom =
    [[.node rAtomType, .node rAtomLabel, .node rBondType, .node rAtomLabel],
     [.node rAtomType, .node rAtomLabel, .node rBondType, .node rAtomLabel, .node rAtomConstraintChain]] := by decide +kernel
theorem rk_RingBond : ruleKinds enhanced rRingBond = [[.node rAtomLabel, .node rBondType, .node rAtomLabel]] := by decide +kernel
theorem rk_Stereo : ruleKinds enhanced rStereoDoubleBond =
    [[.node rAtomLabel, .node rDoubleBondStereoType, .node rAtomLabel, .node rAtomLabel, .node rAtomLabel],
     [.node rAtomLabel, .node rBoolean, .node rDoubleBondStereoType, .node rAtomLabel, .node rAtomLabel, .node rAtomLabel]] := by
  decide +kernel
theorem rk_AtomChain : ruleKinds enhanced rAtomChain =
    [[.node rBondedAtom], [.node rBondedAtom, .node rAtomChain], [.node rRingBond], [.node rRingBond, .node rAtomChain],
     [.node rStereoDoubleBond], [.node rStereoDoubleBond, .node rAtomChain]] := by decide +kernel
theorem rk_MolQuery : ruleKinds enhanced rMolQuery = [[.node rAtom], [.node rAtom, .node rAtomChain]] := by decide +kernel
theorem rk_Fragment : ruleKinds enhanced rFragment = [[.node rPrefix, .node rFragmentName, .node rMolQuery]] := by decide +kernel
theorem rk_ReactantQuery : ruleKinds enhanced rReactantQuery = [[.node rPrefix, .node rReactantName, .node rMolQuery]] := by decide +kernel
theorem rk_LabelMapping : ruleKinds enhanced rLabelMapping =
    [[.node rAtomLabel, .node rAtomLabel], [.node rAtomLabel, .node rAtomLabel, .node rLabelMapping]] := by decide +kernel
theorem rk_ReactantGroup : ruleKinds enhanced rReactantGroup = [[.node rReactantName, .node rGroupName, .node rLabelMapping]] := by
  decide +kernel
theorem rk_Duplicates : ruleKinds enhanced rDuplicates = [[.node rReactantName, .node rReactantName, .node rLabelMapping]] := by
  decide +kernel
theorem rk_Reactants : ruleKinds enhanced rReactants =
    [[.node rReactantQuery], [.node rReactantQuery, .node rReactants], [.node rReactantGroup], [.node rReactantGroup, .node rReactants],
     [.node rDuplicates], [.node rDuplicates, .node rReactants]] := by decide +kernel
theorem rk_BondForm : ruleKinds enhanced rBondForm =
    [[.node rAtomLabel, .node rAtomLabel], [.node rBondType, .node rAtomLabel, .node rAtomLabel]] := by decide +kernel
theorem rk_BondBreak : ruleKinds enhanced rBondBreak =
    [[.node rAtomLabel, .node rAtomLabel], [.node rBondType, .node rAtomLabel, .node rAtomLabel]] := by decide +kernel
theorem rk_BondModify : ruleKinds enhanced rBondModify = [[.node rAtomLabel, .node rAtomLabel, .node rBondType]] := by decide +kernel
theorem rk_BondIncrease : ruleKinds enhanced rBondIncrease = [[.node rAtomLabel, .node rAtomLabel]] := by decide +kernel
theorem rk_BondDecrease : ruleKinds enhanced rBondDecrease = [[.node rAtomLabel, .node rAtomLabel]] := by decide +kernel
theorem rk_AtomTypeModify : ruleKinds enhanced rAtomTypeModify = [[.node rAtomLabel, .node rAtomType]] := by decide +kernel
theorem rk_RadicalModify : ruleKinds enhanced rRadicalModify = [[.node rAtomLabel, .int]] := by decide +kernel
theorem rk_RadicalIncrease : ruleKinds enhanced rRadicalIncrease = [[.node rAtomLabel]] := by decide +kernel
theorem rk_RadicalDecrease : ruleKinds enhanced rRadicalDecrease = [[.node rAtomLabel]] := by decide +kernel
theorem rk_ChargeIncrease : ruleKinds enhanced rChargeIncrease = [[.node rAtomLabel]] := by decide +kernel
theorem rk_ChargeDecrease : ruleKinds enhanced rChargeDecrease = [[.node rAtomLabel]] := by decide +kernel
theorem rk_Change : ruleKinds enhanced rConnectivityChange =
    [[.node rBondForm], [.node rBondBreak], [.node rBondModify], [.node rBondDecrease], [.node rBondIncrease], [.node rAtomTypeModify],
     [.node rRadicalModify], [.node rRadicalIncrease], [.node rRadicalDecrease], [.node rChargeIncrease], [.node rChargeDecrease]] := by
  decide +kernel
theorem rk_TransChain : ruleKinds enhanced rTransformationChain =
    [[.node rConnectivityChange], [.node rConnectivityChange, .node rTransformationChain]] := by decide +kernel
theorem rk_Rule : ruleKinds enhanced rReactionRule =
    [[.node rReactionName, .node rReactants, .node rTransformationChain],
     [.node rReactionName, .node rReactants, .node rConstraints, .node rTransformationChain]] := by decide +kernel
theorem rk_Input : ruleKinds enhanced rRINGInput = [[.node rFragment], [.node rReactionRule]] := by decide +kernel

/-! ## MolQueryRead -/

theorem readSymbols_safe {c : List Ast} (h : Conf enhanced (.node rSymbols c)) : Safe (readSymbols c) := by
  obtain ⟨s, hs, rfl⟩ := conf_oneStr h one_Symbols
  cases s with
  | nil => exact absurd rfl hs
  | cons c r => simp only [readSymbols, apply_ite Safe, safe_ok, safe_reader, ite_self]

theorem readSuffix_safe {c : List Ast} (h : Conf enhanced (.node rAtomSuffix c)) : Safe (readSuffix c) := by
  obtain ⟨s, _, rfl⟩ := conf_oneStr h one_AtomSuffix
  simp only [readSuffix, apply_ite Safe, safe_ok, safe_notImpl, ite_self]

theorem readAtomType_safe (kids : List Ast) (h : Conf enhanced (.node rAtomType kids)) : Safe (readAtomType kids) := by
  obtain ⟨hk, hc⟩ := conf_fit h rk_AtomType
  kids_shapes hk
  rcases hk with ⟨_, _, rfl, ⟨c, rfl⟩, rfl⟩ | ⟨_, _, rfl, ⟨c, rfl⟩, _, _, rfl, ⟨x, rfl⟩, rfl⟩ | ⟨_, _, rfl, ⟨_, rfl⟩, _, _, rfl, ⟨c, rfl⟩, rfl⟩ |
    ⟨_, _, rfl, ⟨_, rfl⟩, _, _, rfl, ⟨c, rfl⟩, _, _, rfl, ⟨x, rfl⟩, rfl⟩
  · exact safe_bind (readSymbols_safe hc.1) fun _ => safe_ok _
  · exact safe_bind (readSymbols_safe hc.1) fun _ => readSuffix_safe hc.2.1
  · exact safe_bind (readSymbols_safe hc.2.1) fun _ => safe_ok _
  · exact safe_bind (readSymbols_safe hc.2.1) fun _ => readSuffix_safe hc.2.2.1

theorem cnOK_conf {ck : List Ast} (h : Conf enhanced (.node rConstraintNumber ck)) : cnOK ck = true := by
  obtain ⟨hk, -⟩ := conf_fit h rk_ConstraintNumber
  kids_shapes hk
  rcases hk with ⟨_, _, rfl, ⟨_, rfl⟩, rfl⟩ | ⟨_, _, rfl, ⟨_, rfl⟩, _, _, rfl, ⟨_, rfl⟩, rfl⟩ <;> rfl

/-- a leading `Boolean` is `!` (the reader goes on with the rest) or is not supported -/
theorem readBoolean_bind_safe {α : Type} {b r : List Ast} {f : List Ast → RM α} (h : Conf enhanced (.node rBoolean b))
    (hf : Safe (f r)) : Safe (readBoolean (.node rBoolean b :: r) >>= f) := by
  obtain ⟨s, _, rfl⟩ := conf_oneStr h one_Boolean
  show Safe ((if isStr (.str s) (kw "!") then pure r else throw .notImpl) >>= f)
  split
  · exact hf
  · nofun

theorem readBoolean_other {n : Nat} {k r : List Ast} (h : n ≠ rBoolean) : readBoolean (.node n k :: r) = pure (.node n k :: r) :=
  if_neg h

def connKinds4 : List (List Kind) :=
  [[.node rGroupName], [.node rGroupName, .node rBondType], [.node rAtomType], [.node rAtomType, .node rBondType]]

/-- an optional node in front of the shapes `L` -/
theorem fit_opt {G : Grammar} {n : Nat} {L : List (List Kind)} {kids : List Ast}
    (h : kids.map kindOf ∈ L ++ L.map (Kind.node n :: ·) ∧ Confs G kids) :
    (kids.map kindOf ∈ L ∧ Confs G kids) ∨
      ∃ c r, kids = .node n c :: r ∧ Conf G (.node n c) ∧ r.map kindOf ∈ L ∧ Confs G r := by
  obtain ⟨hk, hc⟩ := h
  rcases List.mem_append.mp hk with hk | hk
  · exact .inl ⟨hk, hc⟩
  · obtain ⟨ks, hks, hk⟩ := List.mem_map.mp hk
    obtain ⟨a, r, rfl, ha, rfl⟩ := map_kind_cons.mp hk.symm
    obtain ⟨c, rfl⟩ := kindOf_node.mp ha
    exact .inr ⟨c, r, rfl, hc.1, hks, hc.2⟩

/-- `(AtomType | GroupName) BondType?`: neither `readBoolean` nor `connCN` takes anything off -/
theorem connCore_safe {kids : List Ast} (h : kids.map kindOf ∈ connKinds4 ∧ Confs enhanced kids) :
    Safe (connCore kids) ∧ connCN kids = pure kids ∧ readBoolean kids = pure kids := by
  obtain ⟨hk, hc⟩ := h
  unfold connKinds4 at hk
  kids_shapes hk
  rcases hk with ⟨_, _, rfl, ⟨g, rfl⟩, rfl⟩ | ⟨_, _, rfl, ⟨g, rfl⟩, _, _, rfl, ⟨b, rfl⟩, rfl⟩ | ⟨_, _, rfl, ⟨a, rfl⟩, rfl⟩ |
    ⟨_, _, rfl, ⟨a, rfl⟩, _, _, rfl, ⟨b, rfl⟩, rfl⟩
  · obtain ⟨s, _, rfl⟩ := conf_oneStr hc.1 one_GroupName
    exact ⟨safe_reader, rfl, rfl⟩
  · obtain ⟨s, _, rfl⟩ := conf_oneStr hc.1 one_GroupName
    exact ⟨safe_reader, rfl, rfl⟩
  · exact ⟨safe_bind (readAtomType_safe a hc.1) fun _ => safe_ok _, rfl, rfl⟩
  · obtain ⟨s, _, rfl⟩ := conf_oneStr hc.2.1 one_BondType
    exact ⟨safe_bind (readAtomType_safe a hc.1) fun _ => safe_ite (safe_ok _) safe_notImpl, rfl, rfl⟩

/-- `ConstraintNumber? (AtomType | GroupName) BondType?` -/
theorem connCN_safe {kids : List Ast}
    (h : kids.map kindOf ∈ connKinds4 ++ connKinds4.map (Kind.node rConstraintNumber :: ·) ∧ Confs enhanced kids) :
    Safe (connCN kids >>= connCore) ∧ readBoolean kids = pure kids := by
  obtain h | ⟨c, r, rfl, hc, h⟩ := fit_opt h
  · obtain ⟨h1, h2, h3⟩ := connCore_safe h
    exact ⟨by rw [h2]; exact h1, h3⟩
  · exact ⟨by simp only [connCN, cnOK_conf hc, if_true]; exact (connCore_safe h).1, rfl⟩

/-- The sixteen shapes of `rk_Conn` are, by computation, the four of `connKinds4`, those behind a
`ConstraintNumber`, and all eight again behind a `Boolean`: the order in which `readConn` peels them off. -/
theorem readConn_safe (kids : List Ast) (h : Conf enhanced (.node rAtomConstraintConnectivity kids)) : Safe (readConn kids) := by
  obtain h | ⟨b, r, rfl, hb, h⟩ := fit_opt (n := rBoolean) (L := connKinds4 ++ connKinds4.map (Kind.node rConstraintNumber :: ·))
    (conf_fit h rk_Conn)
  · obtain ⟨h1, h2⟩ := connCN_safe h
    unfold readConn
    rw [h2]
    exact h1
  · exact readBoolean_bind_safe hb (connCN_safe h).1

theorem readCount_safe (n : Nat) (kids : List Ast) (h : Conf enhanced (.node n kids))
    (hr : ruleKinds enhanced n = [[.node rConstraintNumber], [.node rBoolean, .node rConstraintNumber]]) :
    Safe (readCountConstraint kids) := by
  obtain ⟨hk, hc⟩ := conf_fit h hr
  kids_shapes hk
  have h1 {c} (hc : Conf enhanced (.node rConstraintNumber c)) : Safe (readCountConstraint [.node rConstraintNumber c]) := by
    show Safe (if cnOK c = true then pure () else throw .shape)
    rw [cnOK_conf hc]
    exact safe_ok _
  rcases hk with ⟨_, _, rfl, ⟨c, rfl⟩, rfl⟩ | ⟨_, _, rfl, ⟨b, rfl⟩, _, _, rfl, ⟨c, rfl⟩, rfl⟩
  · exact h1 hc.1
  · exact readBoolean_bind_safe hc.1 (h1 hc.2.1)

theorem readConstraints_safe (kids : List Ast) (h : Conf enhanced (.node rAtomConstraints kids)) : Safe (readConstraints kids) := by
  obtain ⟨hk, hc⟩ := conf_fit h rk_Constraints
  kids_shapes hk
  rcases hk with ⟨_, _, rfl, ⟨c, rfl⟩, rfl⟩ | ⟨_, _, rfl, ⟨c, rfl⟩, rfl⟩ | ⟨_, _, rfl, ⟨c, rfl⟩, rfl⟩ | ⟨_, _, rfl, ⟨c, rfl⟩, rfl⟩
  · exact readConn_safe c hc.1
  · exact readCount_safe _ c hc.1 rk_Ring
  · exact readCount_safe _ c hc.1 rk_Radical
  · exact readCount_safe _ c hc.1 rk_NRing

theorem readConstraintChain_safe (kids : List Ast) (h : Conf enhanced (.node rAtomConstraintChain kids)) :
    Safe (readConstraintChain kids) := by
  obtain ⟨hk, hc⟩ := conf_fit h rk_ConstraintChain
  kids_shapes hk
  rcases hk with ⟨_, _, rfl, ⟨c, rfl⟩, rfl⟩ | ⟨_, _, rfl, ⟨c, rfl⟩, _, _, rfl, ⟨d, rfl⟩, rfl⟩ <;> rw [readConstraintChain]
  · exact safe_bind (readConstraints_safe c hc.1) fun _ => safe_ok _
  · exact safe_bind (readConstraints_safe c hc.1) fun _ => readConstraintChain_safe d hc.2.1
termination_by sizeOf kids
decreasing_by subst_vars; simp +arith

theorem safe_lookup (q : MolQ) (l : List Char) : Safe (lookup q l) := by
  unfold lookup
  split
  · exact safe_ok _
  · exact safe_reader

theorem safe_addBond (q : MolQ) (i j : Nat) (k : Ast) : Safe (addBond q i j k) := by
  refine safe_ite safe_reader (safe_ite safe_reader ?_)
  split
  · split
    · exact safe_ok _
    · exact safe_notImpl
  · exact safe_notImpl

theorem labelOf_str (n : Nat) (s : List Char) : labelOf (.node n [.str s]) = pure s := rfl
theorem child1_one (n : Nat) (x : Ast) : child1 (.node n [x]) = pure x := rfl

theorem safe_labelOf {n : Nat} {c : List Ast} (h : Conf enhanced (.node n c)) (h1 : OneStr enhanced n) : Safe (labelOf (.node n c)) := by
  obtain ⟨s, _, rfl⟩ := conf_oneStr h h1
  exact safe_ok _
theorem safe_child1 {n : Nat} {c : List Ast} (h : Conf enhanced (.node n c)) (h1 : OneStr enhanced n) : Safe (child1 (.node n c)) := by
  obtain ⟨s, _, rfl⟩ := conf_oneStr h h1
  exact safe_ok _

theorem readAtom_safe (kids : List Ast) (q : MolQ) (h : Conf enhanced (.node rAtom kids)) : Safe (readAtom kids q) := by
  obtain ⟨hk, hc⟩ := conf_fit h rk_Atom
  kids_shapes hk
  rcases hk with ⟨_, _, rfl, ⟨t, rfl⟩, _, _, rfl, ⟨l, rfl⟩, rfl⟩ | ⟨_, _, rfl, ⟨t, rfl⟩, _, _, rfl, ⟨l, rfl⟩, _, _, rfl, ⟨c, rfl⟩, rfl⟩ <;>
    refine safe_bind (readAtomType_safe t hc.1) fun _ => safe_bind (safe_labelOf hc.2.1 one_AtomLabel) fun _ => ?_
  · exact safe_ok _
  · exact safe_bind (readConstraintChain_safe c hc.2.2.1) fun _ => safe_ok _

theorem readBondedAtom_safe (kids : List Ast) (q : MolQ) (h : Conf enhanced (.node rBondedAtom kids)) :
    Safe (readBondedAtom kids q) := by
  obtain ⟨hk, hc⟩ := conf_fit h rk_BondedAtom
  kids_shapes hk
  rcases hk with ⟨_, _, rfl, ⟨t, rfl⟩, _, _, rfl, ⟨l, rfl⟩, _, _, rfl, ⟨b, rfl⟩, _, _, rfl, ⟨l2, rfl⟩, rfl⟩ |
    ⟨_, _, rfl, ⟨t, rfl⟩, _, _, rfl, ⟨l, rfl⟩, _, _, rfl, ⟨b, rfl⟩, _, _, rfl, ⟨l2, rfl⟩, _, _, rfl, ⟨c, rfl⟩, rfl⟩ <;>
    refine safe_bind (readAtomType_safe t hc.1) fun _ => safe_bind (safe_labelOf hc.2.1 one_AtomLabel) fun _ =>
      safe_bind (safe_child1 hc.2.2.1 one_BondType) fun _ => safe_bind (safe_labelOf hc.2.2.2.1 one_AtomLabel) fun _ =>
      safe_bind (safe_lookup _ _) fun _ => safe_bind (safe_addBond _ _ _ _) fun _ => ?_
  · exact safe_ok _
  · exact safe_bind (readConstraintChain_safe c hc.2.2.2.2.1) fun _ => safe_ok _

theorem readRingBond_safe (kids : List Ast) (q : MolQ) (h : Conf enhanced (.node rRingBond kids)) :
    Safe (readRingBond kids q) := by
  obtain ⟨hk, hc⟩ := conf_fit h rk_RingBond
  kids_shapes hk
  obtain ⟨_, _, rfl, ⟨l, rfl⟩, _, _, rfl, ⟨b, rfl⟩, _, _, rfl, ⟨l2, rfl⟩, rfl⟩ := hk
  exact safe_bind (safe_labelOf hc.1 one_AtomLabel) fun _ => safe_bind (safe_lookup _ _) fun _ =>
    safe_bind (safe_child1 hc.2.1 one_BondType) fun _ => safe_bind (safe_labelOf hc.2.2.1 one_AtomLabel) fun _ =>
    safe_bind (safe_lookup _ _) fun _ => safe_addBond _ _ _ _

theorem readStereo_safe (kids : List Ast) (q : MolQ) (h : Conf enhanced (.node rStereoDoubleBond kids)) :
    Safe (readStereo kids q) := by
  obtain ⟨hk, hc⟩ := conf_fit h rk_Stereo
  kids_shapes hk
  rcases hk with ⟨_, _, rfl, ⟨l1, rfl⟩, _, _, rfl, ⟨t, rfl⟩, _, _, rfl, ⟨l2, rfl⟩, _, _, rfl, ⟨l3, rfl⟩, _, _, rfl, ⟨l4, rfl⟩, rfl⟩ |
    ⟨_, _, rfl, ⟨l1, rfl⟩, _, _, rfl, ⟨b, rfl⟩, _, _, rfl, ⟨t, rfl⟩, _, _, rfl, ⟨l2, rfl⟩, _, _, rfl, ⟨l3, rfl⟩, _, _, rfl, ⟨l4, rfl⟩, rfl⟩
  all_goals
    obtain ⟨hl1, hc⟩ := hc
    refine safe_bind (safe_labelOf hl1 one_AtomLabel) fun _ => safe_bind (safe_lookup _ _) fun _ => ?_
  case' inl => rw [readBoolean_other (by decide), bind_pure_eq]
  case' inr =>
    obtain ⟨hb, hc⟩ := hc
    refine readBoolean_bind_safe hb ?_
  -- both shapes go on with `[type, label, label, label]`
  all_goals
    refine safe_bind (safe_child1 hc.1 one_StereoType) fun _ => safe_guard safe_notImpl <|
      safe_bind (safe_labelOf hc.2.1 one_AtomLabel) fun _ => safe_bind (safe_lookup _ _) fun _ =>
      safe_bind (safe_labelOf hc.2.2.1 one_AtomLabel) fun _ => safe_bind (safe_lookup _ _) fun _ =>
      safe_bind (safe_labelOf hc.2.2.2.1 one_AtomLabel) fun _ => safe_bind (safe_lookup _ _) fun _ => ?_
    split
    · exact safe_reader
    · exact safe_guard safe_reader (safe_ite safe_reader (safe_ite safe_reader (safe_ite safe_reader (safe_ok _))))

theorem readAtomChain_safe (kids : List Ast) (q : MolQ) (h : Conf enhanced (.node rAtomChain kids)) :
    Safe (readAtomChain kids q) := by
  obtain ⟨hk, hc⟩ := conf_fit h rk_AtomChain
  kids_shapes hk
  rcases hk with ⟨_, _, rfl, ⟨c, rfl⟩, rfl⟩ | ⟨_, _, rfl, ⟨c, rfl⟩, _, _, rfl, ⟨d, rfl⟩, rfl⟩ | ⟨_, _, rfl, ⟨c, rfl⟩, rfl⟩ |
    ⟨_, _, rfl, ⟨c, rfl⟩, _, _, rfl, ⟨d, rfl⟩, rfl⟩ | ⟨_, _, rfl, ⟨c, rfl⟩, rfl⟩ | ⟨_, _, rfl, ⟨c, rfl⟩, _, _, rfl, ⟨d, rfl⟩, rfl⟩ <;>
    rw [readAtomChain]
  · exact safe_bind (readBondedAtom_safe c q hc.1) fun _ => safe_ok _
  · exact safe_bind (readBondedAtom_safe c q hc.1) fun q' => readAtomChain_safe d q' hc.2.1
  · exact safe_bind (readRingBond_safe c q hc.1) fun _ => safe_ok _
  · exact safe_bind (readRingBond_safe c q hc.1) fun q' => readAtomChain_safe d q' hc.2.1
  · exact safe_bind (readStereo_safe c q hc.1) fun _ => safe_ok _
  · exact safe_bind (readStereo_safe c q hc.1) fun q' => readAtomChain_safe d q' hc.2.1
termination_by sizeOf kids
decreasing_by all_goals (subst_vars; simp +arith)

theorem readMolQuery_safe (kids : List Ast) (q : MolQ) (h : Conf enhanced (.node rMolQuery kids)) :
    Safe (readMolQuery kids q) := by
  obtain ⟨hk, hc⟩ := conf_fit h rk_MolQuery
  kids_shapes hk
  rcases hk with ⟨_, _, rfl, ⟨c, rfl⟩, rfl⟩ | ⟨_, _, rfl, ⟨c, rfl⟩, _, _, rfl, ⟨d, rfl⟩, rfl⟩
  · exact safe_bind (readAtom_safe c q hc.1) fun _ => safe_ok _
  · exact safe_bind (readAtom_safe c q hc.1) fun q' => readAtomChain_safe d q' hc.2.1

/-- whatever the prefix words are, only the last test decides -/
theorem readPrefix_safe (ks : List Ast) : Safe (readPrefix ks) :=
  safe_ite (safe_ite (safe_ok _) safe_notImpl) (safe_ok _)

/-- `Fragment` and `ReactantQuery` nodes: a prefix, a name, a `MolQuery` -/
theorem readMol_safe {n nn : Nat} {kids : List Ast} (h : Conf enhanced (.node n kids))
    (hr : ruleKinds enhanced n = [[.node rPrefix, .node nn, .node rMolQuery]]) (h1 : OneStr enhanced nn)
    (hnn : nn = rFragmentName ∨ nn = rReactantName ∨ nn = rGroupName) : Safe (readMol kids) := by
  obtain ⟨hk, hc⟩ := conf_fit h hr
  kids_shapes hk
  obtain ⟨_, _, rfl, ⟨p, rfl⟩, _, _, rfl, ⟨nm, rfl⟩, _, _, rfl, ⟨m, rfl⟩, rfl⟩ := hk
  obtain ⟨s, _, rfl⟩ := conf_oneStr hc.2.1 h1
  -- `hnn` makes the name guard true: `assert self.tree[1][0].name in [...]` of `MolQueryReader.Read`
  simp only [readMol, if_true, hnn]
  exact safe_guard (readPrefix_safe p) (readMolQuery_safe m _ hc.2.2.1)

/-! ## ReactionQueryRead -/

theorem safe_locate (s : Rxn) (l : List Char) : Safe (locate s l) := by
  unfold locate
  split; · exact safe_reader
  split; · exact safe_reader
  split; · exact safe_reader
  split; · exact safe_reader
  exact safe_ok _
theorem safe_globalIdx (s : Rxn) (l : List Char) : Safe (globalIdx s l) := by
  unfold globalIdx
  split
  · exact safe_ok _
  · exact safe_reader
theorem safe_rxnBondType (k : Ast) : Safe (rxnBondType k) := by
  simp only [rxnBondType, apply_ite Safe, safe_ok, safe_reader, ite_self]

theorem readLabelMapping_safe (kids : List Ast) (m : List (List Char × List Char)) (h : Conf enhanced (.node rLabelMapping kids)) :
    Safe (readLabelMapping kids m) := by
  obtain ⟨hk, hc⟩ := conf_fit h rk_LabelMapping
  kids_shapes hk
  rcases hk with ⟨_, _, rfl, ⟨a, rfl⟩, _, _, rfl, ⟨b, rfl⟩, rfl⟩ | ⟨_, _, rfl, ⟨a, rfl⟩, _, _, rfl, ⟨b, rfl⟩, _, _, rfl, ⟨c, rfl⟩, rfl⟩ <;>
    obtain ⟨sa, _, rfl⟩ := conf_oneStr hc.1 one_AtomLabel <;>
    obtain ⟨sb, _, rfl⟩ := conf_oneStr hc.2.1 one_AtomLabel <;>
    rw [readLabelMapping]
  · exact safe_ok _
  · exact readLabelMapping_safe c _ hc.2.2.1
termination_by sizeOf kids
decreasing_by subst_vars; simp +arith

theorem readReactantGroup_safe (kids : List Ast) (h : Conf enhanced (.node rReactantGroup kids)) : Safe (readReactantGroup kids) := by
  obtain ⟨hk, hc⟩ := conf_fit h rk_ReactantGroup
  kids_shapes hk
  obtain ⟨_, _, rfl, ⟨a, rfl⟩, _, _, rfl, ⟨g, rfl⟩, _, _, rfl, ⟨c, rfl⟩, rfl⟩ := hk
  obtain ⟨sg, _, rfl⟩ := conf_oneStr hc.2.1 one_GroupName
  exact safe_bind (readLabelMapping_safe c [] hc.2.2.1) fun _ => safe_reader

theorem readDuplicates_safe (kids : List Ast) (s : Rxn) (h : Conf enhanced (.node rDuplicates kids)) : Safe (readDuplicates kids s) := by
  obtain ⟨hk, hc⟩ := conf_fit h rk_Duplicates
  kids_shapes hk
  obtain ⟨_, _, rfl, ⟨a, rfl⟩, _, _, rfl, ⟨b, rfl⟩, _, _, rfl, ⟨c, rfl⟩, rfl⟩ := hk
  obtain ⟨sa, _, rfl⟩ := conf_oneStr hc.1 one_ReactantName
  obtain ⟨sb, _, rfl⟩ := conf_oneStr hc.2.1 one_ReactantName
  refine safe_bind (readLabelMapping_safe c [] hc.2.2.1) fun _ => ?_
  dsimp only
  split
  · exact safe_reader
  · refine safe_guard safe_reader ?_
    split
    · exact safe_reader
    · exact safe_ok _

theorem readReactants_safe (kids : List Ast) (s : Rxn) (h : Conf enhanced (.node rReactants kids)) : Safe (readReactants kids s) := by
  obtain ⟨hk, hc⟩ := conf_fit h rk_Reactants
  kids_shapes hk
  rcases hk with ⟨_, _, rfl, ⟨c, rfl⟩, rfl⟩ | ⟨_, _, rfl, ⟨c, rfl⟩, _, _, rfl, ⟨d, rfl⟩, rfl⟩ | ⟨_, _, rfl, ⟨c, rfl⟩, rfl⟩ |
    ⟨_, _, rfl, ⟨c, rfl⟩, _, _, rfl, ⟨d, rfl⟩, rfl⟩ | ⟨_, _, rfl, ⟨c, rfl⟩, rfl⟩ | ⟨_, _, rfl, ⟨c, rfl⟩, _, _, rfl, ⟨d, rfl⟩, rfl⟩ <;>
    rw [readReactants]
  · exact safe_bind (safe_bind (readMol_safe hc.1 rk_ReactantQuery one_ReactantName (.inr (.inl rfl))) fun _ => safe_ok _) fun _ => safe_ok _
  · exact safe_bind (safe_bind (readMol_safe hc.1 rk_ReactantQuery one_ReactantName (.inr (.inl rfl))) fun _ => safe_ok _) fun s' =>
      readReactants_safe d s' hc.2.1
  · exact safe_bind (safe_bind (readReactantGroup_safe c hc.1) fun _ => safe_ok _) fun _ => safe_ok _
  · exact safe_bind (safe_bind (readReactantGroup_safe c hc.1) fun _ => safe_ok _) fun s' => readReactants_safe d s' hc.2.1
  · exact safe_bind (readDuplicates_safe c s hc.1) fun _ => safe_ok _
  · exact safe_bind (readDuplicates_safe c s hc.1) fun s' => readReactants_safe d s' hc.2.1
termination_by sizeOf kids
decreasing_by all_goals (subst_vars; simp +arith)

theorem readBondForm_safe (kids : List Ast) (s : Rxn) (h : Conf enhanced (.node rBondForm kids)) : Safe (readBondForm kids s) := by
  obtain ⟨hk, hc⟩ := conf_fit h rk_BondForm
  kids_shapes hk
  rcases hk with ⟨_, _, rfl, ⟨a, rfl⟩, _, _, rfl, ⟨b, rfl⟩, rfl⟩ | ⟨_, _, rfl, ⟨t, rfl⟩, _, _, rfl, ⟨a, rfl⟩, _, _, rfl, ⟨b, rfl⟩, rfl⟩
  -- a bond type in front is read first; then both shapes go on with the two labels
  case' inl => simp +decide only [readBondForm, if_false]
  case' inr =>
    obtain ⟨ht, hc⟩ := hc
    obtain ⟨st, _, rfl⟩ := conf_oneStr ht one_BondType
    simp only [readBondForm, if_true, bind_assoc]
    refine safe_bind (safe_rxnBondType _) fun _ => ?_
  all_goals
    rw [bind_pure_eq]
    exact safe_bind (safe_labelOf hc.1 one_AtomLabel) fun _ => safe_bind (safe_globalIdx _ _) fun _ =>
      safe_bind (safe_labelOf hc.2.1 one_AtomLabel) fun _ => safe_bind (safe_globalIdx _ _) fun _ => safe_ok _

theorem readBondBreak_safe (kids : List Ast) (s : Rxn) (h : Conf enhanced (.node rBondBreak kids)) : Safe (readBondBreak kids s) := by
  obtain ⟨hk, hc⟩ := conf_fit h rk_BondBreak
  kids_shapes hk
  rcases hk with ⟨_, _, rfl, ⟨a, rfl⟩, _, _, rfl, ⟨b, rfl⟩, rfl⟩ | ⟨_, _, rfl, ⟨t, rfl⟩, _, _, rfl, ⟨a, rfl⟩, _, _, rfl, ⟨b, rfl⟩, rfl⟩
  case' inl => simp +decide only [readBondBreak, if_false]
  case' inr =>
    obtain ⟨ht, hc⟩ := hc
    obtain ⟨st, _, rfl⟩ := conf_oneStr ht one_BondType
    simp only [readBondBreak, if_true, bind_assoc]
    refine safe_bind (safe_rxnBondType _) fun _ => ?_
  all_goals
    rw [bind_pure_eq]
    refine safe_bind (safe_labelOf hc.1 one_AtomLabel) fun _ => safe_bind (safe_locate _ _) fun _ =>
      safe_bind (safe_labelOf hc.2.1 one_AtomLabel) fun _ => safe_bind (safe_locate _ _) fun _ => safe_guard safe_reader ?_
    split
    · exact safe_reader
    · exact safe_guard safe_reader (safe_guard safe_reader (safe_ok _))

theorem readBondModify_safe (kids : List Ast) (s : Rxn) (h : Conf enhanced (.node rBondModify kids)) : Safe (readBondModify kids s) := by
  obtain ⟨hk, hc⟩ := conf_fit h rk_BondModify
  kids_shapes hk
  obtain ⟨_, _, rfl, ⟨a, rfl⟩, _, _, rfl, ⟨b, rfl⟩, _, _, rfl, ⟨t, rfl⟩, rfl⟩ := hk
  refine safe_bind (safe_labelOf hc.1 one_AtomLabel) fun _ => safe_bind (safe_locate _ _) fun _ =>
    safe_bind (safe_labelOf hc.2.1 one_AtomLabel) fun _ => safe_bind (safe_locate _ _) fun _ => safe_guard safe_reader ?_
  split
  · exact safe_reader
  · split
    · exact safe_reader
    · exact safe_bind (safe_child1 hc.2.2.1 one_BondType) fun _ => safe_bind (safe_rxnBondType _) fun _ => safe_ok _

theorem readBondOrder_safe (n : Nat) (d : Int) (kids : List Ast) (s : Rxn) (h : Conf enhanced (.node n kids))
    (hr : ruleKinds enhanced n = [[.node rAtomLabel, .node rAtomLabel]]) : Safe (readBondOrder d kids s) := by
  obtain ⟨hk, hc⟩ := conf_fit h hr
  kids_shapes hk
  obtain ⟨_, _, rfl, ⟨a, rfl⟩, _, _, rfl, ⟨b, rfl⟩, rfl⟩ := hk
  exact safe_bind (safe_labelOf hc.1 one_AtomLabel) fun _ => safe_bind (safe_globalIdx _ _) fun _ =>
    safe_bind (safe_labelOf hc.2.1 one_AtomLabel) fun _ => safe_bind (safe_globalIdx _ _) fun _ => safe_ok _

theorem readAtomStep_safe (n : Nat) (d : Int) (kids : List Ast) (s : Rxn) (h : Conf enhanced (.node n kids))
    (hr : ruleKinds enhanced n = [[.node rAtomLabel]]) : Safe (readAtomStep d kids s) := by
  obtain ⟨hk, hc⟩ := conf_fit h hr
  kids_shapes hk
  obtain ⟨_, _, rfl, ⟨a, rfl⟩, rfl⟩ := hk
  exact safe_bind (safe_labelOf hc.1 one_AtomLabel) fun _ => safe_bind (safe_locate _ _) fun _ => safe_ok _

theorem readRadicalModify_safe (kids : List Ast) (s : Rxn) (h : Conf enhanced (.node rRadicalModify kids)) :
    Safe (readRadicalModify kids s) := by
  obtain ⟨hk, hc⟩ := conf_fit h rk_RadicalModify
  kids_shapes hk
  obtain ⟨_, _, rfl, ⟨a, rfl⟩, _, _, rfl, ⟨v, rfl⟩, rfl⟩ := hk
  refine safe_bind (safe_labelOf hc.1 one_AtomLabel) fun _ => safe_bind (safe_locate _ _) fun _ => ?_
  split  -- the tuple `locate` returned (one alternative), then the radical count looked up in it
  split
  · exact safe_ok _
  · exact safe_reader

theorem readAtomTypeModify_safe (kids : List Ast) (s : Rxn) (h : Conf enhanced (.node rAtomTypeModify kids)) :
    Safe (readAtomTypeModify kids s) := by
  obtain ⟨hk, hc⟩ := conf_fit h rk_AtomTypeModify
  kids_shapes hk
  obtain ⟨_, _, rfl, ⟨a, rfl⟩, _, _, rfl, ⟨t, rfl⟩, rfl⟩ := hk
  refine safe_bind (safe_labelOf hc.1 one_AtomLabel) fun _ => safe_bind (safe_locate _ _) fun _ => ?_
  obtain ⟨hk, ht⟩ := conf_fit hc.2.1 rk_AtomType
  kids_shapes hk
  rcases hk with ⟨_, _, rfl, ⟨c, rfl⟩, rfl⟩ | ⟨_, _, rfl, ⟨c, rfl⟩, _, _, rfl, ⟨_, rfl⟩, rfl⟩ | ⟨_, _, rfl, ⟨_, rfl⟩, _, _, rfl, ⟨_, rfl⟩, rfl⟩ |
    ⟨_, _, rfl, ⟨_, rfl⟩, _, _, rfl, ⟨_, rfl⟩, _, _, rfl, ⟨_, rfl⟩, rfl⟩
  · obtain ⟨_ | _, hx, rfl⟩ := conf_oneStr ht.1 one_Symbols
    · exact absurd rfl hx
    · exact safe_notImpl
  · obtain ⟨_ | _, hx, rfl⟩ := conf_oneStr ht.1 one_Symbols
    · exact absurd rfl hx
    · exact safe_notImpl
  · exact safe_notImpl
  · exact safe_notImpl

theorem readChange_safe (kids : List Ast) (s : Rxn) (h : Conf enhanced (.node rConnectivityChange kids)) : Safe (readChange kids s) := by
  obtain ⟨hk, hc⟩ := conf_fit h rk_Change
  kids_shapes hk
  rcases hk with hk | hk | hk | hk | hk | hk | hk | hk | hk | hk | hk <;> obtain ⟨_, _, rfl, ⟨c, rfl⟩, rfl⟩ := hk
  · exact readBondForm_safe c s hc.1
  · exact readBondBreak_safe c s hc.1
  · exact readBondModify_safe c s hc.1
  · exact readBondOrder_safe _ _ c s hc.1 rk_BondDecrease
  · exact readBondOrder_safe _ _ c s hc.1 rk_BondIncrease
  · exact readAtomTypeModify_safe c s hc.1
  · exact readRadicalModify_safe c s hc.1
  · exact readAtomStep_safe _ _ c s hc.1 rk_RadicalIncrease
  · exact readAtomStep_safe _ _ c s hc.1 rk_RadicalDecrease
  · exact readAtomStep_safe _ _ c s hc.1 rk_ChargeIncrease
  · exact readAtomStep_safe _ _ c s hc.1 rk_ChargeDecrease

theorem readTransChain_safe (kids : List Ast) (s : Rxn) (h : Conf enhanced (.node rTransformationChain kids)) :
    Safe (readTransChain kids s) := by
  obtain ⟨hk, hc⟩ := conf_fit h rk_TransChain
  kids_shapes hk
  rcases hk with ⟨_, _, rfl, ⟨c, rfl⟩, rfl⟩ | ⟨_, _, rfl, ⟨c, rfl⟩, _, _, rfl, ⟨d, rfl⟩, rfl⟩ <;> rw [readTransChain]
  · exact safe_bind (readChange_safe c s hc.1) fun _ => safe_ok _
  · exact safe_bind (readChange_safe c s hc.1) fun s' => readTransChain_safe d s' hc.2.1
termination_by sizeOf kids
decreasing_by subst_vars; simp +arith

theorem readRule_safe (kids : List Ast) (h : Conf enhanced (.node rReactionRule kids)) : Safe (readRule kids) := by
  obtain ⟨hk, hc⟩ := conf_fit h rk_Rule
  kids_shapes hk
  rcases hk with ⟨_, _, rfl, ⟨a, rfl⟩, _, _, rfl, ⟨r, rfl⟩, _, _, rfl, ⟨t, rfl⟩, rfl⟩ |
    ⟨_, _, rfl, ⟨a, rfl⟩, _, _, rfl, ⟨r, rfl⟩, _, _, rfl, ⟨c, rfl⟩, _, _, rfl, ⟨t, rfl⟩, rfl⟩ <;>
    obtain ⟨sa, _, rfl⟩ := conf_oneStr hc.1 one_ReactionName <;>
    refine safe_bind (readReactants_safe r _ hc.2.1) fun s' => ?_
  · exact safe_bind (readTransChain_safe t s' hc.2.2.1) fun _ => safe_ite (safe_ok _) safe_reader
  · exact safe_notImpl

/-- **no unexpected shape**: a tree that conforms to `enhanced_grammar` and is a `RINGInput` node is read
to a query, a RINGReaderError or a NotImplementedError -/
theorem readAst_safe (t : Ast) (hc : Conf enhanced t) (hk : kindOf t = .node rRINGInput) : readAst t ≠ .error .shape := by
  obtain ⟨kids, rfl⟩ := kindOf_node.mp hk
  obtain ⟨hk, hd⟩ := conf_fit hc rk_Input
  kids_shapes hk
  rcases hk with ⟨_, _, rfl, ⟨c, rfl⟩, rfl⟩ | ⟨_, _, rfl, ⟨c, rfl⟩, rfl⟩
  · exact safe_bind (readMol_safe hd.1 rk_Fragment one_FragmentName (.inl rfl)) fun _ => safe_ok _
  · exact safe_bind (readRule_safe c hd.1) fun _ => safe_ok _

end PGA.Ring
