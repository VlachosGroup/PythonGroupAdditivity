import PGA.Model.Scheme
import PGA.Proofs.ListUtil
import Mathlib.Tactic.Ring
import Mathlib.Algebra.BigOperators.Group.List.Basic
import Mathlib.Tactic.Linarith
import Mathlib.Algebra.Order.Field.Rat
/-! Helper lemmas for C02: the decomposition logic above the matcher. -/
namespace PGA.Scheme
open PGA

/-! ### centre assignment -/

/-- number of centre patterns (occurrences in the scheme's list) having `i` as first atom of a match -/
def cnt (ps : List CentrePat) (i : Nat) : Nat := (ps.filter fun p => decide (i ∈ firstAtoms p.ms)).length

/-- the names given by the first pattern in the list that matches `i` -/
def firstMatch (ps : List CentrePat) (i : Nat) : Option (String × String) :=
  (ps.find? fun p => decide (i ∈ firstAtoms p.ms)).map fun p => (p.center, p.periph)

theorem mem_firstAtoms (ms : List Match) (j : Nat) : j ∈ firstAtoms ms ↔ ∃ m ∈ ms, m.head? = some j := by
  unfold firstAtoms
  rw [mem_uniq, List.mem_filterMap]

theorem firstAtoms_lt (ms : List Match) (n : Nat) (h : ∀ m ∈ ms, ∀ j ∈ m, j < n) : ∀ j ∈ firstAtoms ms, j < n := by
  intro j hj
  obtain ⟨m, hm, hh⟩ := (mem_firstAtoms ms j).mp hj
  exact h m hm j (List.mem_of_mem_head? hh)

theorem cnt_cons (p : CentrePat) (ps : List CentrePat) (i : Nat) :
    cnt (p :: ps) i = (if i ∈ firstAtoms p.ms then 1 else 0) + cnt ps i := by
  unfold cnt
  by_cases h : i ∈ firstAtoms p.ms <;> simp [h, Nat.add_comm]

theorem firstMatch_cons (p : CentrePat) (ps : List CentrePat) (i : Nat) :
    firstMatch (p :: ps) i = if i ∈ firstAtoms p.ms then some (p.center, p.periph) else firstMatch ps i := by
  unfold firstMatch
  by_cases h : i ∈ firstAtoms p.ms <;> simp [h]

theorem firstMatch_none_iff (ps : List CentrePat) (i : Nat) : firstMatch ps i = none ↔ cnt ps i = 0 := by
  induction ps with
  | nil => simp [firstMatch, cnt]
  | cons p ps ih =>
    rw [cnt_cons, firstMatch_cons]
    split <;> simp [ih]

theorem get?_cons (a : Assign) (i j : Nat) (v : String × String) :
    Assign.get? ((i, v) :: a) j = if i = j then some v else a.get? j := by
  unfold Assign.get?
  by_cases h : i = j <;> simp [h]

theorem get?_nil (i : Nat) : Assign.get? [] i = none := rfl

theorem assignOne_spec (c p : String) (is : List Nat) (hnd : is.Nodup) (a : Assign) :
    (∃ a', assignOne c p is a = .ok a') ↔ ∀ i ∈ is, a.get? i = none := by
  induction is generalizing a with
  | nil => simp [assignOne]
  | cons i is ih =>
    obtain ⟨hni, hnd'⟩ := List.nodup_cons.mp hnd
    rw [assignOne, List.forall_mem_cons]
    cases hg : a.get? i with
    | some v => simp
    | none =>
      simp only [ih hnd', get?_cons, true_and]
      refine forall₂_congr fun j hj => ?_
      rw [if_neg (fun e : i = j => hni (e ▸ hj))]

theorem assignOne_get (c p : String) (is : List Nat) (a a' : Assign) (h : assignOne c p is a = .ok a') (j : Nat) :
    a'.get? j = if j ∈ is then some (c, p) else a.get? j := by
  induction is generalizing a with
  | nil => cases h; simp
  | cons i is ih =>
    rw [assignOne] at h
    cases hg : a.get? i with
    | some v => simp [hg] at h
    | none =>
      simp only [hg] at h
      rw [ih _ h, get?_cons]
      by_cases hj : j ∈ is <;> simp only [List.mem_cons, hj, if_true, if_false, or_true, or_false, eq_comm]

/-- one pattern in the claim count of an atom claimed `n` times by later patterns and assigned `g` so far: the pattern
may claim it (`F`) only if it is unassigned -/
theorem claim_step {α : Type} (F : Prop) [Decidable F] (n : Nat) (g : Option α) (x : α) :
    (F → g = none) ∧ n + (if (if F then some x else g).isSome then 1 else 0) ≤ 1 ↔
      (if F then 1 else 0) + n + (if g.isSome then 1 else 0) ≤ 1 := by
  by_cases hF : F
  · cases g <;> simp only [hF, if_true, Option.isSome_some, Option.isSome_none, forall_const, true_and, reduceCtorEq,
      false_and, Bool.false_eq_true, if_false, false_iff] <;> omega
  · simp only [hF, if_false, false_implies, true_and, Nat.zero_add]

/-- the loop over the patterns succeeds exactly when no atom is claimed twice, an earlier assignment counting as a claim -/
theorem assignPatterns_ok_iff (ps : List CentrePat) (a : Assign) :
    (∃ a', assignPatterns ps a = .ok a') ↔ ∀ i, cnt ps i + (if (a.get? i).isSome then 1 else 0) ≤ 1 := by
  induction ps generalizing a with
  | nil => exact ⟨fun _ i => by show 0 + _ ≤ 1; split <;> decide, fun _ => ⟨a, rfl⟩⟩
  | cons p ps ih =>
    have step : (∃ a', assignPatterns (p :: ps) a = .ok a') ↔
        ∃ a1, assignOne p.center p.periph (firstAtoms p.ms) a = .ok a1 ∧ ∃ a', assignPatterns ps a1 = .ok a' := by
      rw [assignPatterns]
      cases assignOne p.center p.periph (firstAtoms p.ms) a <;>
        simp only [reduceCtorEq, false_and, exists_false, Except.ok.injEq, exists_eq_left']
    rw [step]
    refine Iff.trans ?_ (forall_congr' fun i => (cnt_cons p ps i ▸ claim_step _ _ _ (p.center, p.periph)))
    rw [forall_and, ← assignOne_spec p.center p.periph (firstAtoms p.ms) (nodup_uniq _) a]
    constructor
    · rintro ⟨a1, h1, h⟩
      exact ⟨⟨a1, h1⟩, fun i => assignOne_get _ _ _ _ _ h1 i ▸ (ih a1).mp h i⟩
    · rintro ⟨⟨a1, h1⟩, H⟩
      exact ⟨a1, h1, (ih a1).mpr fun i => assignOne_get _ _ _ _ _ h1 i ▸ H i⟩

/-- on success every atom carries the names of the (first = only) pattern claiming it, or what it had before -/
theorem assignPatterns_get (ps : List CentrePat) (a a' : Assign) (h : assignPatterns ps a = .ok a') (j : Nat) :
    a'.get? j = (firstMatch ps j).or (a.get? j) := by
  induction ps generalizing a with
  | nil => cases h; rfl
  | cons p ps ih =>
    rw [assignPatterns] at h
    cases h1 : assignOne p.center p.periph (firstAtoms p.ms) a with
    | error e => rw [h1] at h; cases h
    | ok a1 =>
      rw [h1] at h
      have hinv := (assignPatterns_ok_iff ps a1).mp ⟨a', h⟩ j
      rw [assignOne_get _ _ _ _ _ h1] at hinv
      rw [ih a1 h, assignOne_get _ _ _ _ _ h1, firstMatch_cons]
      by_cases hm : j ∈ firstAtoms p.ms
      · -- an atom this pattern claims is claimed by no later one
        simp only [hm, if_true, Option.isSome_some] at hinv
        rw [if_pos hm, if_pos hm, (firstMatch_none_iff ps j).mpr (by omega)]; rfl
      · rw [if_neg hm, if_neg hm]

/-- the only error is the pattern-match error: to fail is not to succeed -/
theorem error_iff_not_ok {α : Type} (x : Except Err α) : x = .error .patternMatch ↔ ¬ ∃ u, x = .ok u := by
  cases x with
  | error e => cases e; exact ⟨fun _ ⟨_, h⟩ => (nomatch h), fun _ => rfl⟩
  | ok u => exact ⟨fun h => (nomatch h), fun h => (h ⟨u, rfl⟩).elim⟩

/-- the decomposition succeeds exactly when centre classification does (never a partial result) -/
theorem getDescriptors_ok_iff (inp : Input) : (∃ r, getDescriptors inp = .ok r) ↔ ∃ a, assignCentres inp = .ok a := by
  unfold getDescriptors
  cases assignCentres inp with
  | error e => exact ⟨fun ⟨_, h⟩ => (nomatch h), fun ⟨_, h⟩ => (nomatch h)⟩
  | ok a => exact ⟨fun _ => ⟨a, rfl⟩, fun _ => ⟨_, rfl⟩⟩

/-- `_AssignCenterPattern` succeeds exactly when no atom index is matched by two centre patterns and every atom of
the molecule is matched by one -/
theorem assignCentres_ok_iff (inp : Input) :
    (∃ a, assignCentres inp = .ok a) ↔ (∀ i, cnt inp.centres i ≤ 1) ∧ (∀ i < inp.n, cnt inp.centres i = 1) := by
  have hinv : (∃ a1, assignPatterns inp.centres [] = .ok a1) ↔ ∀ i, cnt inp.centres i ≤ 1 :=
    assignPatterns_ok_iff inp.centres []
  unfold assignCentres
  rw [← hinv]
  cases h1 : assignPatterns inp.centres [] with
  | error e => simp only [reduceCtorEq, exists_false, false_and]
  | ok a1 =>
    have hle := hinv.mp ⟨a1, h1⟩
    have hsome : ∀ i, (a1.get? i).isSome ↔ cnt inp.centres i = 1 := fun i => by
      rw [assignPatterns_get _ _ _ h1 i, get?_nil, Option.or_none, ← Option.ne_none_iff_isSome, Ne, firstMatch_none_iff]
      have := hle i; omega
    simp only [List.all_eq_true, List.mem_range, hsome, Except.ok.injEq, exists_eq', true_and]
    constructor
    · rintro ⟨a, h⟩; split at h
      · assumption
      · cases h
    · exact fun h => ⟨a1, if_pos h⟩

theorem assignCentres_get (inp : Input) (a : Assign) (h : assignCentres inp = .ok a) (j : Nat) :
    a.get? j = firstMatch inp.centres j := by
  unfold assignCentres at h
  cases h1 : assignPatterns inp.centres [] with
  | error e => simp [h1] at h
  | ok a1 =>
    simp only [h1] at h
    split at h
    · cases h; rw [assignPatterns_get _ _ _ h1 j, get?_nil, Option.or_none]
    · cases h

/-! ### dictionaries -/

def Counts.keys (c : Counts) : List String := c.map (·.1)

theorem Counts.keys_cons (k : String) (v : Rat) (c : Counts) : Counts.keys ((k, v) :: c) = k :: Counts.keys c := rfl

theorem Counts.get_add (c : Counts) (k k' : String) (v : Rat) :
    (c.add k v).get k' = c.get k' + if k = k' then v else 0 := by
  induction c with
  | nil => simp [Counts.add, Counts.get]
  | cons p c ih =>
    obtain ⟨k0, v0⟩ := p
    unfold Counts.add
    by_cases h0 : k0 = k
    · subst h0
      by_cases hk : k0 = k'
      · subst hk; simp [Counts.get]
      · simp [Counts.get, hk]
    · simp only [h0, if_false]
      by_cases hk : k0 = k'
      · subst hk
        have : ¬ k = k0 := fun e => h0 e.symm
        simp [Counts.get, this]
      · simp [Counts.get, hk, ih]

/-- `d[k] += v` keeps the order of the keys and appends a new one -/
theorem Counts.keys_add (c : Counts) (k : String) (v : Rat) :
    Counts.keys (c.add k v) = if k ∈ Counts.keys c then Counts.keys c else Counts.keys c ++ [k] := by
  induction c with
  | nil => rfl
  | cons p c ih =>
    obtain ⟨k0, v0⟩ := p
    rw [Counts.add]
    split
    · subst k; simp [Counts.keys_cons]
    · rename_i h
      simp only [Counts.keys_cons, ih, List.mem_cons, Ne.symm h, false_or]
      split <;> rfl

theorem Counts.mem_keys_add (c : Counts) (k x : String) (v : Rat) :
    x ∈ Counts.keys (c.add k v) ↔ x = k ∨ x ∈ Counts.keys c := by
  rw [Counts.keys_add]
  split
  · exact ⟨Or.inr, fun h => h.elim (fun e => e ▸ ‹_›) id⟩
  · rw [List.mem_append, List.mem_singleton, or_comm]

theorem Counts.nodup_add (c : Counts) (k : String) (v : Rat) (h : (Counts.keys c).Nodup) :
    (Counts.keys (c.add k v)).Nodup := by
  rw [Counts.keys_add]
  split
  · exact h
  · exact List.perm_append_comm.nodup_iff.mp (List.nodup_cons.mpr ⟨‹_›, h⟩)

theorem Counts.get_of_not_mem (c : Counts) (k : String) (h : k ∉ Counts.keys c) : c.get k = 0 := by
  induction c with
  | nil => rfl
  | cons p c ih =>
    obtain ⟨k0, v0⟩ := p
    rw [Counts.keys_cons, List.mem_cons, not_or] at h
    rw [Counts.get, if_neg (Ne.symm h.1), ih h.2]

theorem Counts.get_pop (c : Counts) (k k' : String) (h : (Counts.keys c).Nodup) :
    (c.pop k).get k' = if k = k' then 0 else c.get k' := by
  induction c with
  | nil => simp [Counts.pop, Counts.get]
  | cons p c ih =>
    obtain ⟨k0, v0⟩ := p
    have hc : (Counts.keys c).Nodup := (List.nodup_cons.mp h).2
    have hn : k0 ∉ Counts.keys c := (List.nodup_cons.mp h).1
    unfold Counts.pop
    by_cases h0 : k0 = k
    · subst h0
      by_cases hk : k0 = k'
      · subst hk; simp [Counts.get_of_not_mem c k0 hn]
      · simp [Counts.get, hk]
    · simp only [h0, if_false]
      by_cases hk : k0 = k'
      · subst hk
        have : ¬ k = k0 := fun e => h0 e.symm
        simp [Counts.get, this]
      · simp [Counts.get, hk, ih hc]

/-- `d.pop(k)` removes the key where it stands -/
theorem Counts.keys_pop (c : Counts) (k : String) : Counts.keys (c.pop k) = (Counts.keys c).erase k := by
  induction c with
  | nil => rfl
  | cons p c ih =>
    obtain ⟨k0, v0⟩ := p
    rw [Counts.pop, Counts.keys_cons, List.erase_cons]
    split
    · subst k; simp
    · rename_i h; simp [Counts.keys_cons, ih, h]

theorem Counts.nodup_pop (c : Counts) (k : String) (h : (Counts.keys c).Nodup) : (Counts.keys (c.pop k)).Nodup :=
  Counts.keys_pop c k ▸ h.erase k

theorem Counts.mem_keys_pop_iff (c : Counts) (k x : String) (h : (Counts.keys c).Nodup) :
    x ∈ Counts.keys (c.pop k) ↔ x ∈ Counts.keys c ∧ x ≠ k := by
  rw [Counts.keys_pop, h.mem_erase_iff, and_comm]


theorem Counts.get_of_mem (c : Counts) (h : (Counts.keys c).Nodup) (p : String × Rat) (hp : p ∈ c) : c.get p.1 = p.2 := by
  induction c with
  | nil => cases hp
  | cons q c ih =>
    obtain ⟨k0, v0⟩ := q
    have hc : (Counts.keys c).Nodup := (List.nodup_cons.mp h).2
    have hn : k0 ∉ Counts.keys c := (List.nodup_cons.mp h).1
    rcases List.mem_cons.mp hp with e | hp'
    · subst e; simp [Counts.get]
    · have : ¬ k0 = p.1 := by
        intro e; apply hn; rw [e]; exact List.mem_map_of_mem hp'
      simp [Counts.get, this, ih hc hp']

theorem sum_entries_eq_sum_keys (c : Counts) (h : (Counts.keys c).Nodup) (F : String → Rat → Rat) :
    (c.map fun p => F p.1 p.2).sum = ((Counts.keys c).map fun k => F k (c.get k)).sum := by
  unfold Counts.keys
  rw [List.map_map]
  congr 1
  apply List.map_congr_left
  intro p hp
  simp [Function.comp, Counts.get_of_mem c h p hp]

theorem sum_ite_eq_nodup (ks : List String) (h : ks.Nodup) (t : String) (f : String → Rat) :
    (ks.map fun k => if k = t then f k else 0).sum = if t ∈ ks then f t else 0 := by
  induction ks with
  | nil => simp
  | cons k ks ih =>
    obtain ⟨hk, hks⟩ := List.nodup_cons.mp h
    simp only [List.map_cons, List.sum_cons, ih hks, List.mem_cons]
    by_cases e : k = t
    · subst e; simp [hk]
    · have : ¬ t = k := fun h => e h.symm
      simp [e, this]

/-! ### group counting -/

/-- the count of a name after the group loop is what it was plus the number of visited atoms whose group has that name -/
theorem countGroups_get (a : Assign) (nbrs : List (List Nat)) (is : List Nat) (c : Counts) (g : String) :
    (countGroups a nbrs is c).get g = c.get g + ((is.filter fun i => decide (groupName a nbrs i = some g)).length : Rat) := by
  induction is generalizing c with
  | nil => simp [countGroups]
  | cons i is ih =>
    unfold countGroups
    cases hg : groupName a nbrs i with
    | none => simp [ih, hg]
    | some g' =>
      simp only [ih, Counts.get_add]
      by_cases e : g' = g
      · subst e; simp [hg]; ring
      · have : ¬ some g' = some g := fun h => e (Option.some.inj h)
        simp [hg, e]

theorem countGroups_nodup (a : Assign) (nbrs : List (List Nat)) (is : List Nat) (c : Counts)
    (h : (Counts.keys c).Nodup) : (Counts.keys (countGroups a nbrs is c)).Nodup := by
  induction is generalizing c with
  | nil => simpa [countGroups]
  | cons i is ih =>
    unfold countGroups
    cases groupName a nbrs i with
    | none => exact ih c h
    | some g' => exact ih _ (Counts.nodup_add c g' 1 h)

/-! ### remaps -/

/-- contribution of a target list to the name `t` when the remapped count is `n` -/
def targetSum (n : Rat) (ts : List (Rat × String)) (t : String) : Rat :=
  (ts.map fun p => if p.2 = t then n * p.1 else 0).sum

theorem applyTargets_get (n : Rat) (ts : List (Rat × String)) (c : Counts) (t : String) :
    (applyTargets n ts c).get t = c.get t + targetSum n ts t := by
  induction ts generalizing c with
  | nil => simp [applyTargets, targetSum]
  | cons p ts ih =>
    obtain ⟨coef, t'⟩ := p
    simp only [applyTargets, ih, Counts.get_add, targetSum, List.map_cons, List.sum_cons]
    ring

theorem applyTargets_nodup (n : Rat) (ts : List (Rat × String)) (c : Counts) (h : (Counts.keys c).Nodup) :
    (Counts.keys (applyTargets n ts c)).Nodup := by
  induction ts generalizing c with
  | nil => simpa [applyTargets]
  | cons p ts ih =>
    obtain ⟨coef, t'⟩ := p
    simp only [applyTargets]
    exact ih _ (Counts.nodup_add c t' _ h)

theorem applyRemaps_nodup (rm : List (String × List (Rat × String))) (ks : List String) (c : Counts)
    (h : (Counts.keys c).Nodup) : (Counts.keys (applyRemaps rm ks c)).Nodup := by
  induction ks generalizing c with
  | nil => simpa [applyRemaps]
  | cons k ks ih =>
    unfold applyRemaps
    cases lookupRemap rm k with
    | none => exact ih c h
    | some ts => exact ih _ (applyTargets_nodup _ _ _ (Counts.nodup_pop c k h))

theorem remapAll_nodup (rm : List (String × List (Rat × String))) (c : Counts) (h : (Counts.keys c).Nodup) :
    (Counts.keys (remapAll rm c)).Nodup := applyRemaps_nodup rm _ c h

/-- no target of any rule is itself a key of a rule -/
def ChainFree (rm : List (String × List (Rat × String))) : Prop :=
  ∀ k ts, lookupRemap rm k = some ts → ∀ p ∈ ts, lookupRemap rm p.2 = none

theorem targetSum_zero_of_not_target (n : Rat) (ts : List (Rat × String)) (t : String)
    (h : ∀ p ∈ ts, p.2 ≠ t) : targetSum n ts t = 0 := by
  induction ts with
  | nil => simp [targetSum]
  | cons p ts ih =>
    have h1 : p.2 ≠ t := h p (by simp)
    have h2 : ∀ q ∈ ts, q.2 ≠ t := fun q hq => h q (by simp [hq])
    simp only [targetSum, List.map_cons, List.sum_cons, h1, if_false, zero_add]
    exact ih h2

/-- contribution to `t` of the key `k` holding `v` under the table: itself if not remapped, else its targets' shares -/
def contrib (rm : List (String × List (Rat × String))) (k : String) (v : Rat) (t : String) : Rat :=
  match lookupRemap rm k with
  | none => if k = t then v else 0
  | some ts => targetSum v ts t

/-- a rule's contribution is proportional to the count it is applied to -/
theorem contrib_mul (rm : List (String × List (Rat × String))) (k t : String) (v : Rat) :
    contrib rm k v t = v * contrib rm k 1 t := by
  unfold contrib
  cases lookupRemap rm k with
  | none => rw [mul_ite, mul_one, mul_zero]
  | some ts =>
    simp only [targetSum]
    induction ts with
    | nil => simp
    | cons p ts ih => simp only [List.map_cons, List.sum_cons, ih, mul_add, mul_ite, mul_zero, one_mul]

theorem contrib_zero (rm : List (String × List (Rat × String))) (k t : String) : contrib rm k 0 t = 0 := by
  rw [contrib_mul, zero_mul]

/-- no target of a chain-free table is due for a remap, so a rule contributes nothing to a name that is -/
theorem targetSum_remapped {rm : List (String × List (Rat × String))} (hcf : ChainFree rm) {k t : String}
    {ts : List (Rat × String)} (hl : lookupRemap rm k = some ts) (ht : (lookupRemap rm t).isSome) (v : Rat) :
    targetSum v ts t = 0 :=
  targetSum_zero_of_not_target _ _ _ fun p hp e => by rw [← e, hcf k ts hl p hp] at ht; cases ht

/-- Invariant of the remap loop, with `ks` the snapshot keys still to visit and `cur` the dictionary so far: a name that is
in `ks` and due for a remap ends at 0, every other name keeps its count; on top, each key of `ks` that has a rule adds
its targets' shares, computed from its count in `cur` (chain-freeness keeps that count fixed until the key is visited). -/
theorem applyRemaps_get (rm : List (String × List (Rat × String))) (hcf : ChainFree rm)
    (ks : List String) (hks : ks.Nodup) (cur : Counts) (hcur : (Counts.keys cur).Nodup) (t : String) :
    (applyRemaps rm ks cur).get t =
      (if t ∈ ks ∧ (lookupRemap rm t).isSome then 0 else cur.get t)
      + (ks.map fun k => match lookupRemap rm k with | none => 0 | some ts => targetSum (cur.get k) ts t).sum := by
  induction ks generalizing cur with
  | nil => simp [applyRemaps]
  | cons k ks ih =>
    obtain ⟨hk, hks'⟩ := List.nodup_cons.mp hks
    rw [applyRemaps, List.map_cons, List.sum_cons]
    cases hl : lookupRemap rm k with
    | none =>
      have hne : ¬(t = k ∧ (lookupRemap rm t).isSome) := by rintro ⟨rfl, h⟩; simp [hl] at h
      simp only [ih hks' cur hcur, zero_add, List.mem_cons, or_and_right, hne, false_or]
    | some ts =>
      have hnew : ∀ x, (applyTargets (cur.get k) ts (cur.pop k)).get x
          = (if k = x then 0 else cur.get x) + targetSum (cur.get k) ts x := fun x => by
        rw [applyTargets_get, Counts.get_pop _ _ _ hcur]
      -- the counts of the keys still to be remapped are what they were
      have hsum : (ks.map fun k' => match lookupRemap rm k' with
            | none => 0 | some ts' => targetSum ((applyTargets (cur.get k) ts (cur.pop k)).get k') ts' t).sum
          = (ks.map fun k' => match lookupRemap rm k' with
            | none => 0 | some ts' => targetSum (cur.get k') ts' t).sum := by
        refine congrArg List.sum (List.map_congr_left fun k' hk' => ?_)
        cases hl' : lookupRemap rm k' with
        | none => rfl
        | some ts' =>
          rw [hnew, if_neg fun e : k = k' => hk (e ▸ hk'), targetSum_remapped hcf hl (by rw [hl']; rfl), add_zero]
      rw [ih hks' _ (applyTargets_nodup _ _ _ (Counts.nodup_pop cur k hcur)), hsum, hnew t]
      by_cases hR : (lookupRemap rm t).isSome
      · rw [targetSum_remapped hcf hl hR, add_zero]
        by_cases hm : t ∈ ks <;>
          simp only [List.mem_cons, hR, hm, and_true, or_true, or_false, if_true, if_false, eq_comm,
            targetSum_remapped hcf hl hR, zero_add]
      · have hne : k ≠ t := by rintro rfl; simp [hl] at hR
        simp only [hR, Bool.false_eq_true, and_false, if_false, hne, add_assoc]

/-- **Remaps are the linear substitution.** For a chain-free table and a dictionary (distinct keys), the count of every
name after the remap pass is the sum over the original entries of their contributions. -/
theorem remapAll_get (rm : List (String × List (Rat × String))) (hcf : ChainFree rm)
    (c : Counts) (hc : (Counts.keys c).Nodup) (t : String) :
    (remapAll rm c).get t = (c.map fun p => contrib rm p.1 p.2 t).sum := by
  have hra : remapAll rm c = applyRemaps rm (Counts.keys c) c := rfl
  rw [hra, applyRemaps_get rm hcf (Counts.keys c) hc c hc t]
  rw [sum_entries_eq_sum_keys c hc (fun k v => contrib rm k v t)]
  -- split the contribution into the "kept" part and the "remapped" part
  have hsplit : ∀ k, contrib rm k (c.get k) t =
      (if k = t then (if (lookupRemap rm k).isSome then 0 else c.get k) else 0)
      + (match lookupRemap rm k with | none => 0 | some ts => targetSum (c.get k) ts t) := by
    intro k
    unfold contrib
    cases hl : lookupRemap rm k with
    | none => by_cases e : k = t <;> simp [e]
    | some ts => simp
  have hsum : ((Counts.keys c).map fun k => contrib rm k (c.get k) t).sum
      = ((Counts.keys c).map fun k => (if k = t then (if (lookupRemap rm k).isSome then 0 else c.get k) else 0)).sum
        + ((Counts.keys c).map fun k => match lookupRemap rm k with | none => 0 | some ts => targetSum (c.get k) ts t).sum := by
    rw [← List.sum_map_add]
    congr 1
    apply List.map_congr_left
    intro k _
    exact hsplit k
  rw [hsum]
  congr 1
  rw [sum_ite_eq_nodup (Counts.keys c) hc t (fun k => if (lookupRemap rm k).isSome then 0 else c.get k)]
  by_cases hm : t ∈ Counts.keys c
  · by_cases hr : (lookupRemap rm t).isSome = true <;> simp [hm, hr]
  · have : c.get t = 0 := Counts.get_of_not_mem c t hm
    simp [hm, this]

/-- **Key order does not matter**: two dictionaries with the same entries in a different insertion order remap alike. -/
theorem remapAll_perm (rm : List (String × List (Rat × String))) (hcf : ChainFree rm)
    (c c' : Counts) (hc : (Counts.keys c).Nodup) (hp : c.Perm c') (t : String) :
    (remapAll rm c).get t = (remapAll rm c').get t := by
  have hc' : (Counts.keys c').Nodup := (hp.map _).nodup_iff.mp hc
  rw [remapAll_get rm hcf c hc, remapAll_get rm hcf c' hc']
  exact (hp.map _).sum_eq

theorem mem_keys_applyTargets (n : Rat) (ts : List (Rat × String)) (c : Counts) (x : String) :
    x ∈ Counts.keys (applyTargets n ts c) ↔ x ∈ Counts.keys c ∨ ∃ p ∈ ts, p.2 = x := by
  induction ts generalizing c with
  | nil => simp [applyTargets]
  | cons p ts ih =>
    simp only [applyTargets, ih, Counts.mem_keys_add, List.mem_cons, or_and_right, exists_or, exists_eq_left]
    rw [or_comm (a := x = p.2), or_assoc, eq_comm]

/-- Keys after the remap loop (`ks`: snapshot keys still to visit): those of `cur` not due for a remap in `ks`, and the
targets of the rules of the keys in `ks`. -/
theorem mem_keys_applyRemaps (rm : List (String × List (Rat × String))) (hcf : ChainFree rm)
    (ks : List String) (hks : ks.Nodup) (cur : Counts) (hcur : (Counts.keys cur).Nodup) (t : String) :
    t ∈ Counts.keys (applyRemaps rm ks cur) ↔
      (t ∈ Counts.keys cur ∧ ¬ (t ∈ ks ∧ (lookupRemap rm t).isSome)) ∨
      (∃ k ∈ ks, ∃ ts, lookupRemap rm k = some ts ∧ ∃ p ∈ ts, p.2 = t) := by
  induction ks generalizing cur with
  | nil => simp [applyRemaps]
  | cons k ks ih =>
    rw [applyRemaps]
    simp only [List.mem_cons, or_and_right, exists_or, exists_eq_left, not_or]
    cases hl : lookupRemap rm k with
    | none =>
      have hk : ¬(t = k ∧ (lookupRemap rm t).isSome) := by rintro ⟨rfl, h⟩; simp [hl] at h
      simp only [ih hks.of_cons cur hcur, hk, not_false_eq_true, true_and, reduceCtorEq, false_and, exists_false,
        false_or]
    | some ts =>
      -- the key `k` goes, its targets come, and no target is due for a remap itself
      have hk : ¬(t = k ∧ (lookupRemap rm t).isSome) ↔ t ≠ k :=
        ⟨fun h e => h ⟨e, by rw [e, hl]; rfl⟩, fun h e => h e.1⟩
      have htg : (∃ p ∈ ts, p.2 = t) ∧ ¬(t ∈ ks ∧ (lookupRemap rm t).isSome) ↔ ∃ p ∈ ts, p.2 = t :=
        and_iff_left_of_imp fun ⟨p, hp, e⟩ h => by simp [← e, hcf k ts hl p hp] at h
      simp only [ih hks.of_cons _ (applyTargets_nodup _ _ _ (Counts.nodup_pop cur k hcur)), mem_keys_applyTargets,
        Counts.mem_keys_pop_iff _ _ _ hcur, or_and_right, htg, hk, Option.some.injEq, exists_eq_left', and_assoc,
        or_assoc]
theorem mem_keys_remapAll (rm : List (String × List (Rat × String))) (hcf : ChainFree rm)
    (c : Counts) (hc : (Counts.keys c).Nodup) (t : String) :
    t ∈ Counts.keys (remapAll rm c) ↔
      (t ∈ Counts.keys c ∧ lookupRemap rm t = none) ∨
      (∃ k ∈ Counts.keys c, ∃ ts, lookupRemap rm k = some ts ∧ ∃ p ∈ ts, p.2 = t) := by
  refine (mem_keys_applyRemaps rm hcf (Counts.keys c) hc c hc t).trans (or_congr_left (and_congr_right fun h => ?_))
  rw [and_iff_right h, Bool.not_eq_true, Option.isSome_eq_false_iff, Option.isNone_iff_eq_none]

/-! ### correction descriptors -/

theorem countDescs_cons (d : DescPat) (ds : List DescPat) (c : Counts) :
    countDescs (d :: ds) c
      = countDescs ds (if distinctSets d.ms = 0 then c else c.add d.name (distinctSets d.ms)) := by
  rw [countDescs]; simp only [beq_iff_eq]; split <;> rfl

/-- a number of matches is added only when it is not zero: the count grows by it all the same -/
theorem Counts.get_ite_add (c : Counts) (k t : String) (n : Nat) :
    (if n = 0 then c else c.add k n).get t = c.get t + if k = t then (n : Rat) else 0 := by
  split
  · subst n; simp
  · exact Counts.get_add c k t n

theorem Counts.mem_keys_ite_add (c : Counts) (k t : String) (n : Nat) :
    t ∈ Counts.keys (if n = 0 then c else c.add k (n : Rat)) ↔ (t = k ∧ n ≠ 0) ∨ t ∈ Counts.keys c := by
  split
  · simp [*]
  · simp [Counts.mem_keys_add, *]

theorem countDescs_get (ds : List DescPat) (c : Counts) (name : String) :
    (countDescs ds c).get name =
      c.get name + ((ds.filter fun d => decide (d.name = name)).map fun d => (distinctSets d.ms : Rat)).sum := by
  induction ds generalizing c with
  | nil => simp [countDescs]
  | cons d ds ih =>
    rw [countDescs_cons, ih, Counts.get_ite_add, List.filter_cons]
    by_cases e : d.name = name <;> simp [e, add_assoc]

theorem countDescs_nodup (ds : List DescPat) (c : Counts) (h : (Counts.keys c).Nodup) :
    (Counts.keys (countDescs ds c)).Nodup := by
  induction ds generalizing c with
  | nil => exact h
  | cons d ds ih =>
    rw [countDescs_cons]
    split
    · exact ih c h
    · exact ih _ (Counts.nodup_add c d.name _ h)

/-! ### the final `dict.update` -/

theorem Counts.get_set (c : Counts) (k k' : String) (v : Rat) :
    (c.set k v).get k' = if k = k' then v else c.get k' := by
  induction c with
  | nil => simp [Counts.set, Counts.get]
  | cons p c ih =>
    obtain ⟨k0, v0⟩ := p
    unfold Counts.set
    by_cases h0 : k0 = k
    · subst h0
      by_cases hk : k0 = k' <;> simp [Counts.get, hk]
    · simp only [h0, if_false]
      by_cases hk : k0 = k'
      · subst hk
        have : ¬ k = k0 := fun e => h0 e.symm
        simp [Counts.get, this]
      · simp [Counts.get, hk, ih]

/-- `all = groups.copy(); all.update(descs)`: a name present among the correction descriptors takes their value,
any other name keeps the group value -/
theorem mergeUpdate_get (g d : Counts) (hd : (Counts.keys d).Nodup) (t : String) :
    (mergeUpdate g d).get t = if t ∈ Counts.keys d then d.get t else g.get t := by
  induction d generalizing g with
  | nil => simp [mergeUpdate, Counts.keys]
  | cons p d ih =>
    obtain ⟨k, v⟩ := p
    have hd' : (Counts.keys d).Nodup := (List.nodup_cons.mp hd).2
    have hn : k ∉ Counts.keys d := (List.nodup_cons.mp hd).1
    simp only [mergeUpdate]
    rw [ih _ hd', Counts.get_set]
    have hk : Counts.keys ((k, v) :: d) = k :: Counts.keys d := rfl
    by_cases e : k = t
    · subst e
      simp [hn, hk, Counts.get]
    · have e' : ¬ t = k := fun h => e h.symm
      simp [hk, Counts.get, e, e']

end PGA.Scheme
