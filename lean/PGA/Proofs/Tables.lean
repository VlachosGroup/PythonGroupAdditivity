import PGA.Model.Match
import PGA.Spec.Embeds
import Mathlib.Data.List.Nodup
import Mathlib.Tactic.Tauto
/-! The implementation's evaluators agree with the reference tables of the specification
(`PGA/Spec/Embeds.lean`): comparison operators, negation, element classes, suffix split between
query atom and radical constraint, prefixes, bond words, ring counts. -/
namespace PGA.Match
open PGA.Spec

theorem cmp_eval (o : CmpOp) (a b : Int) : o.eval a b = true ↔ Cmp o a b := by
  cases o <;> exact decide_eq_true_iff

theorem cn_holds (c : CN) (x : Int) : c.holds x = true ↔ CNHolds c x := cmp_eval _ _ _

theorem negated_iff (neg v : Bool) (P : Prop) (h : v = true ↔ P) :
    negated neg v = true ↔ Negated neg P := by
  cases neg <;> simp [negated, Negated, ← h]

theorem classMatch_iff (c : ElemClass) (a : Atom) : classMatch c a = true ↔ ClassHolds c a := by
  cases c <;>
    simp only [classMatch, ClassHolds, decide_eq_true_eq, Bool.or_eq_true, Bool.and_eq_true, beq_iff_eq, or_assoc] <;>
    rfl

theorem atomInRing_iff (m : Mol) (x : Nat) : m.atomInRing x = true ↔ OnRing m x := by
  simp [Mol.atomInRing, OnRing]

theorem prefix_iff (m : Mol) (x : Nat) (a : Atom) (p : APrefix) :
    evalS m x a (prefixCons p) = true ↔ PrefixHolds m x a p := by
  cases p <;> simp [prefixCons, evalS, negated, PrefixHolds, ← atomInRing_iff, Mol.bondsOf]

theorem evalS_radical (m : Mol) (x : Nat) (a : Atom) (n : Int) :
    evalS m x a (.radical false ⟨.eq, n⟩) = true ↔ a.radicals = n := by
  simp only [evalS, negated, CN.holds, CmpOp.eval, Bool.false_eq_true, if_false, decide_eq_true_eq]

/-- the suffix's meaning is split between the charge primitive of the query atom and the radical
constraint — for every suffix except `*`, which the reader drops -/
theorem suffix_split (m : Mol) (x : Nat) (cls : ElemClass) (s : Suffix) (a : Atom) (hs : s ≠ .star) :
    SuffixHolds cls s a ↔
      (match rdCharge s with
        | some c => a.charge == c
        | none => true) = true ∧ ∀ c ∈ suffixCons s, evalS m x a c = true := by
  cases s <;> first
    | exact absurd rfl hs
    | simp only [SuffixHolds, rdCharge, suffixCons, List.forall_mem_singleton, evalS_radical, beq_iff_eq,
        List.not_mem_nil, false_imp_iff, implies_true, and_true, true_and] <;> norm_cast

theorem typeMatch_iff (m : Mol) (t : AtomType) (y : Nat) (hs : t.suf ≠ .star) :
    typeMatch m t y = true ↔ TypeHolds m t y := by
  unfold typeMatch TypeHolds
  cases m.atom? y with
  | none => exact ⟨nofun, nofun⟩
  | some a =>
    simp only [rdAtomMatch, typeCons, Bool.and_eq_true, List.all_append, List.all_eq_true, classMatch_iff,
      suffix_split m y t.cls t.suf a hs]
    cases t.pre with
    | none => simp only [List.not_mem_nil, false_imp_iff, implies_true, true_and, and_true, and_assoc]; rfl
    | some p => simp only [List.forall_mem_singleton, prefix_iff, and_assoc, and_left_comm, and_comm]; rfl

theorem bondQuery_iff (s : BondSpec) (e : Bond) : bondQuery s e = true ↔ BondHolds s e := by
  cases s <;> simp only [bondQuery, BondHolds, Bool.or_eq_true, beq_iff_eq, or_assoc, Bool.not_eq_true']

/-- a declared bond's meaning is split between the query bond's type and the bond constraint -/
theorem bond_split (s : BondSpec) (e : Bond) :
    BondHolds s e ↔ rdBondMatch s e = true ∧ ∀ c ∈ bondCons s, bondQuery c e = true := by
  cases s <;>
    simp only [rdBondMatch, rdBondKind, bondCons, List.forall_mem_singleton, bondQuery_iff, beq_iff_eq,
      List.not_mem_nil, false_imp_iff, implies_true, and_true, true_and] <;>
    rfl

theorem ringCount_eq (m : Mol) (x : Nat) (h : ∀ r ∈ m.rings, r.Nodup) :
    ringCount m x = (ringsThrough m x).length := by
  unfold ringCount ringsThrough
  generalize m.rings = rs at h
  induction rs with
  | nil => rfl
  | cons r rs ih =>
    rw [List.forall_mem_cons] at h
    rw [List.map_cons, List.sum_cons, ih h.2, h.1.count, List.filter_cons]
    by_cases hx : x ∈ r <;> simp [hx, Nat.add_comm]

end PGA.Match
