import PGA.Proofs.UnitsSnap
/-!
# The recursive-descent parser never runs out of its recursion budget, and consumes input

`WB r ts` ("well behaved"): a successful result leaves a strict suffix of the input, and the only
internal error possible is the interpreter's digit limit on some number token of the input.
Proved for `parseExpr d ts` whenever `ts.length < d` — in particular for `parseTokens`.
-/
namespace PGA.Units

/-- the token does not exceed the interpreter's `int()` digit limit -/
def Tok.digitsOK : Tok → Prop
  | .num _ body => body.length ≤ PGA.Gen.Chars.intMaxStrDigits
  | _ => True

/-- the errors the parser may end in on input `ts`: the units parse error, or the interpreter's digit limit on a
number token of `ts` -/
def ErrOK (ts : List Tok) (e : Err) : Prop :=
  e = .unitsParse ∨ (e = .internal .intLimit ∧ ∃ t ∈ ts, ¬ t.digitsOK)

theorem ErrOK.mono {ts ts' : List Tok} {e : Err} (h : ErrOK ts e) (hsub : ∀ t ∈ ts, t ∈ ts') : ErrOK ts' e :=
  h.imp id (fun ⟨a, t, hm, hb⟩ => ⟨a, t, hsub t hm, hb⟩)

structure WB {α} (r : Res (α × List Tok)) (ts : List Tok) : Prop where
  suffix : ∀ x rest, r = .ok (x, rest) → rest <:+ ts ∧ rest.length < ts.length
  errors : ∀ e, r = .error e → ErrOK ts e

/-- same, but the rest may be the whole input (the loop may consume nothing) -/
structure WBle {α} (r : Res (α × List Tok)) (ts : List Tok) : Prop where
  suffix : ∀ x rest, r = .ok (x, rest) → rest <:+ ts
  errors : ∀ e, r = .error e → ErrOK ts e

theorem WB_perr {α} (ts : List Tok) : WB (perr : Res (α × List Tok)) ts :=
  ⟨fun _ _ h => by simp [perr] at h, fun e h => by injection h with h; exact Or.inl h.symm⟩

theorem WB_ok {α} {x : α} {rest ts : List Tok} (h1 : rest <:+ ts) (h2 : rest.length < ts.length) :
    WB (.ok (x, rest) : Res (α × List Tok)) ts :=
  ⟨fun _ _ h => by injection h with h; injection h with _ h; subst h; exact ⟨h1, h2⟩, fun _ h => by simp at h⟩

theorem WB_error {α} {e : Err} {ts : List Tok} (h : ErrOK ts e) : WB (.error e : Res (α × List Tok)) ts :=
  ⟨fun _ _ h => by simp at h, fun _ h' => by injection h' with h'; subst h'; exact h⟩

theorem numberOf_wb (t : Tok) (rest : List Tok) : WB (numberOf t rest) (t :: rest) := by
  unfold numberOf
  split
  · next neg body =>
    split
    · split
      · next hl =>
        refine WB_error (Or.inr ⟨rfl, .num neg body, List.mem_cons_self, ?_⟩)
        simp only [Tok.digitsOK]; omega
      · exact WB_ok (List.suffix_cons _ _) (by simp)
    · exact WB_perr _
  · exact WB_perr _

theorem WB.mono {α} {r : Res (α × List Tok)} {ts ts' : List Tok} (h : WB r ts) (hs : ts <:+ ts') : WB r ts' :=
  ⟨fun x rest hr => let ⟨a, b⟩ := h.suffix x rest hr
    ⟨a.trans hs, Nat.lt_of_lt_of_le b hs.length_le⟩,
   fun e he => (h.errors e he).mono (fun _ hm => hs.subset hm)⟩

theorem numberOf_ok {t : Tok} {rest : List Tok} {q : Rat} {r : List Tok} (h : numberOf t rest = .ok (q, r)) : r = rest := by
  unfold numberOf at h
  split at h
  · split at h
    · split at h
      · simp at h
      · injection h with h; injection h with _ h; exact h.symm
    · simp [perr] at h
  · simp [perr] at h

theorem parseNumber_wb (ts : List Tok) : WB (parseNumber ts) ts := by
  unfold parseNumber
  split
  · exact WB_perr _
  · next t rest =>
    split
    · split
      · next n c rest' =>
        split
        · have hw := numberOf_wb n rest'
          refine ⟨fun x r hr => ?_, fun e he => ?_⟩
          · have := numberOf_ok hr
            subst this
            exact ⟨⟨[t, n, c], rfl⟩, by simp only [List.length_cons]; omega⟩
          · exact (hw.errors e he).mono (fun t' hm => by
              rcases List.mem_cons.mp hm with h | h
              · subst h; simp
              · simp [h])
        · exact WB_perr _
      · exact WB_perr _
    · exact numberOf_wb t rest

/-- `pe` is well behaved on every input shorter than `n` -/
def WBBelow (pe : List Tok → PRes) (n : Nat) : Prop := ∀ ts', ts'.length < n → WB (pe ts') ts'

theorem parseBaseWith_wb (pe : List Tok → PRes) (ts : List Tok) (hpe : WBBelow pe ts.length) :
    WB (parseBaseWith pe ts) ts := by
  unfold parseBaseWith
  split
  · exact WB_perr _
  · next t rest =>
    split
    · have hw := hpe rest (by simp)
      split
      · next e c r heq =>
        split
        · have := hw.suffix e (c :: r) heq
          exact WB_ok (((List.suffix_cons c r).trans this.1).trans (List.suffix_cons _ _))
            (Nat.lt_succ_of_lt (Nat.lt_of_succ_lt this.2))
        · exact WB_perr _
      · exact WB_perr _
      · next e heq =>
        exact WB_error ((hw.errors e heq).mono (fun _ hm => List.mem_cons_of_mem _ hm))
    · split
      · have hw := numberOf_wb t rest
        split
        · next q r heq =>
          have := hw.suffix q r heq
          exact WB_ok this.1 this.2
        · next e heq => exact WB_error (hw.errors e heq)
      · split
        · exact WB_ok (List.suffix_cons _ _) (by simp)
        · exact WB_perr _

theorem parseFactorWith_wb (pe : List Tok → PRes) (ts : List Tok) (hpe : WBBelow pe ts.length) :
    WB (parseFactorWith pe ts) ts := by
  have hb := parseBaseWith_wb pe ts hpe
  unfold parseFactorWith
  split
  · next e heq => exact WB_error (hb.errors e heq)
  · next left r heq =>
    have hs := hb.suffix left r heq
    split
    · next c r2 =>
      split
      · have hn := parseNumber_wb r2
        split
        · next x r3 heq2 =>
          have := hn.suffix x r3 heq2
          exact WB_ok ((this.1.trans (List.suffix_cons c r2)).trans hs.1) ((Nat.lt_succ_of_lt this.2).trans hs.2)
        · next e heq2 =>
          exact WB_error ((hn.errors e heq2).mono (fun _ hm => hs.1.subset (List.mem_cons_of_mem _ hm)))
      · exact WB_ok hs.1 hs.2
    · exact WB_ok hs.1 hs.2

theorem parseLoopWith_wb (pf : List Tok → PRes) :
    ∀ (n : Nat) (acc : Tree) (ts : List Tok), ts.length < n →
      (∀ ts', ts'.length ≤ ts.length → WB (pf ts') ts') → WBle (parseLoopWith pf n acc ts) ts := by
  intro n
  induction n with
  | zero => intro acc ts h; omega
  | succ n ih =>
    intro acc ts hlen hpf
    cases ts with
    | nil =>
      simp only [parseLoopWith]
      exact ⟨fun x r h => by injection h with h; injection h with _ h2; subst h2; exact List.suffix_refl _,
             fun _ h => by simp at h⟩
    | cons t rest =>
      -- a factor read from a suffix `inp` of the input, then the rest of the loop on what it left
      have okArm : ∀ (mk : Tree → Tree) (inp : List Tok) f r, inp <:+ (t :: rest) → inp.length ≤ (t :: rest).length →
          pf inp = .ok (f, r) → WBle (parseLoopWith pf n (mk f) r) (t :: rest) := by
        intro mk inp f r hsuf hle heq
        have hs := (hpf inp hle).suffix f r heq
        have hr : r.length < n := Nat.lt_of_lt_of_le hs.2 (Nat.le_of_lt_succ (Nat.lt_of_le_of_lt hle hlen))
        have := ih (mk f) r hr (fun ts' h' => hpf ts' (h'.trans ((Nat.le_of_lt hs.2).trans hle)))
        exact ⟨fun x rr h => (this.suffix x rr h).trans (hs.1.trans hsuf),
               fun e h => (this.errors e h).mono (fun _ hm => (hs.1.trans hsuf).subset hm)⟩
      have errArm : ∀ (inp : List Tok) e, inp <:+ (t :: rest) → inp.length ≤ (t :: rest).length →
          pf inp = .error e → WBle (.error e : PRes) (t :: rest) := by
        intro inp e hsuf hle heq
        exact ⟨fun _ _ h => by simp at h,
               fun e' h => by
                 injection h with h; subst h
                 exact ((hpf inp hle).errors e heq).mono (fun _ hm => hsuf.subset hm)⟩
      have hrest : rest <:+ t :: rest := List.suffix_cons _ _
      have hlrest : rest.length ≤ (t :: rest).length := Nat.le_succ _
      simp only [parseLoopWith]
      split
      · split
        · next heq => exact okArm _ rest _ _ hrest hlrest heq
        · next heq => exact errArm rest _ hrest hlrest heq
      · split
        · split
          · next heq => exact okArm _ rest _ _ hrest hlrest heq
          · next heq => exact errArm rest _ hrest hlrest heq
        · split
          · next heq => exact okArm _ _ _ _ (List.suffix_refl _) (Nat.le_refl _) heq
          · exact ⟨fun x rr h => by injection h with h; injection h with _ h2; subst h2; exact List.suffix_refl _,
                   fun _ h => by simp at h⟩
          · next heq => exact errArm _ _ (List.suffix_refl _) (Nat.le_refl _) heq

theorem parseExpr_wb : ∀ (d : Nat) (ts : List Tok), ts.length < d → WB (parseExpr d ts) ts := by
  intro d
  induction d with
  | zero => intro ts h; omega
  | succ d ih =>
    intro ts hlen
    have hpe : ∀ m, m ≤ d → WBBelow (parseExpr d) m := fun m hm ts' h' => ih ts' (by omega)
    have hf : ∀ ts', ts'.length ≤ d → WB (parseFactorWith (parseExpr d) ts') ts' :=
      fun ts' h' => parseFactorWith_wb _ ts' (hpe _ h')
    simp only [parseExpr]
    have hw := hf ts (by omega)
    split
    · next e heq => exact WB_error (hw.errors e heq)
    · next f r heq =>
      have hs := hw.suffix f r heq
      have := parseLoopWith_wb (parseFactorWith (parseExpr d)) (r.length + 1) f r (by omega)
        (fun ts' h' => hf ts' (by omega))
      exact ⟨fun x rr h => ⟨(this.suffix x rr h).trans hs.1, by
                have := (this.suffix x rr h).length_le; omega⟩,
             fun e h => (this.errors e h).mono (fun _ hm => hs.1.subset hm)⟩

/-- the parser ends in a tree, the units parse error, or the digit limit on a token of the input -/
theorem parseTokens_errors (ts : List Tok) (e : Err) (h : parseTokens ts = .error e) : ErrOK ts e := by
  have hw := parseExpr_wb (ts.length + 1) ts (by omega)
  unfold parseTokens at h
  split at h
  · next e' heq => injection h with h; subst h; exact hw.errors e' heq
  · simp at h
  · injection h with h; exact Or.inl h.symm

end PGA.Units
