import PGA.Proofs.RingParse
/-!
# Layout lemmas for the RING engine (towards C08-T3, layout part)

`LG G hard r r'` ("layout gaps") — the texts `r` and `r'` differ only in *opaque gaps*: a piece of filler that is
at least two characters long or contains a *hard* filler character (one that occurs in no token of the
grammar: newline and tab for the shipped tables) may be replaced by any other such piece; filler at the
very end of the text may be replaced by any filler (also none).  Single blanks stay where they are (a
token such as `bond to` contains one).

`eval_sim`: on two states whose remaining texts are so related, the engine takes the same decisions:
both runs fail, or both abort alike, or both succeed with the **same output trees** and related
remaining texts — for every grammar whose tokens contain no hard filler, no two adjacent filler
characters and no filler at their end (`LayoutOK`), and whose filler characters are neither identifier
characters nor decimal digits.  `parse_layout` is the statement for `parse`.
-/
set_option linter.unusedVariables false
namespace PGA.Ring
open PGA.Chars

/-- `c` is a one-character entry of the filler list (what `skip_filler` skips) -/
def isFil (G : Grammar) (c : Char) : Bool := decide ([c] ∈ G.filler)

def allFil (G : Grammar) (g : List Char) : Prop := ∀ c ∈ g, isFil G c = true

instance (G : Grammar) (g : List Char) : Decidable (allFil G g) :=
  inferInstanceAs (Decidable (∀ c ∈ g, isFil G c = true))

/-- a piece of filler no token can reach across: two or more characters, or one that is hard -/
def Opaque (G : Grammar) (hard : Char → Bool) (g : List Char) : Prop :=
  allFil G g ∧ (2 ≤ g.length ∨ ∃ c ∈ g, hard c = true)

/-- equal up to layout gaps: an opaque gap for an opaque gap, any filler for any filler at the end -/
inductive LG (G : Grammar) (hard : Char → Bool) : List Char → List Char → Prop
  | trail {g g' : List Char} : allFil G g → allFil G g' → LG G hard g g'
  | cons (c : Char) {r r' : List Char} : LG G hard r r' → LG G hard (c :: r) (c :: r')
  | gap {g g' r r' : List Char} : Opaque G hard g → Opaque G hard g' → LG G hard r r' →
      LG G hard (g ++ r) (g' ++ r')

theorem LG.refl (G : Grammar) (hard : Char → Bool) : ∀ r, LG G hard r r
  | [] => .trail (fun _ h => by cases h) (fun _ h => by cases h)
  | c :: r => .cons c (LG.refl G hard r)

theorem LG.symm {G : Grammar} {hard : Char → Bool} {r r' : List Char} (h : LG G hard r r') : LG G hard r' r := by
  induction h with
  | trail h1 h2 => exact .trail h2 h1
  | cons c _ ih => exact .cons c ih
  | gap h1 h2 _ ih => exact .gap h2 h1 ih

theorem LG.append_left {G : Grammar} {hard : Char → Bool} (x : List Char) {r r' : List Char} (h : LG G hard r r') :
    LG G hard (x ++ r) (x ++ r') := by
  induction x with
  | nil => exact h
  | cons c x ih => exact .cons c ih

/-- what is left after `skip_filler` -/
def stripF (G : Grammar) : List Char → List Char
  | [] => []
  | c :: r => if isFil G c then stripF G r else c :: r

theorem stripF_cons_fil (G : Grammar) {c : Char} (r : List Char) (h : isFil G c = true) : stripF G (c :: r) = stripF G r := by
  show (if isFil G c then stripF G r else c :: r) = _
  rw [if_pos h]

theorem stripF_cons_nonfil (G : Grammar) {c : Char} (r : List Char) (h : isFil G c = false) : stripF G (c :: r) = c :: r := by
  show (if isFil G c then stripF G r else c :: r) = _
  rw [if_neg (by rw [h]; simp)]

/-- the text does not begin with a filler character (every state the engine reaches: `take` ends with `skip_filler`) -/
def Normal (G : Grammar) (r : List Char) : Prop := ∀ c r', r = c :: r' → isFil G c = false

theorem stripF_normal (G : Grammar) : ∀ r, Normal G (stripF G r)
  | [] => fun _ _ h => by cases h
  | c :: r => by
    cases hc : isFil G c with
    | true => rw [stripF_cons_fil G r hc]; exact stripF_normal G r
    | false =>
      rw [stripF_cons_nonfil G r hc]
      intro c' r' h
      cases h
      exact hc

theorem stripF_allFil (G : Grammar) : ∀ g, allFil G g → stripF G g = []
  | [], _ => rfl
  | c :: g, h => by
    rw [stripF_cons_fil G g (h c (List.mem_cons_self ..))]
    exact stripF_allFil G g (fun x hx => h x (List.mem_cons_of_mem _ hx))

theorem stripF_append (G : Grammar) : ∀ (g r : List Char), allFil G g → stripF G (g ++ r) = stripF G r
  | [], _, _ => rfl
  | c :: g, r, h => by
    show stripF G (c :: (g ++ r)) = _
    rw [stripF_cons_fil G _ (h c (List.mem_cons_self ..))]
    exact stripF_append G g r (fun x hx => h x (List.mem_cons_of_mem _ hx))

theorem stripF_of_normal (G : Grammar) (r : List Char) (h : Normal G r) : stripF G r = r := by
  cases r with
  | nil => rfl
  | cons c r => exact stripF_cons_nonfil G r (h c r rfl)

theorem LG.strip {G : Grammar} {hard : Char → Bool} {r r' : List Char} (h : LG G hard r r') :
    LG G hard (stripF G r) (stripF G r') := by
  induction h with
  | trail h1 h2 => rw [stripF_allFil G _ h1, stripF_allFil G _ h2]; exact LG.refl G hard []
  | cons c h ih =>
    cases hc : isFil G c with
    | true => rw [stripF_cons_fil G _ hc, stripF_cons_fil G _ hc]; exact ih
    | false => rw [stripF_cons_nonfil G _ hc, stripF_cons_nonfil G _ hc]; exact .cons c h
  | gap h1 h2 _ ih => rw [stripF_append G _ _ h1.1, stripF_append G _ _ h2.1]; exact ih

theorem skipFillerAux_rest (G : Grammar) : ∀ (r : List Char) (i l c : Nat) (st : St),
    skipFillerAux G.filler r i l c = some st → st.rest = stripF G r := by
  intro r
  induction r with
  | nil =>
    intro i l c st h
    simp only [skipFillerAux] at h
    split at h
    · cases h
    · cases h; rfl
  | cons ch r ih =>
    intro i l c st h
    simp only [skipFillerAux] at h
    split at h
    · rename_i hm
      rw [stripF_cons_fil G r (by simpa [isFil] using hm)]
      split at h <;> exact ih _ _ _ _ h
    · rename_i hm
      rw [stripF_cons_nonfil G r (by simpa [isFil] using hm)]
      cases h; rfl

theorem take_rest (G : Grammar) (st : St) (n : Nat) (s : List Char) (st' : St)
    (h : take G.filler st n = some (s, st')) : st'.rest = stripF G (st.rest.drop n) := by
  unfold take at h
  simp only [skipFiller] at h
  split at h
  · cases h
  · rename_i st'' hs
    cases h
    exact skipFillerAux_rest G _ _ _ _ _ hs

theorem Opaque.ne_nil {G : Grammar} {hard : Char → Bool} {g : List Char} (h : Opaque G hard g) : g ≠ [] := by
  rintro rfl
  rcases h.2 with h2 | ⟨c, hc, _⟩
  · simp at h2
  · cases hc

/-- a related text that starts with a non-filler character starts with the same character -/
theorem LG.head_inv {G : Grammar} {hard : Char → Bool} {c : Char} {r r' : List Char}
    (h : LG G hard (c :: r) r') (hc : isFil G c = false) : ∃ r'', r' = c :: r'' ∧ LG G hard r r'' := by
  generalize hx : c :: r = x at h
  cases h with
  | trail h1 h2 =>
    subst hx
    have := h1 c (List.mem_cons_self ..)
    rw [hc] at this; cases this
  | cons c' h' => cases hx; exact ⟨_, rfl, h'⟩
  | @gap g g' r1 r1' h1 h2 h' =>
    obtain ⟨a, g1, rfl⟩ := List.exists_cons_of_ne_nil h1.ne_nil
    simp only [List.cons_append, List.cons.injEq] at hx
    have := h1.1 a (List.mem_cons_self ..)
    rw [← hx.1, hc] at this; cases this

theorem LG.nil_inv {G : Grammar} {hard : Char → Bool} {r' : List Char} (h : LG G hard [] r') : allFil G r' := by
  generalize hx : ([] : List Char) = x at h
  cases h with
  | trail h1 h2 => exact h2
  | cons c' h' => cases hx
  | @gap g g' r1 r1' h1 h2 h' =>
    have : g = [] := by
      cases g with
      | nil => rfl
      | cons a g => simp at hx
    exact absurd this h1.ne_nil

/-- end of text: related normal texts are empty together -/
theorem LG.nil_iff {G : Grammar} {hard : Char → Bool} {r r' : List Char} (h : LG G hard r r')
    (hn : Normal G r) (hn' : Normal G r') : r = [] ↔ r' = [] := by
  constructor
  · rintro rfl
    have := h.nil_inv
    cases r' with
    | nil => rfl
    | cons c r'' =>
      have h1 := this c (List.mem_cons_self ..)
      rw [hn' c r'' rfl] at h1; cases h1
  · rintro rfl
    have := h.symm.nil_inv
    cases r with
    | nil => rfl
    | cons c r'' =>
      have h1 := this c (List.mem_cons_self ..)
      rw [hn c r'' rfl] at h1; cases h1

/-- what the layout lemmas need of a token: non-empty, no hard filler character, no two adjacent filler
characters, last character not a filler -/
def tokOK (G : Grammar) (hard : Char → Bool) : List Char → Bool
  | [] => false
  | [c] => !isFil G c && !hard c
  | a :: b :: r => !hard a && !(isFil G a && isFil G b) && tokOK G hard (b :: r)

theorem tokOK_has_nonfil (G : Grammar) (hard : Char → Bool) : ∀ tok, tokOK G hard tok = true → ∃ c ∈ tok, isFil G c = false
  | [], h => by simp [tokOK] at h
  | [c], h => by
    simp only [tokOK, Bool.and_eq_true, Bool.not_eq_true'] at h
    exact ⟨c, List.mem_cons_self .., h.1⟩
  | a :: b :: r, h => by
    simp only [tokOK, Bool.and_eq_true] at h
    obtain ⟨c, hc, hf⟩ := tokOK_has_nonfil G hard (b :: r) h.2
    exact ⟨c, List.mem_cons_of_mem _ hc, hf⟩

/-- the central list fact: a token that matches at the front of a text matches at the front of every related
text, and what follows it stays related — a token never reaches into an opaque gap or into trailing filler -/
theorem LG.window {G : Grammar} {hard : Char → Bool} {r r' : List Char} (h : LG G hard r r') :
    ∀ tok, tokOK G hard tok = true → r.take tok.length = tok →
      r'.take tok.length = tok ∧ LG G hard (r.drop tok.length) (r'.drop tok.length) := by
  induction h with
  | @trail g g' h1 h2 =>
    intro tok htok hm
    obtain ⟨c, hc, hf⟩ := tokOK_has_nonfil G hard tok htok
    rw [← hm] at hc
    have := h1 c (List.mem_of_mem_take hc)
    rw [hf] at this; cases this
  | @cons c r r' h ih =>
    intro tok htok hm
    cases tok with
    | nil => simp [tokOK] at htok
    | cons t ts =>
      simp only [List.length_cons, List.take_succ_cons, List.cons.injEq] at hm
      obtain ⟨rfl, hm⟩ := hm
      cases ts with
      | nil => simp only [List.length_cons, List.length_nil, Nat.zero_add, List.take_succ_cons, List.take_zero,
                 List.drop_succ_cons, List.drop_zero, true_and]; exact h
      | cons b rest =>
        have htok' : tokOK G hard (b :: rest) = true := by
          simp only [tokOK, Bool.and_eq_true] at htok; exact htok.2
        obtain ⟨g1, g2⟩ := ih (b :: rest) htok' hm
        simp only [List.length_cons] at g1 g2 ⊢
        simp only [List.take_succ_cons, List.drop_succ_cons]
        exact ⟨by rw [g1], g2⟩
  | @gap g g' r r' h1 h2 h ih =>
    intro tok htok hm
    exfalso
    obtain ⟨a, g1, rfl⟩ := List.exists_cons_of_ne_nil h1.ne_nil
    have ha := h1.1 a (List.mem_cons_self ..)
    cases tok with
    | nil => simp [tokOK] at htok
    | cons t ts =>
      simp only [List.cons_append, List.length_cons, List.take_succ_cons, List.cons.injEq] at hm
      obtain ⟨rfl, hm⟩ := hm
      cases ts with
      | nil =>
        simp only [tokOK, Bool.and_eq_true, Bool.not_eq_true'] at htok
        rw [ha] at htok; cases htok.1
      | cons b rest =>
        simp only [tokOK, Bool.and_eq_true, Bool.not_eq_true', Bool.and_eq_false_iff] at htok
        obtain ⟨⟨hha, hab⟩, _⟩ := htok
        have hb : isFil G b = false := by
          rcases hab with h | h
          · rw [ha] at h; cases h
          · exact h
        cases g1 with
        | nil =>
          rcases h1.2 with h2' | ⟨c, hc, hh⟩
          · simp at h2'
          · simp only [List.mem_singleton] at hc; subst hc; rw [hha] at hh; cases hh
        | cons x g2 =>
          simp only [List.cons_append, List.length_cons, List.take_succ_cons, List.cons.injEq] at hm
          have hx := h1.1 x (List.mem_cons_of_mem _ (List.mem_cons_self ..))
          rw [hm.1, hb] at hx; cases hx

theorem LG.window_iff {G : Grammar} {hard : Char → Bool} {r r' : List Char} (h : LG G hard r r')
    (tok : List Char) (htok : tokOK G hard tok = true) :
    (r.take tok.length = tok ↔ r'.take tok.length = tok) :=
  ⟨fun hm => (h.window tok htok hm).1, fun hm => (h.symm.window tok htok hm).1⟩

theorem identRun_fil (G : Grammar) (hch : ∀ c, isFil G c = true → identChar G c = false) (g r : List Char)
    (hg : allFil G g) (hne : g ≠ []) : identRun G (g ++ r) = 0 := by
  obtain ⟨a, g1, rfl⟩ := List.exists_cons_of_ne_nil hne
  show identRun G (a :: (g1 ++ r)) = 0
  unfold identRun
  rw [if_neg (by rw [hch a (hg a (List.mem_cons_self ..))]; simp)]

/-- identifiers stop at filler: the identifier scanned at the front of related texts is the same, and what follows
it stays related -/
theorem LG.ident {G : Grammar} {hard : Char → Bool} (hch : ∀ c, isFil G c = true → identChar G c = false)
    {r r' : List Char} (h : LG G hard r r') :
    identRun G r = identRun G r' ∧ r.take (identRun G r) = r'.take (identRun G r) ∧
      LG G hard (r.drop (identRun G r)) (r'.drop (identRun G r)) := by
  induction h with
  | @trail g g' h1 h2 =>
    have e1 : identRun G g = 0 := by
      cases g with
      | nil => rfl
      | cons a g1 => simpa using identRun_fil G hch (a :: g1) [] h1 (by simp)
    have e2 : identRun G g' = 0 := by
      cases g' with
      | nil => rfl
      | cons a g1 => simpa using identRun_fil G hch (a :: g1) [] h2 (by simp)
    rw [e1, e2]
    exact ⟨rfl, rfl, .trail h1 h2⟩
  | @cons c r r' h ih =>
    by_cases hc : identChar G c = true
    · have e1 : identRun G (c :: r) = identRun G r + 1 := by rw [identRun, if_pos hc]
      have e2 : identRun G (c :: r') = identRun G r' + 1 := by rw [identRun, if_pos hc]
      rw [e1, e2]
      obtain ⟨i1, i2, i3⟩ := ih
      exact ⟨by rw [i1], by simp only [List.take_succ_cons, i2], by simpa using i3⟩
    · have e1 : identRun G (c :: r) = 0 := by rw [identRun, if_neg hc]
      have e2 : identRun G (c :: r') = 0 := by rw [identRun, if_neg hc]
      rw [e1, e2]
      exact ⟨rfl, rfl, .cons c h⟩
  | @gap g g' r r' h1 h2 h ih =>
    rw [identRun_fil G hch g r h1.1 h1.ne_nil, identRun_fil G hch g' r' h2.1 h2.ne_nil]
    exact ⟨rfl, rfl, .gap h1 h2 h⟩

/-- the state relation: two stream states that may differ in position and in opaque gaps / trailing filler of the remaining text -/
structure SR (G : Grammar) (hard : Char → Bool) (st st' : St) : Prop where
  lg : LG G hard st.rest st'.rest
  n : Normal G st.rest
  n' : Normal G st'.rest

/-- progress agreement of two runs: neither moves backwards and one advances exactly when the other does -/
structure Prog (st st1 st' st1' : St) : Prop where
  le : st1.rest.length ≤ st.rest.length
  le' : st1'.rest.length ≤ st'.rest.length
  lt : st1.rest.length < st.rest.length ↔ st1'.rest.length < st'.rest.length

theorem Prog.refl (st st' : St) : Prog st st st' st' :=
  ⟨Nat.le_refl _, Nat.le_refl _, iff_of_false (Nat.lt_irrefl _) (Nat.lt_irrefl _)⟩

theorem Prog.strict {st st1 st' st1' : St} (h : st1.rest.length < st.rest.length)
    (h' : st1'.rest.length < st'.rest.length) : Prog st st1 st' st1' :=
  ⟨Nat.le_of_lt h, Nat.le_of_lt h', iff_of_true h h'⟩

theorem Prog.trans {st st1 st2 st' st1' st2' : St} (p : Prog st st1 st' st1') (q : Prog st1 st2 st1' st2') :
    Prog st st2 st' st2' := by
  obtain ⟨a1, a2, a3⟩ := p
  obtain ⟨b1, b2, b3⟩ := q
  exact ⟨by omega, by omega, by omega⟩

/-- the error registers are both empty or both set: the engine's control flow depends on `current_error` only
through `raise None` against `raise err` -/
def CurRel (c c' : Option Err) : Prop := c.isSome = c'.isSome

theorem CurRel.catch (e e' : Err) {c c' : Option Err} (h : CurRel c c') : CurRel (catchErr e c) (catchErr e' c') := by
  cases c <;> cases c' <;> simp_all [CurRel, catchErr]

/-- the two runs take the same decision: both succeed with the same output on related states, or both fail,
or both abort alike -/
inductive ResRel (G : Grammar) (hard : Char → Bool) (st st' : St) : Res → Res → Prop
  | ok {st1 st1' : St} {out : List Ast} {cur cur' : Option Err} : SR G hard st1 st1' → Prog st st1 st' st1' →
      CurRel cur cur' → ResRel G hard st st' (.ok st1 out cur) (.ok st1' out cur')
  | fail {e e' : Err} {cur cur' : Option Err} : CurRel cur cur' → ResRel G hard st st' (.fail e cur) (.fail e' cur')
  | abort (a : Abort) : ResRel G hard st st' (.abort a) (.abort a)

/-- `raise stream.current_error` -/
theorem ResRel.raise {G : Grammar} {hard : Char → Bool} {st st' : St} {cur cur' : Option Err} :
    CurRel cur cur' →
    ResRel G hard st st' (match cur with | none => .abort (.internal .raiseNone) | some c => .fail c cur)
      (match cur' with | none => .abort (.internal .raiseNone) | some c => .fail c cur') := by
  intro hc
  cases cur with
  | none =>
    cases cur' with
    | none => exact .abort _
    | some _ => cases hc
  | some _ =>
    cases cur' with
    | none => cases hc
    | some _ => exact .fail rfl

/-- related normal states: both at the end of the text, or both at the same non-filler character -/
theorem SR.cases {G : Grammar} {hard : Char → Bool} {st st' : St} (h : SR G hard st st') :
    (st.rest = [] ∧ st'.rest = []) ∨
    ∃ c r r', st.rest = c :: r ∧ st'.rest = c :: r' ∧ isFil G c = false ∧ LG G hard r r' := by
  cases hr : st.rest with
  | nil => exact Or.inl ⟨rfl, (h.lg.nil_iff h.n h.n').mp hr⟩
  | cons c r =>
    have hc := h.n c r hr
    have hl := h.lg
    rw [hr] at hl
    obtain ⟨r'', e, hl'⟩ := hl.head_inv hc
    exact Or.inr ⟨c, r, r'', rfl, e, hc, hl'⟩

/-- consuming the same `n ≥ 1` characters from related states whose texts stay related beyond them -/
theorem take_sim {G : Grammar} {hard : Char → Bool} (hf : [] ∉ G.filler) {st st' : St} {n : Nat} (hn : 0 < n)
    (hr : st.rest ≠ []) (hr' : st'.rest ≠ []) (heq : st.rest.take n = st'.rest.take n)
    (hlg : LG G hard (st.rest.drop n) (st'.rest.drop n)) :
    ∃ st1 st1', take G.filler st n = some (st.rest.take n, st1) ∧ take G.filler st' n = some (st.rest.take n, st1') ∧
      SR G hard st1 st1' ∧ Prog st st1 st' st1' := by
  obtain ⟨st1, ht⟩ := take_isSome G.filler hf st n
  obtain ⟨st1', ht'⟩ := take_isSome G.filler hf st' n
  have r1 := take_rest G st n _ st1 ht
  have r2 := take_rest G st' n _ st1' ht'
  have := take_length _ _ _ _ _ ht
  have := take_length _ _ _ _ _ ht'
  have := List.length_pos_iff.mpr hr
  have := List.length_pos_iff.mpr hr'
  refine ⟨st1, st1', ht, heq ▸ ht', ⟨?_, ?_, ?_⟩, Prog.strict (by omega) (by omega)⟩
  · rw [r1, r2]; exact hlg.strip
  · rw [r1]; exact stripF_normal G _
  · rw [r2]; exact stripF_normal G _

/-- … for the character both states are at -/
theorem take_one_sim {G : Grammar} {hard : Char → Bool} (hf : [] ∉ G.filler) {st st' : St} {c : Char}
    {r r' : List Char} (e : st.rest = c :: r) (e' : st'.rest = c :: r') (hl : LG G hard r r') :
    ∃ st1 st1', take G.filler st 1 = some ([c], st1) ∧ take G.filler st' 1 = some ([c], st1') ∧
      SR G hard st1 st1' ∧ Prog st st1 st' st1' := by
  have := take_sim (hard := hard) hf (st := st) (st' := st') Nat.one_pos (by rw [e]; nofun) (by rw [e']; nofun)
    (by rw [e, e']; rfl) (by rw [e, e']; exact hl)
  rwa [e] at this

/-- … for a token that matches -/
theorem take_tok_sim {G : Grammar} {hard : Char → Bool} (hf : [] ∉ G.filler) {st st' : St} (h : SR G hard st st')
    (tok : List Char) (htok : tokOK G hard tok = true) (hm : st.rest.take tok.length = tok) :
    ∃ st1 st1', take G.filler st tok.length = some (tok, st1) ∧ take G.filler st' tok.length = some (tok, st1') ∧
      SR G hard st1 st1' ∧ Prog st st1 st' st1' := by
  obtain ⟨hm', hl⟩ := h.lg.window tok htok hm
  have hne : tok ≠ [] := by rintro rfl; cases htok
  have := take_sim hf (List.length_pos_iff.mpr hne) (ne_nil_of_take_eq hm hne) (ne_nil_of_take_eq hm' hne)
    (hm.trans hm'.symm) hl
  rwa [hm] at this

/-- every token of the expression meets `tokOK` -/
def exprOK (G : Grammar) (hard : Char → Bool) : Expr → Bool
  | .lit tok _ => tokOK G hard tok
  | .filler tok _ => tokOK G hard tok
  | .literals toks _ => toks.all (tokOK G hard)
  | .opt a => exprOK G hard a
  | .star a => exprOK G hard a
  | .allCons a r => exprOK G hard a && exprOK G hard r
  | .anyCons a r => exprOK G hard a && exprOK G hard r
  | _ => true

/-- executable form of the layout hypotheses on a grammar table -/
def checkLayout (G : Grammar) (hard : Char → Bool) : Bool :=
  !(G.filler.contains []) &&
  (G.filler.all fun f => match f with
    | [c] => !identChar G c && !isDecimalChar c
    | _ => true) &&
  G.rules.all fun r => match r with | some b => exprOK G hard b | none => true

/-- what the layout theorem asks of a grammar table: `''` is not a filler; filler characters are neither identifier
characters nor decimal digits; every token is non-empty, free of hard filler, free of two adjacent filler
characters, and does not end with a filler character -/
structure LayoutOK (G : Grammar) (hard : Char → Bool) : Prop where
  filler : [] ∉ G.filler
  ident : ∀ c, isFil G c = true → identChar G c = false
  dec : ∀ c, isFil G c = true → isDecimalChar c = false
  toks : ∀ (n : Nat) body, G.rules[n]? = some (some body) → exprOK G hard body = true

theorem checkLayout_sound (G : Grammar) (hard : Char → Bool) (h : checkLayout G hard = true) : LayoutOK G hard := by
  simp only [checkLayout, Bool.and_eq_true, Bool.not_eq_true', List.all_eq_true] at h
  obtain ⟨⟨h1, h2⟩, h3⟩ := h
  have hc : ∀ c, isFil G c = true → identChar G c = false ∧ isDecimalChar c = false := by
    intro c hc
    have := h2 [c] (by simpa [isFil] using hc)
    simpa using this
  refine ⟨by simpa using h1, fun c hc' => (hc c hc').1, fun c hc' => (hc c hc').2, ?_⟩
  intro n body hb
  exact h3 (some body) (List.mem_of_getElem? hb)

/-! ### one-step unfoldings of `numberLoop` -/

theorem numberLoop_nil (G : Grammar) (st : St) (acc : List Char) (hr : st.rest = []) :
    numberLoop G st acc = some (st, acc) := by
  rw [numberLoop]
  split
  · rfl
  · rename_i c r h; rw [hr] at h; cases h

theorem numberLoop_stop (G : Grammar) (st : St) (acc : List Char) (c : Char) (r : List Char) (hr : st.rest = c :: r)
    (hd : isDecimalChar c = false) : numberLoop G st acc = some (st, acc) := by
  rw [numberLoop]
  split
  · rename_i h; simp [hr] at h
  · rename_i c' r' h
    rw [hr] at h; cases h
    simp [hd]

theorem numberLoop_step (G : Grammar) (st : St) (acc : List Char) (c : Char) (r : List Char) (hr : st.rest = c :: r)
    (hd : isDecimalChar c = true) (s : List Char) (st1 : St) (ht : take G.filler st 1 = some (s, st1)) :
    numberLoop G st acc = numberLoop G st1 (acc ++ s) := by
  rw [numberLoop]
  split
  · rename_i h; simp [hr] at h
  · rename_i c' r' h
    rw [hr] at h; cases h
    simp only [hd, if_true]
    split
    · rename_i h2; rw [ht] at h2; cases h2
    · rename_i s' st1' h2; rw [ht] at h2; cases h2; rfl

theorem ResRel.rebase {G : Grammar} {hard : Char → Bool} {st st1 st' st1' : St} {r r' : Res}
    (p : Prog st st1 st' st1') (h : ResRel G hard st1 st1' r r') : ResRel G hard st st' r r' := by
  cases h with
  | ok hs q hc => exact .ok hs (p.trans q) hc
  | fail hc => exact .fail hc
  | abort a => exact .abort a

theorem optPost_rel {G : Grammar} {hard : Char → Bool} {st st' : St} {r r' : Res} (hs : SR G hard st st')
    (h : ResRel G hard st st' r r') : ResRel G hard st st' (optPost st r) (optPost st' r') := by
  cases h with
  | ok hs1 q hc => exact .ok hs1 q hc
  | fail hc => exact .ok hs (Prog.refl _ _) (hc.catch _ _)
  | abort a => exact .abort a

theorem seqPost_rel {G : Grammar} {hard : Char → Bool} {st st' : St} {r r' : Res} (out1 : List Ast)
    (h : ResRel G hard st st' r r') : ResRel G hard st st' (seqPost out1 r) (seqPost out1 r') := by
  cases h with
  | ok hs1 q hc => exact .ok hs1 q hc
  | fail hc => exact .fail hc
  | abort a => exact .abort a

theorem nodePost_rel {G : Grammar} {hard : Char → Bool} {st st' : St} {r r' : Res} (n : Nat)
    (h : ResRel G hard st st' r r') : ResRel G hard st st' (nodePost n r) (nodePost n r') := by
  cases h with
  | ok hs1 q hc => exact .ok hs1 q hc
  | fail hc => exact .fail hc
  | abort a => exact .abort a

theorem digitLoop_sim {G : Grammar} {hard : Char → Bool} (hL : LayoutOK G hard) :
    ∀ (n : Nat) (st st' : St) (acc : List Char) (cur cur' : Option Err), SR G hard st st' → CurRel cur cur' →
      ResRel G hard st st' (digitLoop G n st acc cur) (digitLoop G n st' acc cur') := by
  intro n
  induction n with
  | zero =>
    intro st st' acc cur cur' h hc
    simp only [digitLoop, pyInt]
    cases readNat acc with
    | none => exact .abort _
    | some v => exact .ok h (Prog.refl _ _) hc
  | succ n ih =>
    intro st st' acc cur cur' h hc
    unfold digitLoop
    rcases h.cases with ⟨e1, e2⟩ | ⟨c, r, r', e1, e2, _, hl⟩
    · rw [e1, e2]; exact .fail hc
    · obtain ⟨st1, st1', t1, t2, hs, p⟩ := take_one_sim hL.filler e1 e2 hl
      rw [e1, e2]
      dsimp only
      split
      · rw [t1, t2]; exact (ih st1 st1' _ cur cur' hs hc).rebase p
      · exact .fail hc

theorem numberLoop_sim {G : Grammar} {hard : Char → Bool} (hL : LayoutOK G hard) :
    ∀ (k : Nat) (st st' : St) (acc : List Char), st.rest.length ≤ k → SR G hard st st' →
      ∃ st1 st1' out, numberLoop G st acc = some (st1, out) ∧ numberLoop G st' acc = some (st1', out) ∧
        SR G hard st1 st1' ∧ Prog st st1 st' st1' := by
  intro k
  induction k with
  | zero =>
    intro st st' acc hk h
    have e1 : st.rest = [] := List.length_eq_zero_iff.mp (Nat.le_zero.mp hk)
    have e2 := (h.lg.nil_iff h.n h.n').mp e1
    exact ⟨st, st', acc, numberLoop_nil G st acc e1, numberLoop_nil G st' acc e2, h, Prog.refl _ _⟩
  | succ k ih =>
    intro st st' acc hk h
    rcases h.cases with ⟨e1, e2⟩ | ⟨c, r, r', e1, e2, _, hl⟩
    · exact ⟨st, st', acc, numberLoop_nil G st acc e1, numberLoop_nil G st' acc e2, h, Prog.refl _ _⟩
    · cases hd : isDecimalChar c with
      | true =>
        obtain ⟨st1, st1', t1, t2, hs, p⟩ := take_one_sim hL.filler e1 e2 hl
        have := take_length _ _ _ _ _ t1
        obtain ⟨st2, st2', out, n1, n2, hs2, p2⟩ := ih st1 st1' (acc ++ [c]) (by rw [e1] at hk this; simp at hk this; omega) hs
        refine ⟨st2, st2', out, ?_, ?_, hs2, p.trans p2⟩
        · rw [numberLoop_step G st acc c r e1 hd _ _ t1]; exact n1
        · rw [numberLoop_step G st' acc c r' e2 hd _ _ t2]; exact n2
      | false =>
        exact ⟨st, st', acc, numberLoop_stop G st acc c r e1 hd, numberLoop_stop G st' acc c r' e2 hd, h, Prog.refl _ _⟩

theorem literalsLoop_sim {G : Grammar} {hard : Char → Bool} (hL : LayoutOK G hard) {st st' : St} (h : SR G hard st st') :
    ∀ (toks : List (List Char)) (cur cur' : Option Err), (∀ t ∈ toks, tokOK G hard t = true) → CurRel cur cur' →
      ResRel G hard st st' (literalsLoop G st toks cur) (literalsLoop G st' toks cur') := by
  intro toks
  induction toks with
  | nil =>
    intro cur cur' _ hc
    simp only [literalsLoop]
    exact ResRel.raise hc
  | cons tok more ih =>
    intro cur cur' hall hc
    have htok := hall tok (List.mem_cons_self ..)
    unfold literalsLoop
    simp only [← h.lg.window_iff tok htok]
    split
    · next hm =>
      obtain ⟨st1, st1', t1, t2, hs, p⟩ := take_tok_sim hL.filler h tok htok hm
      rw [t1, t2]
      exact .ok hs p hc
    · exact ih _ _ (fun t ht => hall t (List.mem_cons_of_mem _ ht)) (hc.catch _ _)

theorem evalLeaf_sim {G : Grammar} {hard : Char → Bool} (hL : LayoutOK G hard) (e : Expr) {st st' : St}
    {cur cur' : Option Err} (h : SR G hard st st') (hc : CurRel cur cur') (he : exprOK G hard e = true) :
    ResRel G hard st st' (evalLeaf G e st cur) (evalLeaf G e st' cur') := by
  cases e with
  | eos =>
    simp only [evalLeaf, ← h.lg.nil_iff h.n h.n']
    split
    · exact .ok h (Prog.refl _ _) hc
    · exact .fail hc
  | digit n => exact digitLoop_sim hL n st st' [] cur cur' h hc
  | number =>
    simp only [evalLeaf]
    rcases h.cases with ⟨e1, e2⟩ | ⟨c, r, r', e1, e2, _, hl⟩
    · rw [e1, e2]; exact .fail hc
    · obtain ⟨st1, st1', t1, t2, hs, p⟩ := take_one_sim hL.filler e1 e2 hl
      obtain ⟨st2, st2', out, n1, n2, hs2, p2⟩ := numberLoop_sim hL _ st1 st1' [c] (Nat.le_refl _) hs
      rw [e1, e2]
      dsimp only
      split
      · simp only [t1, t2, n1, n2]
        cases readNat out with
        | none => exact .fail hc
        | some v => exact .ok hs2 (p.trans p2) hc
      · exact .fail hc
  | string =>
    simp only [evalLeaf]
    rcases h.cases with ⟨e1, e2⟩ | ⟨c, r, r', e1, e2, _, hl⟩
    · rw [e1, e2]; exact .fail hc
    · obtain ⟨i1, i2, i3⟩ := hl.ident hL.ident
      obtain ⟨st1, st1', t1, t2, hs, p⟩ := take_sim (hard := hard) hL.filler (st := st) (st' := st')
        (Nat.succ_pos (identRun G r)) (by rw [e1]; nofun) (by rw [e2]; nofun)
        (by rw [e1, e2, List.take_succ_cons, List.take_succ_cons, i2]) (by rw [e1, e2]; exact i3)
      rw [e1, e2]
      dsimp only
      split
      · rw [← i1, t1, t2]; exact .ok hs p hc
      · exact .fail hc
  | lit tok noErr | filler tok noErr =>
    simp only [evalLeaf, ← h.lg.window_iff tok he]
    split
    · next hm =>
      obtain ⟨st1, st1', t1, t2, hs, p⟩ := take_tok_sim hL.filler h tok he hm
      rw [t1, t2]
      exact .ok hs p hc
    · exact .fail hc
  | literals toks name =>
    have g := literalsLoop_sim hL h toks cur cur' (List.all_eq_true.mp he) hc
    simp only [evalLeaf]
    generalize literalsLoop G st toks cur = r1 at g
    generalize literalsLoop G st' toks cur' = r2 at g
    cases g with
    | ok hs1 q hc1 => exact .ok hs1 q hc1
    | fail hc1 => cases name <;> exact .fail hc1
    | abort a => exact .abort a
  | _ => exact .abort _

/-- **lock-step simulation**: on related states, with error registers that are both empty or both set, the engine
run on any expression whose tokens meet the layout hypotheses takes the same decisions: both succeed with the same
output trees on related states (advancing together), or both fail, or both abort alike. -/
theorem eval_sim {G : Grammar} {hard : Char → Bool} (hL : LayoutOK G hard) :
    ∀ (e : Expr) (st : St) (cur : Option Err) (bound : Nat) (st' : St) (cur' : Option Err), SR G hard st st' →
      CurRel cur cur' → exprOK G hard e = true →
      ResRel G hard st st' (eval G e st cur bound) (eval G e st' cur' bound) := by
  refine eval_induction G ?leaf ?opt ?star ?allNil ?allCons ?anyNil ?anyCons ?ref
  case leaf =>
    intro e st cur b hl st' cur' h hc he
    rw [eval_leaf G st cur b hl, eval_leaf G st' cur' b hl]
    exact evalLeaf_sim hL e h hc he
  case opt =>
    intro a st cur b ih st' cur' h hc he
    rw [eval_opt, eval_opt]
    exact optPost_rel h (ih st' cur' h hc he)
  case star =>
    intro a st cur b ih1 ih2 st' cur' h hc he
    have g := ih1 st' cur' h hc he
    rw [eval_star, eval_star]
    generalize h1 : eval G a st cur b = r1 at g
    generalize eval G a st' cur' b = r2 at g
    cases g with
    | fail hc1 => exact .ok h (Prog.refl _ _) (hc1.catch _ _)
    | abort a' => exact .abort a'
    | @ok st1 st1' out1 cur1 cur1' hs1 q hc1 =>
      dsimp only
      simp only [← q.lt]
      split
      · next hlt => exact (seqPost_rel out1 (ih2 _ _ _ h1 hlt st1' cur1' hs1 hc1 he)).rebase q
      · exact .abort _
  case allNil =>
    intro st cur b st' cur' h hc _
    rw [eval_allNil, eval_allNil]
    exact .ok h (Prog.refl _ _) hc
  case allCons =>
    intro a rest st cur b ih1 ih2 st' cur' h hc he
    simp only [exprOK, Bool.and_eq_true] at he
    have g := ih1 st' cur' h hc he.1
    rw [eval_allCons, eval_allCons]
    generalize h1 : eval G a st cur b = r1 at g
    generalize eval G a st' cur' b = r2 at g
    cases g with
    | fail hc1 => exact .fail hc1
    | abort a' => exact .abort a'
    | @ok st1 st1' out1 cur1 cur1' hs1 q hc1 =>
      dsimp only
      rw [if_neg (Nat.not_lt.mpr q.le), if_neg (Nat.not_lt.mpr q.le')]
      simp only [← q.lt]
      exact (seqPost_rel out1 (ih2 _ _ _ h1 q.le st1' cur1' hs1 hc1 he.2)).rebase q
  case anyNil =>
    intro st cur b st' cur' h hc _
    rw [eval_anyNil, eval_anyNil]
    exact .raise hc
  case anyCons =>
    intro a rest st cur b ih1 ih2 st' cur' h hc he
    simp only [exprOK, Bool.and_eq_true] at he
    have g := ih1 st' cur' h hc he.1
    rw [eval_anyCons, eval_anyCons]
    generalize h1 : eval G a st cur b = r1 at g
    generalize eval G a st' cur' b = r2 at g
    cases g with
    | ok hs1 q hc1 => exact .ok hs1 q hc1
    | abort a' => exact .abort a'
    | fail hc1 => exact ih2 _ _ h1 st' _ h (hc1.catch _ _) he.2
  case ref =>
    intro n st cur b ih st' cur' h hc _
    rw [eval_ref, eval_ref]
    split
    · next body hb =>
      split
      · next r hr =>
        split
        · next hlt => exact nodePost_rel n (ih body r hb hr hlt st' cur' h hc (hL.toks n body hb))
        · exact .abort _
      · exact .abort _
    · exact .abort _

/-- two parse outcomes of the same class; accepted ones carry the same tree -/
inductive ParseRel : ParseRes → ParseRes → Prop
  | accepted (t : Ast) (fin fin' : St) : ParseRel (.accepted t fin) (.accepted t fin')
  | syntaxError (e e' : Err) : ParseRel (.syntaxError e) (.syntaxError e')
  | abort (a : Abort) : ParseRel (.abort a) (.abort a)

theorem skipFiller_rest (G : Grammar) (hf : [] ∉ G.filler) (st : St) :
    ∃ st0, skipFiller G.filler st = some st0 ∧ st0.rest = stripF G st.rest := by
  unfold skipFiller
  obtain ⟨st0, h0⟩ := skipFillerAux_isSome G.filler hf st.rest st.idx st.line st.col
  exact ⟨st0, h0, skipFillerAux_rest G _ _ _ _ _ h0⟩

/-- **layout theorem for `parse`**: two texts that, once leading filler is dropped, differ only in opaque gaps and
trailing filler are both rejected, or abort alike, or are both accepted **with the same tree**. -/
theorem parse_layout {G : Grammar} {hard : Char → Bool} (hL : LayoutOK G hard) (s s' : List Char)
    (h : LG G hard (stripF G s) (stripF G s')) : ParseRel (parse G s) (parse G s') := by
  unfold parse
  obtain ⟨st0, e0, r0⟩ := skipFiller_rest G hL.filler ⟨s, 0, 1, 1⟩
  obtain ⟨st0', e0', r0'⟩ := skipFiller_rest G hL.filler ⟨s', 0, 1, 1⟩
  rw [e0, e0']
  simp only
  have hs : SR G hard st0 st0' := ⟨by rw [r0, r0']; exact h, by rw [r0]; exact stripF_normal G _, by rw [r0']; exact stripF_normal G _⟩
  have g := eval_sim hL (.ref G.root) st0 none G.top st0' none hs rfl rfl
  generalize eval G (.ref G.root) st0 none G.top = r1 at g ⊢
  generalize eval G (.ref G.root) st0' none G.top = r2 at g ⊢
  cases g with
  | fail _ => exact .syntaxError _ _
  | abort a => exact .abort a
  | @ok st1 st1' out cur cur' hs1 q hc1 =>
    simp only
    by_cases hr : st1.rest = []
    · rw [if_pos hr, if_pos ((hs1.lg.nil_iff hs1.n hs1.n').mp hr)]
      cases out with
      | nil => exact .abort _
      | cons t ts => exact .accepted t _ _
    · rw [if_neg hr, if_neg (fun h' => hr ((hs1.lg.nil_iff hs1.n hs1.n').mpr h'))]
      exact .syntaxError _ _

end PGA.Ring
