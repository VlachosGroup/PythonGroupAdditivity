import PGA.Proofs.Estimate
import PGA.Props.C01
import PGA.Props.C19
import PGA.Proofs.EstimateUQ
import PGA.Proofs.DiagDominant
import PGA.Proofs.SchemeUnion
import PGA.Spec.Pipeline
import Mathlib.Algebra.BigOperators.Group.Finset.Basic
/-! Helper lemmas for the pipeline theorems (`Props/Pipeline.lean`), in this order: `estimate` stops at the stage `outcomeKind`
names; the common range as a fold that sees only the set of ranges; `outcomeKind` as a function of the set of names listed, and
of a mapping in two parts (`mixKind`); a dictionary with distinct keys through its counts (permutation, weighted sums); the
same for a dictionary whose names are the union of two others'; count vector, bilinear and quadratic form of the uncertainty
block; additivity of getter results through derived getters (`SumVal.map₂`, `SumVal.scale`); the molecule on record
(`withName`) and the pipeline stage by stage (`pipeline_eq` and its corollaries, `mixP`); how `_do_load` keys a library. -/
namespace PGA.Estimate

section
variable {N S : Type} [DecidableEq N] [DecidableEq S]

omit [DecidableEq S] in
theorem uqPart_kind (lib : Library N S) (gs : List (N × Rat)) :
    uqKind lib gs = match uqPart lib gs with | .ok _ => none | .error e => some (estKind e) := by
  unfold uqPart uqKind buildUQ
  cases lib.uq with
  | none => rfl
  | some u =>
    have hall : gs.all (fun g => decide (g.1 ∈ u.basis)) = true ↔ ∃ y, placeX u.basis gs (zeros u.basis.length) = .ok y := by
      rw [placeX_ok_iff, List.all_eq_true]
      simp only [decide_eq_true_eq]
    cases hp : placeX u.basis gs (zeros u.basis.length) with
    | ok y =>
      simp only [hall.mpr ⟨y, hp⟩, hp]
      cases shapeOK u.basis.length u.mat <;> rfl
    | error e =>
      obtain ⟨g, rfl⟩ := placeX_error u.basis gs _ _ hp
      have : ¬ gs.all (fun g => decide (g.1 ∈ u.basis)) = true := fun h => by
        obtain ⟨y, hy⟩ := hall.mp h
        rw [hp] at hy; cases hy
      simp only [this, hp]
      rfl

omit [DecidableEq N] in
theorem finish_kind (name : Option (List Nat)) (cs : List (Corr × Rat)) (uq : Option UQE) :
    kindOf (finish (N := N) name cs uq) = rangeKind cs := by
  unfold finish rangeKind
  cases commonRange cs with
  | none => rfl
  | some r => dsimp only; split <;> rfl

/-- **`Estimate` goes the way `outcomeKind` says.** -/
theorem estimate_kind (reg : List S) (lib : Library N S) (gs : List (N × Rat)) (s : S) :
    kindOf (estimate reg lib gs s) = outcomeKind reg lib gs s := by
  unfold estimate outcomeKind
  rw [missingGroups_eq_spec, uqPart_kind]
  cases reg.contains s with
  | false => rfl
  | true =>
    cases hm : specMissing lib s gs with
    | cons m ms => rfl
    | nil =>
      obtain ⟨cs, hcs⟩ := collect_of_noMissing lib s gs hm
      have hterms : cs = termsOf lib s gs := terms_eq_map lib s gs cs (collect_ok lib s gs cs hcs)
      unfold construct
      simp only [hcs, if_true, List.isEmpty_nil]
      cases uqPart lib gs with
      | error e => rfl
      | ok q => simp only [finish_kind, hterms]

end

/-! ### the common range depends on the *set* of the constituents' ranges only -/

theorem interRange_comm (a b : Option (Rat × Rat)) : interRange a b = interRange b a := by
  rcases a with _ | ⟨a1, a2⟩ <;> rcases b with _ | ⟨b1, b2⟩ <;>
    simp only [interRange, pyMax_eq_max, pyMin_eq_min, Option.some.injEq, Prod.mk.injEq]
  exact ⟨max_comm _ _, min_comm _ _⟩

theorem interRange_assoc (a b c : Option (Rat × Rat)) :
    interRange (interRange a b) c = interRange a (interRange b c) := by
  rcases a with _ | ⟨a1, a2⟩ <;> rcases b with _ | ⟨b1, b2⟩ <;> rcases c with _ | ⟨c1, c2⟩ <;>
    simp only [interRange, pyMax_eq_max, pyMin_eq_min, Option.some.injEq, Prod.mk.injEq]
  exact ⟨max_assoc _ _ _, min_assoc _ _ _⟩

theorem interRange_idem (a : Option (Rat × Rat)) : interRange a a = a := by
  rcases a with _ | ⟨a1, a2⟩ <;> simp [interRange, pyMax_eq_max, pyMin_eq_min]

local instance : Std.Commutative interRange := ⟨interRange_comm⟩
local instance : Std.Associative interRange := ⟨interRange_assoc⟩
local instance : Std.IdempotentOp interRange := ⟨interRange_idem⟩

/-- The range loop of `__init__` as a fold over the multiset of the terms' ranges.  Intersection is commutative, associative
and idempotent, so the fold does not see the order of the ranges (`Multiset.fold`), nor how often one occurs
(`Multiset.fold_dedup_idem`): it is a function of the set of ranges. -/
theorem commonRange_eq_fold (cs : List (Corr × Rat)) :
    commonRange cs = Multiset.fold interRange none ((cs.map (·.1.range) : List _) : Multiset _) := by
  rw [Multiset.coe_fold_l, List.foldl_map]
  rfl

theorem commonRange_congr {cs cs' : List (Corr × Rat)} (h : ∀ r, r ∈ cs.map (·.1.range) ↔ r ∈ cs'.map (·.1.range)) :
    commonRange cs = commonRange cs' := by
  rw [commonRange_eq_fold, commonRange_eq_fold, ← Multiset.fold_dedup_idem,
    (Multiset.dedup_ext (t := ((cs'.map (·.1.range) : List _) : Multiset _))).mpr h, Multiset.fold_dedup_idem]

theorem commonRange_append (cs cs' : List (Corr × Rat)) :
    commonRange (cs ++ cs') = interRange (commonRange cs) (commonRange cs') := by
  rw [commonRange_eq_fold, commonRange_eq_fold, commonRange_eq_fold, List.map_append, ← Multiset.coe_add]
  exact Multiset.fold_add interRange none none _ _

section
variable {N S : Type} [DecidableEq N] [DecidableEq S]

/-! #### `outcomeKind` sees the mapping only through the set of names it lists -/

theorem specMissing_mem (lib : Library N S) (s : S) (gs : List (N × Rat)) (g : N) :
    g ∈ specMissing lib s gs ↔ g ∈ gs.map (·.1) ∧ corrOf lib s g = none := by
  unfold specMissing
  rw [List.mem_filter, Option.isNone_iff_eq_none]

theorem commonRange_termsOf_congr (lib : Library N S) (s : S) {gs gs' : List (N × Rat)}
    (h : ∀ k, k ∈ gs.map (·.1) ↔ k ∈ gs'.map (·.1)) : commonRange (termsOf lib s gs) = commonRange (termsOf lib s gs') := by
  apply commonRange_congr
  have e : ∀ l : List (N × Rat), (termsOf lib s l).map (·.1.range) = (l.map (·.1)).map fun k => (corrD lib s k).range :=
    fun l => by simp only [termsOf, List.map_map, Function.comp_def]
  simp only [e, List.mem_map, h, implies_true]

theorem outcomeKind_congr (reg : List S) (lib : Library N S) {gs gs' : List (N × Rat)} (s : S)
    (h : ∀ k, k ∈ gs.map (·.1) ↔ k ∈ gs'.map (·.1)) : outcomeKind reg lib gs s = outcomeKind reg lib gs' s := by
  have hm : (specMissing lib s gs).isEmpty = (specMissing lib s gs').isEmpty := by
    rw [Bool.eq_iff_iff]
    simp only [List.isEmpty_iff, List.eq_nil_iff_forall_not_mem, specMissing_mem, h]
  have hb : ∀ basis : List N, gs.all (fun g => decide (g.1 ∈ basis)) = gs'.all (fun g => decide (g.1 ∈ basis)) := by
    intro basis
    have e : ∀ l : List (N × Rat), l.all (fun g => decide (g.1 ∈ basis)) = (l.map (·.1)).all (decide <| · ∈ basis) :=
      fun l => by rw [List.all_map]; rfl
    rw [Bool.eq_iff_iff]
    simp only [e, List.all_eq_true, h]
  unfold outcomeKind uqKind rangeKind
  simp only [hm, hb, commonRange_termsOf_congr lib s h]

/-- **order of the mapping, every outcome**: `Estimate` on a reordered mapping succeeds or fails at the same stage, and a
missing-data error names the same descriptors (in the new order) -/
theorem estimate_perm_kind (reg : List S) (lib : Library N S) {gs gs' : List (N × Rat)} (s : S) (h : gs.Perm gs') :
    kindOf (estimate reg lib gs' s) = kindOf (estimate reg lib gs s) ∧
    ∀ ds, estimate reg lib gs s = .error (.missing ds) →
      ∃ ds', estimate reg lib gs' s = .error (.missing ds') ∧ ds'.Perm ds := by
  refine ⟨by rw [estimate_kind, estimate_kind, outcomeKind_congr reg lib s fun k => (h.map _).mem_iff], ?_⟩
  intro ds hds
  obtain ⟨hr, rfl, hne⟩ := (C01_missing_iff reg lib gs s ds).mp hds
  have hp : (specMissing lib s gs').Perm (specMissing lib s gs) := (h.symm.map _).filter _
  exact ⟨_, (C01_missing_iff reg lib gs' s _).mpr ⟨hr, rfl, fun e => hne (e ▸ hp).symm.eq_nil⟩, hp⟩

theorem rangeKind_eq (cs : List (Corr × Rat)) : rangeKind cs = rangeKindOf (commonRange cs) := rfl

theorem rangeKindOf_mem (r : Option (Rat × Rat)) : rangeKindOf r ∈ [none, some .emptyRange] := by
  unfold rangeKindOf
  rcases r with _ | ⟨lo, hi⟩
  · exact List.mem_cons_self
  · dsimp only
    split
    · exact List.mem_cons_self
    · exact List.mem_cons_of_mem _ List.mem_cons_self

/-- **`Estimate` on a mapping in two parts**: each observation `outcomeKind` makes of `gA ++ gB` is the conjunction of what it
makes of the parts (registry and matrix shape are the same for all three), so the stage is decided by `mixKind`'s table. -/
theorem outcomeKind_append (reg : List S) (lib : Library N S) (s : S) (gA gB : List (N × Rat)) :
    outcomeKind reg lib (gA ++ gB) s = mixKind (outcomeKind reg lib gA s) (outcomeKind reg lib gB s)
      (rangeKindOf (interRange (commonRange (termsOf lib s gA)) (commonRange (termsOf lib s gB)))) := by
  have hm : specMissing lib s (gA ++ gB) = specMissing lib s gA ++ specMissing lib s gB := by
    simp only [specMissing, List.map_append, List.filter_append]
  have ht : termsOf lib s (gA ++ gB) = termsOf lib s gA ++ termsOf lib s gB := List.map_append
  have he : ∀ a b : List N, (a ++ b).isEmpty = (a.isEmpty && b.isEmpty) := fun a b => by cases a <;> rfl
  unfold outcomeKind uqKind
  simp only [rangeKind_eq, List.all_append]
  rw [hm, ht, he, commonRange_append]
  have hU := rangeKindOf_mem (interRange (commonRange (termsOf lib s gA)) (commonRange (termsOf lib s gB)))
  have hA := rangeKindOf_mem (commonRange (termsOf lib s gA))
  have hB := rangeKindOf_mem (commonRange (termsOf lib s gB))
  generalize rangeKindOf (interRange _ _) = rU at hU ⊢
  generalize rangeKindOf (commonRange (termsOf lib s gA)) = rA at hA ⊢
  generalize rangeKindOf (commonRange (termsOf lib s gB)) = rB at hB ⊢
  generalize (specMissing lib s gA).isEmpty = mA
  generalize (specMissing lib s gB).isEmpty = mB
  generalize reg.contains s = r0
  -- with the observations as variables (booleans, range verdicts that are `none` or `emptyRange`) what is left is `mixKind`'s
  -- finite table of precedences
  cases lib.uq with
  | none =>
    dsimp only
    revert r0 mA mB rU rA rB
    decide +kernel
  | some u =>
    dsimp only
    generalize gA.all _ = bA
    generalize gB.all _ = bB
    generalize shapeOK _ _ = sh
    revert r0 mA mB bA bB sh rU rA rB
    decide +kernel

end
end PGA.Estimate

namespace PGA.Pipeline
open PGA PGA.Scheme PGA.Estimate

/-! ### a dictionary with distinct keys is determined, up to order, by its key set and its `get` -/

theorem counts_perm {c c' : Counts} (hc : (Counts.keys c).Nodup) (hc' : (Counts.keys c').Nodup)
    (hk : ∀ k, k ∈ Counts.keys c ↔ k ∈ Counts.keys c') (hg : ∀ k, c.get k = c'.get k) : c.Perm c' := by
  have mem : ∀ d : Counts, (Counts.keys d).Nodup → ∀ p : String × Rat, p ∈ d ↔ p.1 ∈ Counts.keys d ∧ d.get p.1 = p.2 := by
    intro d hd p
    refine ⟨fun hp => ⟨List.mem_map_of_mem hp, Counts.get_of_mem d hd p hp⟩, ?_⟩
    rintro ⟨hk, hg⟩
    obtain ⟨q, hq, hq1⟩ := List.mem_map.mp hk
    have : q = p := Prod.ext hq1 (by rw [← Counts.get_of_mem d hd q hq, hq1, hg])
    exact this ▸ hq
  rw [List.perm_ext_iff_of_nodup (hc.of_map _) (hc'.of_map _)]
  intro p
  rw [mem c hc, mem c' hc', hk, hg]

section
variable (lib : Library String String) (s : String) (get : Corr → Val)

/-- the weighted sum over the entries of a dictionary is a sum over any finite set of names containing its keys: a name
that is not listed has the count 0 -/
theorem specEstimate_finset (c : Counts) (hc : (Counts.keys c).Nodup) (K : Finset String) (hK : ∀ k ∈ Counts.keys c, k ∈ K) :
    specEstimate lib s get c = ∑ k ∈ K, c.get k * valOf lib s get k := by
  unfold specEstimate
  rw [sum_entries_eq_sum_keys c hc fun k n => n * valOf lib s get k, ← List.sum_toFinset _ hc]
  apply Finset.sum_subset fun k hk => hK k (List.mem_toFinset.mp hk)
  intro k _ hk
  rw [Counts.get_of_not_mem c k fun h => hk (List.mem_toFinset.mpr h), zero_mul]

/-- **the weighted sum depends on the counts only**: same `get` on every name ⇒ same `Σ n·x_d`, whatever the order of
the entries and whichever names carry an explicit zero -/
theorem specEstimate_congr (c c' : Counts) (hc : (Counts.keys c).Nodup) (hc' : (Counts.keys c').Nodup)
    (hg : ∀ k, c.get k = c'.get k) : specEstimate lib s get c = specEstimate lib s get c' := by
  rw [specEstimate_finset lib s get c hc (Counts.keys c ++ Counts.keys c').toFinset fun k hk => by simp [hk],
    specEstimate_finset lib s get c' hc' (Counts.keys c ++ Counts.keys c').toFinset fun k hk => by simp [hk]]
  simp only [hg]

/-- **… and is additive in them**: `get_U = get_A + get_B` on every name ⇒ `Σ_U = Σ_A + Σ_B` -/
theorem specEstimate_add (cU cA cB : Counts) (hU : (Counts.keys cU).Nodup) (hA : (Counts.keys cA).Nodup)
    (hB : (Counts.keys cB).Nodup) (hg : ∀ k, cU.get k = cA.get k + cB.get k) :
    specEstimate lib s get cU = specEstimate lib s get cA + specEstimate lib s get cB := by
  rw [specEstimate_finset lib s get cU hU (Counts.keys cU ++ Counts.keys cA ++ Counts.keys cB).toFinset fun k hk => by simp [hk],
    specEstimate_finset lib s get cA hA (Counts.keys cU ++ Counts.keys cA ++ Counts.keys cB).toFinset fun k hk => by simp [hk],
    specEstimate_finset lib s get cB hB (Counts.keys cU ++ Counts.keys cA ++ Counts.keys cB).toFinset fun k hk => by simp [hk],
    ← Finset.sum_add_distrib]
  simp only [hg, add_mul]

end

/-! ### `Estimate` on a dictionary whose names are the union of two others' (C04) -/

section
variable {lib : Lib} {s : String} {cU cA cB : Counts}
  (hk : ∀ k, k ∈ Counts.keys cU ↔ k ∈ Counts.keys cA ∨ k ∈ Counts.keys cB)
include hk

theorem keys_union_append (k : String) : k ∈ cU.map (·.1) ↔ k ∈ (cA ++ cB).map (·.1) := by
  rw [List.map_append, List.mem_append]
  exact hk k

theorem specMissing_union (g : String) :
    g ∈ specMissing lib s cU ↔ g ∈ specMissing lib s cA ∨ g ∈ specMissing lib s cB := by
  rw [specMissing_mem, specMissing_mem, specMissing_mem, ← or_and_right]
  exact and_congr_left' (hk g)

theorem commonRange_termsOf_union :
    commonRange (termsOf lib s cU) = interRange (commonRange (termsOf lib s cA)) (commonRange (termsOf lib s cB)) := by
  rw [commonRange_termsOf_congr lib s (keys_union_append hk), ← commonRange_append]
  exact congrArg commonRange List.map_append

/-- **`Estimate` on a union of names.** -/
theorem outcomeKind_union (reg : List String) :
    outcomeKind reg lib cU s = mixKind (outcomeKind reg lib cA s) (outcomeKind reg lib cB s)
      (rangeKindOf (interRange (commonRange (termsOf lib s cA)) (commonRange (termsOf lib s cB)))) := by
  rw [outcomeKind_congr reg lib s (keys_union_append hk), outcomeKind_append]

end

theorem estimate_range {reg : List String} {lib : Lib} {c : Counts} {s : String} {e : Estimator}
    (he : estimate reg lib c s = .ok e) : e.range = commonRange (termsOf lib s c) := by
  obtain ⟨_, _, hc⟩ := (estimate_ok_iff reg lib c s e).mp he
  obtain ⟨h1, _, h3⟩ := construct_ok lib s c e hc
  rw [h3, terms_eq_map lib s c _ (collect_ok lib s c _ h1)]
  rfl

/-! ### the count vector of the uncertainty block and the quadratic form -/

theorem counts_lookup_get (c : Counts) (k : String) :
    (match c.lookup k with | some n => n | none => 0) = c.get k := by
  induction c with
  | nil => rfl
  | cons p c ih =>
    obtain ⟨k0, v0⟩ := p
    by_cases h : k0 = k
    · subst h; simp [List.lookup, Counts.get]
    · have h' : (k == k0) = false := by
        rw [beq_eq_false_iff_ne]; exact fun e => h e.symm
      simp only [List.lookup, h', Counts.get, h, if_false]
      exact ih

/-- entry `i` of the count vector is the count the dictionary gives the `i`-th basis descriptor -/
theorem specX_counts (basis : List String) (c : Counts) : specX basis c = basis.map c.get := by
  unfold specX
  apply List.map_congr_left
  intro b _
  exact counts_lookup_get c b

/-- the bilinear form as a double sum over `Fin n` -/
theorem specBilin_eq_sum (n : ℕ) (M : List (List Rat)) (x y : List Rat) (hM : Square n M) (hx : x.length = n)
    (hy : y.length = n) :
    specBilin M x y = ∑ i : Fin n, ∑ j : Fin n, x.getD i 0 * entry M i j * y.getD j 0 := by
  unfold specBilin
  rw [sum_zipWith_fin _ 0 [] n x M hx hM.1]
  apply Finset.sum_congr rfl
  intro i _
  have hrow : (M.getD i []).length = n := by
    apply hM.2
    rw [List.getD_eq_getElem (l := M) (d := []) (by rw [hM.1]; exact i.2)]
    exact List.getElem_mem _
  unfold specDot
  rw [sum_zipWith_fin _ 0 0 n _ y hrow hy, Finset.mul_sum]
  apply Finset.sum_congr rfl
  intro j _
  simp only [entry]
  ring

/-- for a symmetric matrix `xᵀMy = yᵀMx` -/
theorem specBilin_symm (n : ℕ) (M : List (List Rat)) (x y : List Rat) (hM : Square n M) (hx : x.length = n)
    (hy : y.length = n) (hsym : ∀ i j, entry M i j = entry M j i) : specBilin M x y = specBilin M y x := by
  rw [specBilin_eq_sum n M x y hM hx hy, specBilin_eq_sum n M y x hM hy hx, Finset.sum_comm]
  refine Finset.sum_congr rfl fun j _ => Finset.sum_congr rfl fun i _ => ?_
  rw [hsym i j]
  ring

theorem specX_add (basis : List String) (cU cA cB : Counts) (hg : ∀ k, cU.get k = cA.get k + cB.get k) :
    specX basis cU = vplus (specX basis cA) (specX basis cB) := by
  simp only [specX_counts, vplus, List.zipWith_map_left, List.zipWith_map_right, List.zipWith_self]
  exact List.map_congr_left fun b _ => hg b

theorem vplus_getD (x y : List Rat) (h : x.length = y.length) (i : Nat) :
    (vplus x y).getD i 0 = x.getD i 0 + y.getD i 0 := by
  unfold vplus
  simp only [List.getD_eq_getElem?_getD, List.getElem?_zipWith]
  by_cases hi : i < x.length
  · simp [List.getElem?_eq_getElem hi, List.getElem?_eq_getElem (h ▸ hi)]
  · simp [List.getElem?_eq_none_iff.mpr (not_lt.mp hi), List.getElem?_eq_none_iff.mpr (h ▸ not_lt.mp hi)]

/-- **the quadratic form of a sum**: `(x+y)ᵀM(x+y) = xᵀMx + yᵀMy + xᵀMy + yᵀMx` -/
theorem specQuad_vplus (n : ℕ) (M : List (List Rat)) (x y : List Rat) (hM : Square n M) (hx : x.length = n)
    (hy : y.length = n) :
    specQuad M (vplus x y) = specQuad M x + specQuad M y + specBilin M x y + specBilin M y x := by
  have hl : (vplus x y).length = n := by simp [vplus, hx, hy]
  show specBilin M _ _ = specBilin M x x + specBilin M y y + _ + _
  simp only [specBilin_eq_sum n M _ _ hM hl hl, specBilin_eq_sum n M _ _ hM hx hx, specBilin_eq_sum n M _ _ hM hy hy,
    specBilin_eq_sum n M _ _ hM hx hy, specBilin_eq_sum n M _ _ hM hy hx, ← Finset.sum_add_distrib,
    vplus_getD x y (hx.trans hy.symm)]
  refine Finset.sum_congr rfl fun i _ => Finset.sum_congr rfl fun j _ => ?_
  ring

/-! ### a datum of the estimate of a union of names with added counts -/

theorem forall_entries_iff_keys (c : Counts) (P : String → Prop) : (∀ g ∈ c, P g.1) ↔ ∀ k ∈ Counts.keys c, P k := by
  unfold Counts.keys
  simp only [List.mem_map, forall_exists_index, and_imp, forall_apply_eq_imp_iff₂]

theorem wsum_union (get : Corr → Val) {reg : List String} {lib : Lib} {s : String} {cU cA cB : Counts}
    {eU eA eB : Estimator} (hU : (Counts.keys cU).Nodup) (hA : (Counts.keys cA).Nodup) (hB : (Counts.keys cB).Nodup)
    (hg : ∀ k, cU.get k = cA.get k + cB.get k)
    (hk : ∀ k, k ∈ Counts.keys cU ↔ k ∈ Counts.keys cA ∨ k ∈ Counts.keys cB)
    (heU : estimate reg lib cU s = .ok eU) (heA : estimate reg lib cA s = .ok eA) (heB : estimate reg lib cB s = .ok eB) :
    SumVal (wsum get eU.correlations) (wsum get eA.correlations) (wsum get eB.correlations) := by
  intro v
  simp only [C01_value_iff get reg lib _ s _ heU, C01_value_iff get reg lib _ s _ heA, C01_value_iff get reg lib _ s _ heB,
    forall_entries_iff_keys, specEstimate_add lib s get cU cA cB hU hA hB hg]
  constructor
  · rintro ⟨h, rfl⟩
    exact ⟨_, _, ⟨fun k hk' => h k ((hk k).mpr (Or.inl hk')), rfl⟩, ⟨fun k hk' => h k ((hk k).mpr (Or.inr hk')), rfl⟩, rfl⟩
  · rintro ⟨x, y, ⟨h1, rfl⟩, ⟨h2, rfl⟩, rfl⟩
    exact ⟨fun k hk' => ((hk k).mp hk').elim (h1 k) (h2 k), rfl⟩

/-! ### additivity of getter results survives the getters built on them -/

/-- a getter computed from two others by a function additive in the pair: `G/RT = H/RT − S/R`, `S/R = Σ − S_elements` -/
theorem SumVal.map₂ {u a b u' a' b' : Val} (h : SumVal u a b) (h' : SumVal u' a' b') (f : Rat → Rat → Rat)
    (hf : ∀ x x' y y', f (x + x') (y + y') = f x y + f x' y') :
    let g (w w' : Val) : Val :=
      match w with
      | .error e => .error e
      | .ok x => match w' with
        | .error e => .error e
        | .ok y => .ok (f x y)
    SumVal (g u u') (g a a') (g b b') := by
  intro g v
  have key : ∀ (w w' : Val) v, g w w' = .ok v ↔ ∃ x y, w = .ok x ∧ w' = .ok y ∧ v = f x y := by
    rintro (_ | x) (_ | y) v <;>
      simp only [g, reduceCtorEq, false_and, and_false, exists_false, Except.ok.injEq, exists_and_left, exists_eq_left', eq_comm]
  simp only [key]
  constructor
  · rintro ⟨x, y, hx, hy, rfl⟩
    obtain ⟨x1, x2, h1, h2, rfl⟩ := (h x).mp hx
    obtain ⟨y1, y2, g1, g2, rfl⟩ := (h' y).mp hy
    exact ⟨_, _, ⟨x1, y1, h1, g1, rfl⟩, ⟨x2, y2, h2, g2, rfl⟩, hf ..⟩
  · rintro ⟨_, _, ⟨x1, y1, h1, g1, rfl⟩, ⟨x2, y2, h2, g2, rfl⟩, rfl⟩
    exact ⟨_, _, (h _).mpr ⟨x1, x2, h1, h2, rfl⟩, (h' _).mpr ⟨y1, y2, g1, g2, rfl⟩, (hf ..).symm⟩

/-- a getter that multiplies by a factor common to the three objects (the gas constant in the unit asked for) -/
theorem SumVal.scale {u a b : Val} (h : SumVal u a b) (k : Val) (f : Rat → Rat → Rat)
    (hf : ∀ x y r, f (x + y) r = f x r + f y r) :
    let g (w : Val) : Val :=
      match w with
      | .error e => .error e
      | .ok x => match k with
        | .error e => .error e
        | .ok r => .ok (f x r)
    SumVal (g u) (g a) (g b) := by
  intro g v
  have key : ∀ (w : Val) v, g w = .ok v ↔ ∃ x r, w = .ok x ∧ k = .ok r ∧ v = f x r := by
    rintro (_ | x) v <;> cases k <;>
      simp only [g, reduceCtorEq, false_and, and_false, exists_false, Except.ok.injEq, exists_and_left, exists_eq_left', eq_comm]
  simp only [key]
  constructor
  · rintro ⟨x, r, hx, hr, rfl⟩
    obtain ⟨x1, x2, h1, h2, rfl⟩ := (h x).mp hx
    exact ⟨_, _, ⟨x1, r, h1, hr, rfl⟩, ⟨x2, r, h2, hr, rfl⟩, hf ..⟩
  · rintro ⟨_, _, ⟨x1, r, h1, hr, rfl⟩, ⟨x2, r', h2, hr', rfl⟩, rfl⟩
    cases hr.symm.trans hr'
    exact ⟨_, r, (h _).mpr ⟨x1, x2, h1, h2, rfl⟩, hr, (hf ..).symm⟩

/-! ### the library's record of the decomposed molecule only names the estimate -/

theorem collect_withName (lib : Lib) (nm : Option (List Nat)) (gs : List (String × Rat)) (s : String) :
    collect ({ lib with name := nm } : Lib) s gs = collect lib s gs := by
  induction gs with
  | nil => rfl
  | cons g rest ih =>
    obtain ⟨g, n⟩ := g
    unfold collect
    rw [ih]
    rfl

theorem estimate_withName (reg : List String) (lib : Lib) (nm : Option (List Nat)) (gs : List (String × Rat)) (s : String) :
    estimate reg ({ lib with name := nm } : Lib) gs s =
      match estimate reg lib gs s with
      | .ok e => .ok (withName nm e)
      | .error err => .error err := by
  unfold estimate
  have hm : missingGroups ({ lib with name := nm } : Lib) s gs = missingGroups lib s gs := rfl
  rw [hm]
  split
  · split
    · unfold construct
      have hc := collect_withName lib nm gs s
      have hu : uqPart ({ lib with name := nm } : Lib) gs = uqPart lib gs := rfl
      rw [hc, hu]
      cases collect lib s gs with
      | error e => rfl
      | ok cs =>
        cases uqPart lib gs with
        | error e => rfl
        | ok uq =>
          simp only
          unfold finish
          cases commonRange cs with
          | none => rfl
          | some r =>
            obtain ⟨lo, hi⟩ := r
            by_cases hle : lo ≤ hi <;> simp [hle, withName]
    · rfl
  · rfl

section
variable {reg : List String} {S : Decompose.SchemeDef} {lib : Lib} {m : Mol} {set : String}

/-- **The pipeline, stage by stage**: `PatternMatchError` when the molecule does not decompose; otherwise whatever
`Estimate` says of the dictionary, an estimate being put on record under the molecule. -/
theorem pipeline_eq :
    pipeline reg S lib m set =
      match Decompose.decompose S m with
      | .error _ => .error .patternMatch
      | .ok c =>
        match estimate reg lib c set with
        | .ok e => .ok (withName (some (atomsOf m)) e)
        | .error err => .error (.estimate err) := by
  unfold pipeline getDescriptors estimateOf remember
  cases Decompose.decompose S m with
  | error e => cases e; rfl
  | ok c =>
    dsimp only
    rw [estimate_withName]
    cases estimate reg lib c set <;> rfl

theorem pipeline_patternMatch_iff :
    pipeline reg S lib m set = .error .patternMatch ↔ Decompose.decompose S m = .error .patternMatch := by
  rw [pipeline_eq]
  cases Decompose.decompose S m with
  | error e => cases e; simp
  | ok c => cases he : estimate reg lib c set <;> simp [he]

theorem pipeline_ok_iff {e : Estimator} :
    pipeline reg S lib m set = .ok e ↔
      ∃ c e0, Decompose.decompose S m = .ok c ∧ estimate reg lib c set = .ok e0 ∧ e = withName (some (atomsOf m)) e0 := by
  rw [pipeline_eq]
  constructor
  · intro h
    cases hd : Decompose.decompose S m with
    | error _ => rw [hd] at h; cases h
    | ok c =>
      rw [hd] at h
      cases he : estimate reg lib c set with
      | error _ => simp only [he] at h; cases h
      | ok e0 => simp only [he] at h; cases h; exact ⟨c, e0, rfl, he, rfl⟩
  · rintro ⟨c, e0, hc, he, rfl⟩
    simp only [hc, he]

theorem pipeline_esterr_iff {err : EstErr String} :
    pipeline reg S lib m set = .error (.estimate err) ↔
      ∃ c, Decompose.decompose S m = .ok c ∧ estimate reg lib c set = .error err := by
  rw [pipeline_eq]
  cases Decompose.decompose S m with
  | error e => simp
  | ok c => cases he : estimate reg lib c set <;> simp [he]

/-! #### the stage at which the pipeline stops -/

theorem pkindOf_pipeline :
    pkindOf (pipeline reg S lib m set) =
      match Decompose.decompose S m with
      | .error _ => some .patternMatch
      | .ok c => (outcomeKind reg lib c set).map PKind.estimate := by
  rw [pipeline_eq]
  cases Decompose.decompose S m with
  | error e => rfl
  | ok c =>
    dsimp only
    rw [← estimate_kind]
    cases estimate reg lib c set <;> rfl

/-- the descriptors a missing-data error of the pipeline names are those of the decomposition that have no data -/
theorem mem_missing_iff {r : Counts}
    (hm : Decompose.decompose S m = .ok r) (hr : reg.contains set = true) {g : String} :
    (∃ ds, pipeline reg S lib m set = .error (.estimate (.missing ds)) ∧ g ∈ ds) ↔ g ∈ specMissing lib set r := by
  simp only [pipeline_esterr_iff, hm, Except.ok.injEq, exists_eq_left', C01_missing_iff, hr, true_and]
  exact ⟨fun ⟨_, ⟨e, _⟩, hg⟩ => e ▸ hg, fun hg => ⟨_, ⟨rfl, List.ne_nil_of_mem hg⟩, hg⟩⟩

end

theorem mixP_patternMatch_left (pB : Option PKind) (r : Option EstKind) : mixP (some .patternMatch) pB r = some .patternMatch :=
  rfl

theorem mixP_patternMatch_right (pA : Option PKind) (r : Option EstKind) : mixP pA (some .patternMatch) r = some .patternMatch := by
  simp [mixP]

/-- when both parts decompose, the stages of `Estimate` combine by `mixKind` -/
theorem mixP_estimate (kA kB r : Option EstKind) :
    mixP (kA.map PKind.estimate) (kB.map PKind.estimate) r = (mixKind kA kB r).map PKind.estimate := by
  cases kA <;> cases kB <;> simp [mixP, estPart]

/-! ### how `_do_load` keys a library -/

section
variable {α : Type}
open PGA.GroupName

theorem loadGroups_cons_ok (text : Name) (ps : α) (rest : List (Name × α)) (acc : List (String × α)) (g : Group)
    (hp : parse text = .ok g) :
    loadGroups ((text, ps) :: rest) acc =
      if (acc.lookup (String.ofList g.name)).isSome then .error (.duplicate (String.ofList g.name))
      else loadGroups rest (acc ++ [(String.ofList g.name, ps)]) := by
  simp only [loadGroups, hp]

theorem lookup_append_single (acc : List (String × α)) (k k' : String) (v : α) :
    (acc ++ [(k, v)]).lookup k' = match acc.lookup k' with
      | some w => some w
      | none => if k' == k then some v else none := by
  rw [List.lookup_append]
  cases acc.lookup k' with
  | some w => rfl
  | none =>
    simp only [Option.none_or, List.lookup]
    cases k' == k <;> rfl

/-- what the keying loop of the `groups:` section guarantees of the dict it returns: earlier entries stay, and every entry
of the section is found under the canonical name of the group its name denotes -/
theorem loadGroups_lookup (src : List (Name × α)) (acc cont : List (String × α)) (h : loadGroups src acc = .ok cont) :
    (∀ k v, acc.lookup k = some v → cont.lookup k = some v) ∧
    (∀ text ps g, (text, ps) ∈ src → parse text = .ok g → cont.lookup (String.ofList g.name) = some ps) := by
  induction src generalizing acc with
  | nil =>
    simp only [loadGroups, Except.ok.injEq] at h
    subst h
    exact ⟨fun _ _ h => h, fun _ _ _ h => by cases h⟩
  | cons p rest ih =>
    obtain ⟨text, ps⟩ := p
    cases hp : parse text with
    | error e => cases e <;> simp [loadGroups, hp] at h
    | ok g =>
      rw [loadGroups_cons_ok text ps rest acc g hp] at h
      cases hl : acc.lookup (String.ofList g.name) with
      | some w => simp [hl] at h
      | none =>
        simp only [hl, Option.isSome_none, Bool.false_eq_true, if_false] at h
        obtain ⟨ih1, ih2⟩ := ih _ h
        constructor
        · intro k v hk
          apply ih1
          rw [lookup_append_single, hk]
        · intro text' ps' g' hm hp'
          rcases List.mem_cons.mp hm with e | hm
          · cases e
            rw [hp] at hp'; cases hp'
            apply ih1
            rw [lookup_append_single, hl]
            simp
          · exact ih2 text' ps' g' hm hp'

theorem loadDescs_lookup (src : List (String × α)) (acc cont : List (String × α)) (h : loadDescs src acc = .ok cont) :
    ∀ k v, acc.lookup k = some v → cont.lookup k = some v := by
  induction src generalizing acc with
  | nil =>
    simp only [loadDescs, Except.ok.injEq] at h
    subst h
    exact fun _ _ h => h
  | cons p rest ih =>
    obtain ⟨name, ps⟩ := p
    unfold loadDescs at h
    cases hl : acc.lookup name with
    | some w => simp [hl] at h
    | none =>
      simp only [hl, Option.isSome_none, Bool.false_eq_true, if_false] at h
      intro k v hk
      apply ih _ h
      rw [lookup_append_single, hk]

theorem loadGroups_sameSpelling (src src' : List (Name × α)) (h : SameSpelling src src') (acc : List (String × α)) :
    loadGroups src' acc = loadGroups src acc := by
  induction h generalizing acc with
  | nil => rfl
  | @cons p p' src src' hp _ ih =>
    obtain ⟨text, ps⟩ := p
    obtain ⟨text', ps'⟩ := p'
    obtain ⟨hps, c, r, r', rfl, rfl, hw, hw', hperm⟩ := hp
    simp only at hps
    subst hps
    rw [loadGroups_cons_ok _ _ _ _ _ (C19_parse_spell c r hw), loadGroups_cons_ok _ _ _ _ _ (C19_parse_spell c r' hw')]
    have : Group.name ⟨c, expandRuns r'⟩ = Group.name ⟨c, expandRuns r⟩ := (canon_perm c hperm).symm
    rw [this, ih]

end

end PGA.Pipeline
