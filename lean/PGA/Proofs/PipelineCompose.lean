import PGA.Proofs.Pipeline
import PGA.Proofs.PipelineKeys
import PGA.Props.C07
import PGA.Props.C19
import PGA.Props.C20
/-! Helper lemmas of the pipeline theorems that compose the property theorems of C03, C04, C07 (the estimate under a reordered
dictionary and a reordered atom list; the three decompositions of a union). -/
namespace PGA.Pipeline
open PGA PGA.Spec PGA.Scheme PGA.Decompose PGA.Match PGA.Estimate

/-! `H/RT` and `Cp/R` do not read the molecule an estimate has on record; of the getters only `S/R` does, through its elemental
term. -/

theorem withName_HoRT (nm : Option (List Nat)) (e : Estimator) (T : Rat) : (withName nm e).HoRT T = e.HoRT T := rfl
theorem withName_CpoR (nm : Option (List Nat)) (e : Estimator) (T : Rat) : (withName nm e).CpoR T = e.CpoR T := rfl

/-- the elemental term of two atom lists that are reorderings of each other -/
theorem selements_perm (sel : Nat → Option Rat) {a a' : List Nat} (h : a.Perm a') (v : Rat) :
    selements sel (some a) = .ok v ↔ selements sel (some a') = .ok v := by
  simp only [C07_selements, (h.map (selD sel)).sum_eq, h.mem_iff]

/-- C20 read off the pipeline: the uncertainty block of its estimate, in terms of the molecule's decomposition -/
theorem pipeline_q {reg S lib m set e} {u : UQ String}
    (h : pipeline reg S lib m set = .ok e) (hu : lib.uq = some u) (hb : u.basis.Nodup) :
    ∃ c q, decompose S m = .ok c ∧ e.uq = some q ∧ q.rmse = u.rmse ∧ q.dof = u.dof ∧
      q.q = specQuad u.mat (specX u.basis c) ∧ Square u.basis.length u.mat := by
  obtain ⟨c, e0, hc, he0, rfl⟩ := pipeline_ok_iff.mp h
  obtain ⟨q, hq⟩ := C20_q reg lib c set e0 u he0 hu (decompose_nodup hc) hb
  exact ⟨c, q, hc, hq⟩

/-- **Core of the invariance theorems.** If two molecules fail to decompose together, otherwise decompose to dictionaries
that list the same names with the same counts (in any order), and carry the same atoms (in any order), the pipeline cannot
tell them apart. -/
theorem sameOutcome_of_counts {sel : Nat → Option Rat} {reg : List String} {S : SchemeDef} {lib : Lib} {set : String}
    {m m' : Mol} (hpm : decompose S m' = .error .patternMatch ↔ decompose S m = .error .patternMatch)
    (hkeys : ∀ c c', decompose S m = .ok c → decompose S m' = .ok c' → ∀ k, k ∈ Counts.keys c' ↔ k ∈ Counts.keys c)
    (hget : ∀ c c', decompose S m = .ok c → decompose S m' = .ok c' → ∀ k, c'.get k = c.get k)
    (hatoms : (atomsOf m).Perm (atomsOf m')) :
    SameOutcome sel (pipeline reg S lib m set) (pipeline reg S lib m' set) := by
  have hdec : ∀ c, decompose S m = .ok c → ∃ c', decompose S m' = .ok c' ∧ c.Perm c' := by
    intro c hc
    cases hc' : decompose S m' with
    | error e => cases e; rw [hpm.mp hc'] at hc; cases hc
    | ok c' =>
      exact ⟨c', rfl, counts_perm (decompose_nodup hc) (decompose_nodup hc')
        (fun k => (hkeys c c' hc hc' k).symm) fun k => (hget c c' hc hc' k).symm⟩
  refine ⟨?_, ?_, ?_⟩
  · rw [pipeline_patternMatch_iff, pipeline_patternMatch_iff]; exact hpm
  · intro err herr
    obtain ⟨c, hc, he⟩ := pipeline_esterr_iff.mp herr
    obtain ⟨c', hc', hp⟩ := hdec c hc
    obtain ⟨hk, hmiss⟩ := estimate_perm_kind reg lib set hp
    rw [he] at hk
    cases he' : estimate reg lib c' set with
    | ok e' => rw [he'] at hk; cases hk
    | error err' =>
      rw [he'] at hk
      refine ⟨err', pipeline_esterr_iff.mpr ⟨c', hc', he'⟩, Option.some.inj hk, ?_⟩
      rintro ds rfl
      obtain ⟨ds', h1, h2⟩ := hmiss ds he
      exact ⟨ds', Except.error.inj (he'.symm.trans h1), h2⟩
  · intro e hok
    obtain ⟨c, e0, hc, he0, rfl⟩ := pipeline_ok_iff.mp hok
    obtain ⟨c', hc', hp⟩ := hdec c hc
    obtain ⟨e0', he0', hcorr, _, hrange⟩ := estimate_perm reg lib set e0 hp he0
    refine ⟨withName (some (atomsOf m')) e0', pipeline_ok_iff.mpr ⟨c', e0', hc', he0', rfl⟩, hrange, ?_⟩
    refine ⟨fun T v => (wsum_perm _ hcorr v).symm, fun T v => (wsum_perm _ hcorr v).symm, fun T flag v => ?_⟩
    show (withName _ e0).SoR sel T flag = .ok v ↔ (withName _ e0').SoR sel T flag = .ok v
    cases hf : flag.truthy <;>
      simp only [SoR_ok_iff, withName, hf, if_true, Bool.false_eq_true, if_false, selements_perm sel hatoms, wsum_perm _ hcorr]

/-- what the three decompositions have to do with each other (C04 and its key-set companion) -/
theorem union_counts {S : SchemeDef} {A B : Mol} (H : UnionHyps S A B) {rU rA rB : Counts}
    (hU : decompose S (A.union B) = .ok rU) (hrA : decompose S A = .ok rA) (hrB : decompose S B = .ok rB) :
    (Counts.keys rU).Nodup ∧ (Counts.keys rA).Nodup ∧ (Counts.keys rB).Nodup ∧
    (∀ k, k ∈ Counts.keys rU ↔ k ∈ Counts.keys rA ∨ k ∈ Counts.keys rB) ∧
    (SeparatedMol S A B → ∀ k, rU.get k = rA.get k + rB.get k) := by
  refine ⟨decompose_nodup hU, decompose_nodup hrA, decompose_nodup hrB,
    decompose_union_keys S A B H.hA H.hB H.hq H.hs H.hmp H.hcn H.capa H.capb H.capu H.hcf rU rA rB hU hrA hrB, ?_⟩
  intro hsep k
  obtain ⟨a, ha, _⟩ := getDescriptors_ok _ rA hrA
  obtain ⟨b, hb, _⟩ := getDescriptors_ok _ rB hrB
  exact (PGA.C04.C04_decompose_union S A B H.hA H.hB H.hq H.hs H.hmp H.hcn H.capa H.capb H.capu H.hcf).2
    rU rA rB a b hU hrA hrB ha hb (hsep a b ha hb) k

theorem ok_of_ne_patternMatch {x : Except Scheme.Err Counts} (h : x ≠ .error .patternMatch) : ∃ r, x = .ok r := by
  cases x with
  | ok r => exact ⟨r, rfl⟩
  | error e => cases e; exact absurd rfl h

/-- the union decomposes when both parts do -/
theorem union_decomposes {S : SchemeDef} {A B : Mol} (H : UnionHyps S A B) {rA rB : Counts}
    (hrA : decompose S A = .ok rA) (hrB : decompose S B = .ok rB) : ∃ rU, decompose S (A.union B) = .ok rU :=
  ok_of_ne_patternMatch fun h =>
    ((PGA.C04.C04_decompose_union S A B H.hA H.hB H.hq H.hs H.hmp H.hcn H.capa H.capb H.capu H.hcf).1.mp h).elim
      (fun h => by rw [hrA] at h; cases h) fun h => by rw [hrB] at h; cases h

/-- … and the parts decompose when the union does -/
theorem parts_decompose {S : SchemeDef} {A B : Mol} (H : UnionHyps S A B) {rU : Counts}
    (hU : decompose S (A.union B) = .ok rU) : (∃ rA, decompose S A = .ok rA) ∧ ∃ rB, decompose S B = .ok rB := by
  have C := (PGA.C04.C04_decompose_union S A B H.hA H.hB H.hq H.hs H.hmp H.hcn H.capa H.capb H.capu H.hcf).1
  exact ⟨ok_of_ne_patternMatch fun h => (by rw [C.mpr (.inl h)] at hU; cases hU),
    ok_of_ne_patternMatch fun h => (by rw [C.mpr (.inr h)] at hU; cases hU)⟩

/-- the elemental term of the union is the sum of the parts' -/
theorem selements_union (sel : Nat → Option Rat) (A B : Mol) (σ : Rat) :
    selements sel (some (atomsOf (A.union B))) = .ok σ ↔
      ∃ a b, selements sel (some (atomsOf A)) = .ok a ∧ selements sel (some (atomsOf B)) = .ok b ∧ σ = a + b := by
  simp only [C07_selements, atomsOf, Mol.union, List.mem_append, List.map_append, List.sum_append]
  constructor
  · rintro ⟨h, rfl⟩
    exact ⟨_, _, ⟨fun z hz => h z (Or.inl hz), rfl⟩, ⟨fun z hz => h z (Or.inr hz), rfl⟩, rfl⟩
  · rintro ⟨a, b, ⟨h1, rfl⟩, ⟨h2, rfl⟩, rfl⟩
    exact ⟨fun z hz => hz.elim (h1 z) (h2 z), rfl⟩

end PGA.Pipeline
