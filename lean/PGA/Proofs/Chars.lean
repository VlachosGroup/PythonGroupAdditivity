import PGA.Model.Chars
/-! Decimal rendering/reading lemmas; table obligations on the generated character tables. -/
namespace PGA.Chars

/-- Table obligation (regenerated tables): the ten ASCII digits are `isdigit` characters whose
`int()` value is the digit. -/
theorem ascii_digits_ok : ∀ d : Fin 10,
    isDigitChar (digitChar d.val) = true ∧ decimalVal (digitChar d.val) = some d.val := by
  decide +kernel

theorem isDigitChar_digitChar {d : Nat} (h : d < 10) : isDigitChar (digitChar d) = true :=
  (ascii_digits_ok ⟨d, h⟩).1
theorem decimalVal_digitChar {d : Nat} (h : d < 10) : decimalVal (digitChar d) = some d :=
  (ascii_digits_ok ⟨d, h⟩).2

theorem digitChar_ne_paren : ∀ d : Fin 10, digitChar d.val ≠ '(' ∧ digitChar d.val ≠ ')' := by
  decide +kernel

theorem isEmpty_showNat (n : Nat) : (showNat n).isEmpty = false := by
  rw [showNat]; split <;> simp

theorem showNat_all_digit (n : Nat) : ∀ c ∈ showNat n, ∃ d, d < 10 ∧ c = digitChar d := by
  fun_induction showNat n with
  | case1 n h => exact fun c hc => ⟨n, h, List.mem_singleton.mp hc⟩
  | case2 n h ih =>
    intro c hc
    rcases List.mem_append.mp hc with hc | hc
    · exact ih c hc
    · exact ⟨n % 10, Nat.mod_lt _ (by decide), List.mem_singleton.mp hc⟩

theorem isDigitStr_showNat (n : Nat) : isDigitStr (showNat n) = true := by
  simp only [isDigitStr, isEmpty_showNat, Bool.not_false, Bool.true_and, List.all_eq_true]
  intro c hc
  obtain ⟨d, hd, rfl⟩ := showNat_all_digit n c hc
  exact isDigitChar_digitChar hd

theorem readNatAux_append_digit (acc : Nat) (s : List Char) (d : Nat) (hd : d < 10) :
    readNatAux acc (s ++ [digitChar d]) = (readNatAux acc s).map (fun v => v * 10 + d) := by
  induction s generalizing acc with
  | nil => simp [readNatAux, decimalVal_digitChar hd]
  | cons c cs ih =>
    simp only [List.cons_append, readNatAux]
    cases decimalVal c with
    | none => rfl
    | some v => exact ih _

theorem readNatAux_showNat (n : Nat) : readNatAux 0 (showNat n) = some n := by
  fun_induction showNat n with
  | case1 n h => simp [readNatAux, decimalVal_digitChar h]
  | case2 n h ih =>
    rw [readNatAux_append_digit _ _ _ (Nat.mod_lt _ (by decide)), ih, Option.map_some, Nat.div_add_mod']

theorem length_showNat_le (k : Nat) : ∀ n, n < 10 ^ (k + 1) → (showNat n).length ≤ k + 1 := by
  induction k with
  | zero => intro n hn; rw [showNat, if_pos hn]; exact Nat.le_refl _
  | succ k ih =>
    intro n hn
    rw [showNat]
    split
    · simp
    · rw [List.length_append]
      exact Nat.succ_le_succ (ih (n / 10) (Nat.div_lt_of_lt_mul (Nat.pow_succ' ▸ hn)))
theorem readNat_showNat (n : Nat) (h : n < intLimit) (hpos : 0 < PGA.Gen.Chars.intMaxStrDigits) :
    readNat (showNat n) = some n := by
  unfold readNat
  have : (showNat n).length ≤ PGA.Gen.Chars.intMaxStrDigits := by
    obtain ⟨k, hk⟩ : ∃ k, PGA.Gen.Chars.intMaxStrDigits = k + 1 := ⟨_, (Nat.succ_pred_eq_of_pos hpos).symm⟩
    rw [hk]; apply length_showNat_le; unfold intLimit at h; rw [hk] at h; exact h
  simp [Nat.not_lt.mpr this, readNatAux_showNat]


end PGA.Chars
