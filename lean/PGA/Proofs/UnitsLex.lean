import PGA.Proofs.UnitsRender
/-!
# The scanner: token sizes are bounded by the text, and a spaced rendering scans back to its tokens
-/
namespace PGA.Units
open PGA.Chars

def Tok.bodyLen : Tok → Nat
  | .num _ body => body.length
  | _ => 0

def LexSt.accLen : LexSt → Nat
  | .inNum _ acc => acc.length
  | _ => 0

/-- the five ways a token can start -/
theorem lexStart_cases (c : Char) (cs : List Char) :
    lexStart c cs = ([], .inNum false [c]) ∨ lexStart c cs = ([], .inNum true []) ∨ lexStart c cs = ([], .inWord [c]) ∨
    lexStart c cs = ([], .idle) ∨ lexStart c cs = ([.sym c], .idle) := by
  unfold lexStart
  by_cases h1 : isNumChar c = true
  · exact .inl (if_pos h1)
  rw [if_neg h1]
  by_cases h2 : (c == '-' && nextIsNumChar cs) = true
  · exact .inr (.inl (if_pos h2))
  rw [if_neg h2]
  by_cases h3 : isAsciiAlpha c = true
  · exact .inr (.inr (.inl (if_pos h3)))
  rw [if_neg h3]
  by_cases h4 : (c == '\n') = true
  · exact .inr (.inr (.inr (.inl (if_pos h4))))
  rw [if_neg h4]
  by_cases h5 : isSpaceChar c = true
  · exact .inr (.inr (.inr (.inl (if_pos h5))))
  · exact .inr (.inr (.inr (.inr (if_neg h5))))

/-- every number token produced has a body no longer than what has been scanned into it plus what remains -/
theorem lexGo_bodyLen : ∀ (cs : List Char) (st : LexSt), ∀ t ∈ lexGo st cs, t.bodyLen ≤ st.accLen + cs.length := by
  intro cs
  induction cs with
  | nil =>
    intro st t ht
    cases st <;> simp only [lexGo, LexSt.flush, List.mem_singleton, List.not_mem_nil] at ht <;> subst ht <;>
      exact Nat.le_refl _
  | cons c cs ih =>
    intro st t ht
    -- a token that starts at `c` or later: at most `c` and the rest of the text
    have hcont : ∀ n, ∀ t ∈ (lexStart c cs).1 ++ lexGo (lexStart c cs).2 cs, t.bodyLen ≤ n + (cs.length + 1) := by
      intro n t ht
      -- it starts with at most one character scanned, and what is completed at once is no number
      have ⟨h1, h0⟩ : (lexStart c cs).2.accLen ≤ 1 ∧ ∀ t ∈ (lexStart c cs).1, t.bodyLen = 0 := by
        rcases lexStart_cases c cs with h | h | h | h | h <;> rw [h] <;>
          exact ⟨Nat.le_of_ble_eq_true rfl, by rintro t (_ | ⟨_, ⟨⟩⟩) <;> rfl⟩
      rcases List.mem_append.mp ht with h | h
      · rw [h0 t h]; exact Nat.zero_le _
      · have := ih _ t h; omega
    cases st with
    | idle => exact hcont _ t ht
    | inNum neg acc =>
      simp only [lexGo] at ht
      split at ht
      · have := ih _ t ht
        simp only [LexSt.accLen, List.length_append, List.length_singleton] at this
        exact this.trans_eq (Nat.add_right_comm _ _ _)
      · rcases List.mem_cons.mp ht with h | h
        · subst h; exact Nat.le_add_right _ _
        · exact hcont _ t h
    | inWord acc =>
      simp only [lexGo] at ht
      split at ht
      · exact (ih _ t ht).trans (Nat.add_le_add_left (Nat.le_succ _) _)
      · rcases List.mem_cons.mp ht with h | h
        · subst h; exact Nat.zero_le _
        · exact hcont _ t h

/-- a text within the interpreter's digit limit scans to tokens within the limit -/
theorem lex_digitsOK (s : List Char) (h : s.length ≤ PGA.Gen.Chars.intMaxStrDigits) : ∀ t ∈ lex s, t.digitsOK := by
  intro t ht
  cases t with
  | num neg body => exact ((lexGo_bodyLen s .idle _ ht).trans_eq (Nat.zero_add _)).trans h
  | word s => trivial
  | sym c => trivial

/-! ## a spaced rendering scans back to its tokens -/

/-- the token texts separated (and followed) by one blank -/
def spaced : List Tok → List Char
  | [] => []
  | t :: ts => t.text ++ ' ' :: spaced ts

/-- tokens as the renderer produces them -/
def CleanTok : Tok → Prop
  | .num _ body => body ≠ [] ∧ ∀ c ∈ body, isNumChar c = true
  | .word s => s ≠ [] ∧ ∀ c ∈ s, isAsciiAlpha c = true
  | .sym c => c = '(' ∨ c = ')' ∨ c = '^' ∨ c = '*' ∨ c = '/'

instance : DecidablePred CleanTok := fun t => by
  cases t <;> simp only [CleanTok] <;> infer_instance

theorem blank_facts : isNumChar ' ' = false ∧ isAsciiAlpha ' ' = false ∧ isSpaceChar ' ' = true := by
  refine ⟨?_, ?_, ?_⟩ <;> decide +kernel

theorem lexStart_blank (rest : List Char) : lexStart ' ' rest = ([], .idle) := by
  obtain ⟨h1, h2, h3⟩ := blank_facts
  unfold lexStart
  simp [h1, h2, h3]

theorem lexGo_idle_blank (rest : List Char) : lexGo .idle (' ' :: rest) = lexGo .idle rest := by
  simp [lexGo, lexStart_blank]

theorem lexGo_inNum (neg : Bool) : ∀ (body acc rest : List Char), (∀ c ∈ body, isNumChar c = true) →
    lexGo (.inNum neg acc) (body ++ ' ' :: rest) = .num neg (acc ++ body) :: lexGo .idle rest := by
  intro body
  induction body with
  | nil =>
    intro acc rest _
    simp [lexGo, blank_facts.1, lexStart_blank]
  | cons c body ih =>
    intro acc rest h
    obtain ⟨hc, hb⟩ := List.forall_mem_cons.mp h
    simp only [List.cons_append, lexGo, hc, if_true]
    rw [ih (acc ++ [c]) rest hb]
    simp

theorem lexGo_inWord : ∀ (s acc rest : List Char), (∀ c ∈ s, isAsciiAlpha c = true) →
    lexGo (.inWord acc) (s ++ ' ' :: rest) = .word (acc ++ s) :: lexGo .idle rest := by
  intro s
  induction s with
  | nil =>
    intro acc rest _
    simp [lexGo, blank_facts.2.1, lexStart_blank]
  | cons c s ih =>
    intro acc rest h
    obtain ⟨hc, hb⟩ := List.forall_mem_cons.mp h
    simp only [List.cons_append, lexGo, hc, if_true]
    rw [ih (acc ++ [c]) rest hb]
    simp

/-- ASCII letters are below 128 … -/
theorem alpha_lt (c : Char) (h : isAsciiAlpha c = true) : c.toNat < 128 := by
  simp only [isAsciiAlpha, Bool.or_eq_true, Bool.and_eq_true, decide_eq_true_eq] at h
  -- `≤` on characters is `≤` on their code points
  rcases h with ⟨_, h⟩ | ⟨_, h⟩ <;> exact Nat.lt_of_le_of_lt h (by decide)

/-- … and none of the 128 ASCII characters is both a letter and a `[.\d]` character or the minus sign -/
theorem alpha_table : ∀ n : Fin 128, isAsciiAlpha (Char.ofNat n.val) = true →
    isNumChar (Char.ofNat n.val) = false ∧ (Char.ofNat n.val == '-') = false := by decide +kernel

theorem alpha_not_num (c : Char) (h : isAsciiAlpha c = true) : isNumChar c = false ∧ (c == '-') = false := by
  have hlt := alpha_lt c h
  have hc : Char.ofNat c.toNat = c := Char.ofNat_toNat c
  have := alpha_table ⟨c.toNat, hlt⟩ (by simpa [hc] using h)
  simpa [hc] using this

theorem minus_facts : isNumChar '-' = false := by decide +kernel

theorem sym_facts : ∀ c ∈ ['(', ')', '^', '*', '/'],
    isNumChar c = false ∧ (c == '-') = false ∧ isAsciiAlpha c = false ∧ (c == '\n') = false ∧ isSpaceChar c = false := by
  decide +kernel

theorem lexGo_tok (t : Tok) (h : CleanTok t) (rest : List Char) :
    lexGo .idle (t.text ++ ' ' :: rest) = t :: lexGo .idle rest := by
  cases t with
  | num neg body =>
    obtain ⟨hne, hall⟩ := h
    cases body with
    | nil => exact absurd rfl hne
    | cons b body =>
      obtain ⟨hb, hall⟩ := List.forall_mem_cons.mp hall
      cases neg with
      | false =>
        simp only [Tok.text, Bool.false_eq_true, if_false, List.cons_append, lexGo, lexStart, hb, if_true, List.nil_append]
        rw [lexGo_inNum false body [b] rest hall]
        simp
      | true =>
        simp only [Tok.text, if_true, List.cons_append, lexGo, lexStart, minus_facts, Bool.false_eq_true, if_false,
          beq_self_eq_true, nextIsNumChar, hb, Bool.and_self, List.nil_append]
        rw [lexGo_inNum true body [b] rest hall]
        simp
  | word s =>
    obtain ⟨hne, hall⟩ := h
    cases s with
    | nil => exact absurd rfl hne
    | cons b s =>
      obtain ⟨hb, hall⟩ := List.forall_mem_cons.mp hall
      obtain ⟨hn, hm⟩ := alpha_not_num b hb
      simp only [Tok.text, List.cons_append, lexGo, lexStart, hn, Bool.false_eq_true, if_false, hm, Bool.false_and,
        hb, if_true, List.nil_append]
      rw [lexGo_inWord s [b] rest hall]
      simp
  | sym c =>
    have hmem : c ∈ ['(', ')', '^', '*', '/'] := by
      simp only [List.mem_cons, List.mem_nil_iff, or_false]; exact h
    obtain ⟨h1, h2, h3, h4, h5⟩ := sym_facts c hmem
    have hb := lexGo_idle_blank rest
    simp only [lexGo] at hb
    simp only [Tok.text, List.cons_append, List.nil_append, lexGo, lexStart.eq_1 c, h1, h2, h3, h4, h5,
      Bool.false_eq_true, if_false, Bool.false_and, List.cons_append, hb]

/-- the scanner reads a spaced rendering of clean tokens back exactly -/
theorem lex_spaced (ts : List Tok) (h : ∀ t ∈ ts, CleanTok t) : lex (spaced ts) = ts := by
  unfold lex
  induction ts with
  | nil => simp [spaced, lexGo, LexSt.flush]
  | cons t ts ih =>
    simp only [spaced]
    obtain ⟨ht, hts⟩ := List.forall_mem_cons.mp h
    rw [lexGo_tok t ht, ih hts]

end PGA.Units
