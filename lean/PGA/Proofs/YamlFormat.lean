import Mathlib.Algebra.Order.Ring.Abs
import PGA.Spec.YamlFormat
import PGA.Proofs.Yaml
import PGA.Proofs.Merge
/-! Helper lemmas for C18: what `yaml_format` writes, and that it is a presentation (in the sense of C12) of `readBack`. -/
namespace PGA.YamlFormat
open PGA.Yaml PGA.Merge

variable {tab : UnitTable} {R : QV} {K : UnitQ} {r : Rat} {rnd : Rat → Rat} {ru : RUnits}

/-! ### `fmt_in_units` on the three kinds of quantity -/

theorem withUnits_kelvin (T : Rat) : withUnits T ⟨1, Dim.temperature⟩ = .qty T Dim.temperature := by
  rw [withUnits, mul_one]
  exact build_of_ne (by decide)

theorem fmtIn_qty {us : String} {f : Rat} {d : Dim}
    (h : tab.lookup us = some ⟨f, d⟩) (hf : f ≠ 0) (x : Rat) :
    fmtIn tab rnd (.qty x d) us = .ok (.qstr (rnd (x / f)) us) := by
  simp [fmtIn, h, QV.inUnits, hf]

theorem fmtIn_temp {us : String} {f : Rat}
    (h : tab.lookup us = some ⟨f, Dim.temperature⟩) (hf : f ≠ 0) (T : Rat) :
    fmtIn tab rnd (withUnits T ⟨1, Dim.temperature⟩) us = .ok (.qstr (rnd (T / f)) us) := by
  rw [withUnits_kelvin]; exact fmtIn_qty h hf T

theorem RT_mul_h (r Tref h : Rat) :
    (((QV.qty r Dim.molarEntropy).mul (withUnits Tref ⟨1, Dim.temperature⟩)).mul (.num h))
      = .qty (r * Tref * h) Dim.molarEnergy := by
  rw [withUnits_kelvin, R_mul_T]
  exact build_of_ne (d := Dim.molarEnergy) (by decide)

theorem R_mul_v (r v : Rat) : (QV.qty r Dim.molarEntropy).mul (.num v) = .qty (r * v) Dim.molarEntropy :=
  build_of_ne (d := Dim.molarEntropy) (by decide)

/-! ### the entry that is written -/

def presT (rnd : Rat → Rat) (ru : RUnits) (T : Rat) : Pres := .explicit (rnd (T / ru.T.2)) ru.T.1

def rowsDim (rnd : Rat → Rat) (r : Rat) (ru : RUnits) (us : String) (f : Rat) (cp : List (Rat × Rat)) (ks : List Rat) :
    List (Pres × Pres) :=
  ks.map fun T => (presT rnd ru T, .explicit (rnd (r * ((dlookup T cp).getD 0) / f)) us)

def rowsNd (rnd : Rat → Rat) (ru : RUnits) (cp : List (Rat × Rat)) (ks : List Rat) : List (Pres × Rat) :=
  ks.map fun T => (presT rnd ru T, (dlookup T cp).getD 0)

/-- a reference value written with the unit `u` (as the quantity `w h`, in that unit) or, without one, as the plain number -/
def refEntry (rnd : Rat → Rat) (u : Option (String × Rat)) (w : Rat → Rat) (o : Option Rat) : Option RefPres :=
  o.map fun h => match u with
    | some (us, f) => .dim (.explicit (rnd (w h / f)) us)
    | none => .nd h

/-- the entry `yaml_format` writes -/
def fmtEntry (rnd : Rat → Rat) (r : Rat) (ru : RUnits) (c : Corr) : EntryPres :=
  { Tref := some (presT rnd ru c.Tref)
    H := refEntry rnd ru.H (r * c.Tref * ·) c.H
    S := refEntry rnd ru.S (r * ·) c.S
    cp := if c.cp.isEmpty then none else some (match ru.Cp with
      | some (us, f) => .dim (rowsDim rnd r ru us f c.cp (sortedKeys c.cp))
      | none => .nd (rowsNd rnd ru c.cp (sortedKeys c.cp)))
    range := c.range.map fun lh => (presT rnd ru lh.1, presT rnd ru lh.2) }

/-! ### the mapping of an entry, its keys in the order `yaml_format` writes them -/

/-- the mapping with the one key `k`, or empty -/
def item (k : String) (o : Option YVal) : List (String × YVal) := (o.map (Prod.mk k)).toList

/-- a reference value under the key `dim` (a quantity) or `nd` (a number) -/
def refItems (dim nd : String) (o : Option RefPres) : List (String × YVal) :=
  item dim (match o with | some (.dim p) => some p.node | _ => none) ++
    item nd (match o with | some (.nd x) => some (.num x) | _ => none)

def cpItems (o : Option CpPres) : List (String × YVal) :=
  item "Cp_data" (match o with | some (.dim rows) => some (CpPres.dim rows).node | _ => none) ++
    item "ND_Cp_data" (match o with | some (.nd rows) => some (CpPres.nd rows).node | _ => none)

def mapping (e : EntryPres) : List (String × YVal) :=
  item "T_ref" (e.Tref.map Pres.node) ++ refItems "H_ref" "ND_H_ref" e.H ++ refItems "S_ref" "ND_S_ref" e.S ++
    cpItems e.cp ++ item "range" (e.range.map fun r => .seq [r.1.node, r.2.node])

theorem lookup_item_append (n : String) (o : Option YVal) (rest : List (String × YVal)) (k : String) :
    (item n o ++ rest).lookup k = if k = n then o.or (rest.lookup k) else rest.lookup k :=
  lookup_toList_append n o rest k

theorem lookup_item (n : String) (o : Option YVal) (k : String) : (item n o).lookup k = if k = n then o else none := by
  rw [← List.append_nil (item n o), lookup_item_append, List.lookup_nil, Option.or_none]

theorem renders_mapping (e : EntryPres) : Renders (mapping e) e := by
  constructor <;>
    simp only [mapping, refItems, cpItems, List.append_assoc, lookup_item_append, lookup_item, String.reduceEq, if_true,
      if_false, Option.or_none] <;> rfl

/-! ### what `yaml_format` writes -/

theorem cpRows_eq_map {Tu : String} {cu : Option String} {t x : Rat → YVal}
    (ht : ∀ T, fmtIn tab rnd (withUnits T K) Tu = .ok (t T)) (hx : ∀ v, fmtCpValue tab R rnd cu v = .ok (x v))
    (cp : List (Rat × Rat)) (ks : List Rat) :
    cpRows tab R K rnd cp Tu cu ks = .ok (ks.map fun T => .seq [t T, x ((dlookup T cp).getD 0)]) := by
  induction ks with
  | nil => rfl
  | cons T rest ih => rw [cpRows, ht, hx, ih]; rfl

/-- the common shape of `fmtH` and `fmtS`: nothing, the quantity `q h` in the chosen unit, or the plain number -/
theorem fmtRef_eq {dim nd : String} {o : Option Rat} {u : Option (String × Rat)} {d : Dim} {q : Rat → QV} {w : Rat → Rat}
    (hq : ∀ h, q h = .qty (w h) d) (hu : ∀ us f, u = some (us, f) → tab.lookup us = some ⟨f, d⟩ ∧ f ≠ 0) :
    (match o with
      | none => .ok []
      | some h =>
        match u.map Prod.fst with
        | some hu =>
          match fmtIn tab rnd (q h) hu with
          | .ok v => .ok [(dim, v)]
          | .error e => .error e
        | none => .ok [(nd, YVal.num h)] : Except FErr (List (String × YVal)))
      = .ok (refItems dim nd (refEntry rnd u w o)) := by
  cases o with
  | none => rfl
  | some h =>
    cases u with
    | none => rfl
    | some uf =>
      obtain ⟨hl, hf⟩ := hu uf.1 uf.2 rfl
      simp only [Option.map_some, hq, fmtIn_qty hl hf]
      rfl

theorem fmtH_eq (env : EnvOK tab R K r) (ok : ru.OK tab) (c : Corr) :
    fmtH tab R K rnd c ru.toFmt = .ok (refItems "H_ref" "ND_H_ref" (fmtEntry rnd r ru c).H) := by
  obtain ⟨rfl, -, rfl, -⟩ := env
  exact fmtRef_eq (RT_mul_h r c.Tref) ok.h

theorem fmtS_eq (env : EnvOK tab R K r) (ok : ru.OK tab) (c : Corr) :
    fmtS tab R rnd c ru.toFmt = .ok (refItems "S_ref" "ND_S_ref" (fmtEntry rnd r ru c).S) := by
  obtain ⟨rfl, -, rfl, -⟩ := env
  exact fmtRef_eq (R_mul_v r) ok.s

theorem fmtCp_eq (env : EnvOK tab R K r) (ok : ru.OK tab) (c : Corr) :
    fmtCp tab R K rnd c ru.toFmt = .ok (cpItems (fmtEntry rnd r ru c).cp) := by
  obtain ⟨rfl, -, rfl, -⟩ := env
  simp only [fmtCp, fmtEntry, RUnits.toFmt]
  split
  · rfl
  · have ht := fun T => fmtIn_temp (rnd := rnd) ok.t.1 ok.t.2 T
    cases hu : ru.Cp with
    | none =>
      rw [Option.map_none, cpRows_eq_map ht fun v => rfl]
      simp only [cpItems, rowsNd, CpPres.node, List.map_map]
      rfl
    | some uf =>
      obtain ⟨us, f⟩ := uf
      obtain ⟨hl, hf⟩ := ok.cp us f hu
      have hx : ∀ v, fmtCpValue tab (.qty r Dim.molarEntropy) rnd (some us) v = .ok (.qstr (rnd (r * v / f)) us) :=
        fun v => (congrArg (fmtIn tab rnd · us) (R_mul_v r v)).trans (fmtIn_qty hl hf _)
      rw [Option.map_some, cpRows_eq_map ht hx]
      simp only [cpItems, rowsDim, CpPres.node, List.map_map]
      rfl

theorem fmtRange_eq (env : EnvOK tab R K r) (ok : ru.OK tab) (c : Corr) :
    fmtRange tab K rnd c ru.toFmt = .ok (item "range" ((fmtEntry rnd r ru c).range.map fun x => .seq [x.1.node, x.2.node])) := by
  simp only [fmtRange, fmtEntry, RUnits.toFmt]
  cases c.range with
  | none => rfl
  | some lh => simp only [env.K_eq, fmtIn_temp ok.t.1 ok.t.2]; rfl

/-- **what `yaml_format` writes**: with units of the right dimensions it never fails, and its output is the mapping of
the entry `fmtEntry` -/
theorem yamlFormat_eq (env : EnvOK tab R K r) (ok : ru.OK tab) (c : Corr) :
    yamlFormat tab R K rnd c ru.toFmt = .ok (mapping (fmtEntry rnd r ru c)) := by
  have hT : fmtIn tab rnd (withUnits c.Tref K) ru.toFmt.T = .ok (.qstr (rnd (c.Tref / ru.T.2)) ru.T.1) := by
    rw [env.K_eq]; exact fmtIn_temp ok.t.1 ok.t.2 _
  rw [yamlFormat, hT, fmtH_eq env ok, fmtS_eq env ok, fmtCp_eq env ok, fmtRange_eq env ok]
  rfl

/-! ### the written entry denotes `readBack` -/

theorem denotes_presT (ok : ru.OK tab) (T : Rat) :
    Denotes tab [] .temperature (presT rnd ru T) (rT rnd ru.T.2 T) :=
  ⟨⟨ru.T.2, Dim.temperature⟩, ok.t.1, rfl, rfl⟩

theorem rowsDim_denote (ok : ru.OK tab) {us : String} {f : Rat} (hu : ru.Cp = some (us, f)) (cp : List (Rat × Rat))
    (ks : List Rat) : DimRowsDenote tab [] r (rowsDim rnd r ru us f cp ks) (readBackPts rnd r ru cp ks) := by
  induction ks with
  | nil => trivial
  | cons T rest ih =>
    exact ⟨denotes_presT ok T, ⟨_, ⟨⟨f, Dim.molarEntropy⟩, (ok.cp us f hu).1, rfl, rfl⟩, by rw [hu]; rfl⟩, ih⟩

theorem rowsNd_denote (ok : ru.OK tab) (hu : ru.Cp = none) (cp : List (Rat × Rat)) (ks : List Rat) :
    NdRowsDenote tab [] (rowsNd rnd ru cp ks) (readBackPts rnd r ru cp ks) := by
  induction ks with
  | nil => trivial
  | cons T rest ih => exact ⟨denotes_presT ok T, by rw [hu]; rfl, ih⟩

/-- a reference value as it is written denotes the value `v` it is read back as (`den`: what the loader divides by) -/
theorem refEntry_denotes {k : Kind} {u : Option (String × Rat)} {w : Rat → Rat} {den : Rat} (o : Option Rat)
    {v : Option Rat} (hv : v = o.map fun h => match u with | none => h | some (_, f) => rnd (w h / f) * f / den)
    (hu : ∀ us f, u = some (us, f) → tab.lookup us = some ⟨f, k.dim⟩) :
    match refEntry rnd u w o with
    | none => v = none
    | some (.nd x) => v = some x
    | some (.dim p) => ∃ h, Denotes tab [] k p h ∧ v = some (h / den) := by
  subst hv
  cases o with
  | none => rfl
  | some h =>
    cases u with
    | none => rfl
    | some uf => exact ⟨_, ⟨⟨uf.2, k.dim⟩, hu uf.1 uf.2 rfl, rfl, rfl⟩, rfl⟩

/-- the entry `yaml_format` writes denotes, in the sense of C12, the correlation `readBack` -/
theorem fmtEntry_denotes (ok : ru.OK tab) (c : Corr) :
    EntryDenotes tab [] r (fmtEntry rnd r ru c) (readBack rnd r ru c) := by
  refine ⟨denotes_presT ok c.Tref, refEntry_denotes c.H rfl fun us f hu => (ok.h us f hu).1,
    refEntry_denotes c.S rfl fun us f hu => (ok.s us f hu).1, ?_, ?_⟩
  · simp only [fmtEntry, readBack]
    cases c.cp with
    | nil => rfl
    | cons x xs =>
      cases hu : ru.Cp with
      | none => exact ⟨_, rowsNd_denote ok hu _ _, rfl⟩
      | some uf => exact ⟨_, rowsDim_denote ok hu _ _, rfl⟩
  · simp only [fmtEntry, readBack]
    cases c.range with
    | none => rfl
    | some lh => exact ⟨_, _, denotes_presT ok lh.1, denotes_presT ok lh.2, rfl⟩

/-- **Write, then read.**  With units of the right dimensions, formatting never fails and loading the written entry
gives exactly `readBack` — every value a plain number — provided what is read back is a consistent correlation with
a non-zero reference temperature (it is whenever the rounding is monotone; see `Props/C18`). -/
theorem roundTrip_readBack {ru : RUnits}
    (env : EnvOK tab R K r) (ok : ru.OK tab) (c : Corr)
    (hT : (readBack rnd r ru c).Tref ≠ 0)
    (hv : checkValid (readBack rnd r ru c).cp (readBack rnd r ru c).Tref (readBack rnd r ru c).range = .ok ()) :
    roundTrip tab R K rnd c ru.toFmt = .ok (.ok (embed (readBack rnd r ru c))) := by
  rw [roundTrip, yamlFormat_eq env ok c]
  exact congrArg Except.ok (loadEntry_denotes env (renders_mapping _) (fmtEntry_denotes ok c) hT hv)

/-! ### the keys written -/

theorem keys_refItems (rnd : Rat → Rat) (dim nd : String) (u : Option (String × Rat)) (w : Rat → Rat) (o : Option Rat) :
    (refItems dim nd (refEntry rnd u w o)).map Prod.fst =
      match o with | none => [] | some _ => [if (u.map Prod.fst).isSome then dim else nd] := by
  cases o with
  | none => rfl
  | some h => cases u <;> rfl

theorem keys_mapping (rnd : Rat → Rat) (r : Rat) (ru : RUnits) (c : Corr) :
    (mapping (fmtEntry rnd r ru c)).map Prod.fst = expectedKeys c ru.toFmt := by
  simp only [mapping, fmtEntry, List.map_append, keys_refItems, expectedKeys, RUnits.toFmt]
  cases c.range <;> cases c.cp <;> rcases ru with ⟨_, _, _, _ | _⟩ <;> rfl

/-! ### sorted keys and dictionaries built from lists -/

theorem insertKey_perm (k : Rat) (l : List Rat) : (insertKey k l).Perm (k :: l) := by
  induction l with
  | nil => exact List.Perm.refl _
  | cons x xs ih =>
    rw [insertKey]
    split
    · exact List.Perm.refl _
    · exact (List.Perm.cons x ih).trans (List.Perm.swap k x xs)

theorem sortedKeys_perm (cp : List (Rat × Rat)) : (sortedKeys cp).Perm (keys cp) := by
  unfold sortedKeys keys
  induction cp.map Prod.fst with
  | nil => exact List.Perm.refl _
  | cons k ks ih => exact (insertKey_perm k _).trans (List.Perm.cons k ih)

theorem mem_sortedKeys (cp : List (Rat × Rat)) (T : Rat) : T ∈ sortedKeys cp ↔ T ∈ keys cp :=
  (sortedKeys_perm cp).mem_iff

theorem nodup_sortedKeys {cp : List (Rat × Rat)} (h : (keys cp).Nodup) : (sortedKeys cp).Nodup :=
  (sortedKeys_perm cp).nodup_iff.mpr h

theorem mem_keys_dictOfList {V : Type} (T : Rat) (l : List (Rat × V)) : T ∈ keys (dictOfList l) ↔ T ∈ keys l := by
  induction l using List.reverseRecOn with
  | nil => exact Iff.rfl
  | append_singleton l kv ih =>
    rw [dictOfList_snoc, mem_keys_dinsert, ih]
    show _ ↔ T ∈ (l ++ [kv]).map Prod.fst
    rw [List.map_append, List.mem_append, List.map_singleton, List.mem_singleton, or_comm]
    exact Iff.rfl

theorem dlookup_dictOfList {V : Type} (T : Rat) (l : List (Rat × V)) (h : (keys l).Nodup) :
    dlookup T (dictOfList l) = dlookup T l := by
  have : ∀ (l acc : List (Rat × V)), (keys l).Nodup →
      dlookup T (l.foldl (fun d kv => dinsert kv.1 kv.2 d) acc) = (dlookup T l).or (dlookup T acc) := by
    intro l
    induction l with
    | nil => exact fun _ _ => rfl
    | cons kv rest ih =>
      intro acc hnd
      obtain ⟨k, v⟩ := kv
      rw [keys, List.map_cons, List.nodup_cons] at hnd
      rw [List.foldl_cons, ih _ hnd.2, dlookup_dinsert, dlookup]
      by_cases hk : k = T
      · subst hk
        rw [(dlookup_eq_none_iff k rest).mpr hnd.1, if_pos rfl, if_pos rfl]
        rfl
      · rw [if_neg hk, if_neg hk]
  rw [dictOfList, this l [] h]
  exact Option.or_none

/-- the table as it is written: the temperatures in the order of `sortedKeys` (a permutation of the keys:
`sortedKeys_perm`), each with its value -/
def sortedItems (cp : List (Rat × Rat)) : List (Rat × Rat) := (sortedKeys cp).map fun T => (T, (dlookup T cp).getD 0)

theorem keys_sortedItems (cp : List (Rat × Rat)) : keys (sortedItems cp) = sortedKeys cp := by
  simp [sortedItems, keys, Function.comp_def]

theorem dlookup_map_keys (f : Rat → Rat) (T : Rat) (ks : List Rat) :
    dlookup T (ks.map fun k => (k, f k)) = if T ∈ ks then some (f T) else none := by
  induction ks with
  | nil => rfl
  | cons k rest ih =>
    rw [List.map_cons, dlookup, ih]
    by_cases h : k = T
    · rw [if_pos h, if_pos (h ▸ List.mem_cons_self), h]
    · rw [if_neg h]
      exact if_congr (List.mem_cons.trans (or_iff_right (Ne.symm h))).symm rfl rfl

theorem dlookup_sortedItems (cp : List (Rat × Rat)) (T : Rat) : dlookup T (sortedItems cp) = dlookup T cp := by
  rw [sortedItems, dlookup_map_keys (fun T => (dlookup T cp).getD 0) T]
  by_cases h : T ∈ keys cp
  · rw [if_pos ((mem_sortedKeys cp T).mpr h)]
    rw [← dlookup_isSome_iff] at h
    cases hv : dlookup T cp with
    | none => rw [hv] at h; cases h
    | some v => rfl
  · rw [if_neg fun hm => h ((mem_sortedKeys cp T).mp hm)]
    exact ((dlookup_eq_none_iff T cp).mpr h).symm

/-- the canonical form of a correlation, its table in the order of `sortedKeys`: what a write–read cycle returns when
nothing is rounded -/
def canonCorr (c : Corr) : Corr := ⟨c.H, c.S, dictOfList (sortedItems c.cp), c.Tref, c.range⟩

theorem canonCorr_same {c : Corr} (h : (keys c.cp).Nodup) : Same (canonCorr c) c := by
  refine ⟨rfl, rfl, fun T => ?_, rfl, rfl⟩
  show dlookup T (dictOfList (sortedItems c.cp)) = dlookup T c.cp
  rw [dlookup_dictOfList T _ (by rw [keys_sortedItems]; exact nodup_sortedKeys h), dlookup_sortedItems]

theorem canonCorr_valid {c : Corr} (v : Valid c) : checkValid (canonCorr c).cp (canonCorr c).Tref (canonCorr c).range = .ok () := by
  rw [checkValid_iff]
  refine (validP_congr (fun T => ?_) _ _).mpr v.ok
  show T ∈ keys (dictOfList (sortedItems c.cp)) ↔ _
  rw [mem_keys_dictOfList, keys_sortedItems, mem_sortedKeys]

theorem rT_fixed {f T : Rat} (hf : f ≠ 0) (h : rnd (T / f) = T / f) : rT rnd f T = T := by
  rw [rT, h, div_mul_cancel₀ T hf]

theorem readBackPts_fixed (hf : ru.T.2 ≠ 0) (hCp : ru.Cp = none)
    (cp : List (Rat × Rat)) (ks : List Rat) (hfix : ∀ T ∈ ks, rnd (T / ru.T.2) = T / ru.T.2) :
    readBackPts rnd r ru cp ks = ks.map fun T => (T, (dlookup T cp).getD 0) := by
  induction ks with
  | nil => rfl
  | cons T rest ih =>
    rw [readBackPts, rT_fixed hf (hfix T List.mem_cons_self), hCp, ih fun T' h' => hfix T' (List.mem_cons_of_mem _ h')]
    rfl

/-! ### six significant digits -/

theorem absR_eq_abs (x : Rat) : absR x = |x| := by
  unfold absR
  split
  · rename_i h; rw [abs_of_neg h]
  · rename_i h; rw [abs_of_nonneg (not_lt.mp h)]

theorem round6_zero (hr : Round6 rnd) : rnd 0 = 0 := by
  have := hr 0
  rw [absR_eq_abs, absR_eq_abs, sub_zero, abs_zero, mul_zero] at this
  exact abs_eq_zero.mp (le_antisymm this (abs_nonneg _))

/-- a number `v = x * s` written as `x`, rounded and scaled back keeps the relative bound -/
theorem round6_scaled (hr : Round6 rnd) {x s v : Rat} (h : x * s = v) :
    absR (rnd x * s - v) ≤ (5 / 1000000 : Rat) * absR v := by
  subst h
  have := hr x
  rw [absR_eq_abs, absR_eq_abs] at this ⊢
  rw [← sub_mul, abs_mul, abs_mul, ← mul_assoc]
  exact mul_le_mul_of_nonneg_right this (abs_nonneg s)

theorem rT_bound (hr : Round6 rnd) (f : Rat) (hf : f ≠ 0) (T : Rat) :
    absR (rT rnd f T - T) ≤ (5 / 1000000 : Rat) * absR T :=
  round6_scaled hr (div_mul_cancel₀ T hf)

theorem rS_bound (hr : Round6 rnd) (hr0 : r ≠ 0) (us : String) (f : Rat) (hf : f ≠ 0) (v : Rat) :
    absR (rS rnd r (some (us, f)) v - v) ≤ (5 / 1000000 : Rat) * absR v := by
  show absR (rnd (r * v / f) * f / r - v) ≤ _
  rw [mul_div_assoc]
  exact round6_scaled hr (by rw [div_mul_div_cancel₀ hf, mul_div_cancel_left₀ v hr0])

theorem rH_bound (hr : Round6 rnd) (hr0 : r ≠ 0) (us : String) (f : Rat) (hf : f ≠ 0)
    (T h : Rat) (hT : T ≠ 0) :
    absR (rH rnd r T T (some (us, f)) h - h) ≤ (5 / 1000000 : Rat) * absR h := by
  show absR (rnd (r * T * h / f) * f / (r * T) - h) ≤ _
  rw [mul_div_assoc]
  exact round6_scaled hr (by rw [div_mul_div_cancel₀ hf, mul_div_cancel_left₀ h (mul_ne_zero hr0 hT)])

/-! ### what is read back is consistent when the rounding is monotone -/

/-- `'%g'` is monotone: a larger number is not written as a smaller one.  An assumption about `'%g'` (A-float) of the
same standing as `Round6` in `PGA/Spec/YamlFormat.lean`; the theorems that need it take it as a hypothesis. -/
def Mono (rnd : Rat → Rat) : Prop := ∀ x y, x ≤ y → rnd x ≤ rnd y

theorem rT_mono (hm : Mono rnd) {f : Rat} (hf : 0 < f) {x y : Rat} (h : x ≤ y) :
    rT rnd f x ≤ rT rnd f y := by
  unfold rT
  exact mul_le_mul_of_nonneg_right (hm _ _ (div_le_div_of_nonneg_right h (le_of_lt hf))) (le_of_lt hf)

theorem keys_readBackPts (rnd : Rat → Rat) (r : Rat) (ru : RUnits) (cp : List (Rat × Rat)) (ks : List Rat) :
    keys (readBackPts rnd r ru cp ks) = ks.map (rT rnd ru.T.2) := by
  induction ks with
  | nil => rfl
  | cons T rest ih =>
    simp only [readBackPts, keys, List.map_cons] at ih ⊢
    rw [ih]

theorem mem_keys_readBack (rnd : Rat → Rat) (r : Rat) (ru : RUnits) (c : Corr) (T' : Rat) :
    T' ∈ keys (readBack rnd r ru c).cp ↔ ∃ T ∈ keys c.cp, T' = rT rnd ru.T.2 T := by
  show T' ∈ keys (dictOfList (readBackPts rnd r ru c.cp (sortedKeys c.cp))) ↔ _
  rw [mem_keys_dictOfList, keys_readBackPts, List.mem_map]
  constructor
  · rintro ⟨T, hT, rfl⟩; exact ⟨T, (mem_sortedKeys c.cp T).mp hT, rfl⟩
  · rintro ⟨T, hT, rfl⟩; exact ⟨T, (mem_sortedKeys c.cp T).mpr hT, rfl⟩

/-- with a monotone rounding and a positive temperature unit, what is read back from a consistent correlation is
consistent -/
theorem readBack_valid (hm : Mono rnd) (hf : 0 < ru.T.2) {c : Corr} (v : Valid c) :
    checkValid (readBack rnd r ru c).cp (readBack rnd r ru c).Tref (readBack rnd r ru c).range = .ok () := by
  rw [checkValid_iff]
  have hk := mem_keys_readBack rnd r ru c
  have m := fun {x y : Rat} (h : x ≤ y) => rT_mono hm hf h
  have hne : keys (readBack rnd r ru c).cp ≠ [] → keys c.cp ≠ [] := fun h =>
    let ⟨T', hT'⟩ := List.exists_mem_of_ne_nil _ h
    let ⟨_, hT, _⟩ := (hk T').mp hT'
    List.ne_nil_of_mem hT
  have vo := v.ok
  show ValidP _ (rT rnd ru.T.2 c.Tref) (c.range.map fun lh => (rT rnd ru.T.2 lh.1, rT rnd ru.T.2 lh.2))
  cases hr : c.range with
  | none =>
    rw [hr] at vo
    intro h
    obtain ⟨⟨k1, m1, l1⟩, ⟨k2, m2, l2⟩⟩ := vo (hne h)
    exact ⟨⟨_, (hk _).mpr ⟨k1, m1, rfl⟩, m l1⟩, ⟨_, (hk _).mpr ⟨k2, m2, rfl⟩, m l2⟩⟩
  | some lh =>
    rw [hr] at vo
    refine ⟨m vo.1, fun h => ?_⟩
    obtain ⟨hall, h1, h2⟩ := vo.2 (hne h)
    refine ⟨fun k' hk' => ?_, m h1, m h2⟩
    obtain ⟨T, hT, rfl⟩ := (hk k').mp hk'
    exact ⟨m (hall T hT).1, m (hall T hT).2⟩

theorem rT_ne_zero (hr : Round6 rnd) {f : Rat} (hf : f ≠ 0) {T : Rat} (hT : T ≠ 0) : rT rnd f T ≠ 0 := by
  intro h
  have hb := rT_bound hr f hf T
  rw [h, absR_eq_abs, absR_eq_abs, zero_sub, abs_neg] at hb
  exact not_le.mpr (mul_lt_of_lt_one_left (abs_pos.mpr hT) (by norm_num)) hb

end PGA.YamlFormat
