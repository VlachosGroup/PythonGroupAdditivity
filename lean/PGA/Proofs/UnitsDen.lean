import PGA.Proofs.UnitsRender
/-!
# Evaluating the parsed tree gives the denotation

For a configuration whose database entries are exact magnitudes with integer exponents (a table
obligation for the live tables) and an expression all of whose powers are integers, `eval_subtree`
(with the snapping `_build` after every operation) computes exactly the specification's `den`
(plain rational arithmetic on magnitudes, plain integer arithmetic on exponents).
-/
namespace PGA.Units
open SExpr

/-- non-negative threshold; every database entry is an exact magnitude with integer exponents -/
structure CfgGood (cfg : Cfg) : Prop where
  thr : 0 ≤ cfg.thr
  db : ∀ kv ∈ cfg.db, ∃ q, kv.2.mag = .exact q ∧ kv.2.dim.Integral

theorem Table.find_mem {α} (t : Table α) (n : Name) (v : α) (h : t.find n = some v) : (n, v) ∈ t := by
  induction t with
  | nil => simp [Table.find] at h
  | cons kv rest ih =>
    obtain ⟨k, w⟩ := kv
    simp only [Table.find] at h
    split at h
    · next hk => injection h with h; subst h; subst hk; exact List.mem_cons_self
    · exact List.mem_cons_of_mem _ (ih h)

theorem scale_good {thr p : Rat} (ht : 0 ≤ thr) {v : Val} {q : Rat} (hm : v.mag = .exact q) (hd : v.dim.Integral) :
    ∃ q', (scale thr p v).mag = .exact q' ∧ (scale thr p v).dim.Integral := by
  refine ⟨p * q, ?_, ?_⟩
  · simp [scale, Val.mul, Val.plain, hm, Mag.mul]
  · simp only [scale, Val.mul, Val.plain]
    exact Dim.build_integral ht (Dim.Integral.add Dim.integral_zero hd)

theorem lookup_good {cfg : Cfg} (hg : CfgGood cfg) {s : Name} {v : Val} (h : lookup cfg s = .ok v) :
    ∃ q, v.mag = .exact q ∧ v.dim.Integral := by
  unfold lookup at h
  split at h
  · next w hw =>
    injection h with h; subst h
    exact hg.db _ (Table.find_mem _ _ _ hw)
  · split at h
    · next w p hw hp =>
      injection h with h; subst h
      obtain ⟨q, hq, hd⟩ := hg.db _ (Table.find_mem _ _ _ hw)
      exact scale_good hg.thr hq hd
    · split at h
      · next w p hw hp =>
        injection h with h; subst h
        obtain ⟨q, hq, hd⟩ := hg.db _ (Table.find_mem _ _ _ hw)
        exact scale_good hg.thr hq hd
      · simp [perr] at h

/-- the model's result `r` is the denotation `v` (and the exponents are integers) -/
def Agrees (v : Res SVal) (r : Res Val) : Prop :=
  match v with
  | .ok (q, d) => r = .ok ⟨.exact q, d⟩ ∧ d.Integral
  | .error e => r = .error e

theorem agrees_name {cfg : Cfg} (hg : CfgGood cfg) (s : Name) : Agrees (nameDen cfg s) (lookup cfg s) := by
  unfold nameDen
  cases h : lookup cfg s with
  | error e => simp [Agrees]
  | ok v =>
    obtain ⟨q, hq, hd⟩ := lookup_good hg h
    obtain ⟨m, d⟩ := v
    simp only at hq hd
    subst hq
    exact ⟨rfl, hd⟩

theorem agrees_pw {cfg : Cfg} (hg : CfgGood cfg) (t : Tree) (v : Res SVal) (pw : Option PowLit)
    (hint : pwInt pw) (h : Agrees v (evalTree cfg t)) : Agrees (applyPw v pw) (evalTree cfg (pwTree t pw)) := by
  cases pw with
  | none => exact h
  | some p =>
    have hx : isInt p.lit.value = true := hint
    simp only [applyPw, pwTree, evalTree, bind, Except.bind]
    cases v with
    | error e =>
      have : evalTree cfg t = .error e := h
      simp [this, Agrees]
    | ok qd =>
      obtain ⟨q, d⟩ := qd
      obtain ⟨he, hd⟩ : evalTree cfg t = .ok ⟨.exact q, d⟩ ∧ d.Integral := h
      simp only [he, hx, Bool.not_true, Bool.and_false, Bool.false_eq_true, if_false, Val.pow, Mag.pow, if_true,
        bind, Except.bind]
      by_cases hz : q = 0 ∧ p.lit.value.num < 0
      · simp [hz, Agrees]
      · simp only [hz, if_false, pure, Except.pure, Agrees]
        exact ⟨by rw [Dim.pow_of_stable hg.thr (Dim.Integral.smul hx hd).stable]; rfl, Dim.Integral.smul hx hd⟩

theorem evalTree_mkBin (cfg : Cfg) (op : SOp) (a b : Tree) :
    evalTree cfg (mkBin op a b) = evalTree cfg a >>= fun x => evalTree cfg b >>= fun y =>
      match op with
      | .over => Val.div cfg.thr x y
      | _ => pure (Val.mul cfg.thr x y) := by
  cases op <;> rfl

/-- **evaluation = denotation**, for every expression tree with integer powers -/
theorem eval_den {cfg : Cfg} (hg : CfgGood cfg) (e : SExpr) (hint : e.IntPows) :
    Agrees (den cfg e) (evalTree cfg (toTree e)) := by
  induction e with
  | num n pw =>
    apply agrees_pw hg _ _ pw hint
    exact ⟨rfl, Dim.integral_zero⟩
  | name s pw =>
    apply agrees_pw hg _ _ pw hint
    exact agrees_name hg s
  | paren e pw ih =>
    apply agrees_pw hg _ _ pw hint.2
    exact ih hint.1
  | bin e op f ihe ihf =>
    have he := ihe hint.1
    have hf := ihf hint.2
    simp only [den, toTree, evalTree_mkBin]
    generalize den cfg e = va at he ⊢
    rcases va with err | ⟨qa, da⟩
    · rw [show evalTree cfg (toTree e) = .error err from he]; rfl
    obtain ⟨he', hda⟩ := he
    generalize den cfg f = vb at hf ⊢
    rcases vb with err | ⟨qb, db⟩
    · rw [he', show evalTree cfg (toTree f) = .error err from hf]; rfl
    obtain ⟨hf', hdb⟩ := hf
    rw [he', hf']
    cases op with
    | over =>
      by_cases hz : qb = 0
      · simp [hz, Agrees, bind, Except.bind, Val.div, Mag.div, Mag.isZero]
      · simp only [hz, if_false]
        refine ⟨?_, Dim.Integral.sub hda hdb⟩
        rw [← Dim.sub, ← Dim.div_of_stable hg.thr (Dim.Integral.sub hda hdb).stable, Rat.div_def]
        simp only [bind, Except.bind, Val.div, Mag.div, Mag.isZero, beq_iff_eq, hz, if_false, pure, Except.pure, Mag.mul, Mag.inv]
    | _ =>
      refine ⟨?_, Dim.Integral.add hda hdb⟩
      rw [← Dim.add, ← Dim.mul_of_stable hg.thr (Dim.Integral.add hda hdb).stable]; rfl

end PGA.Units
