import PGA.Proofs.Thermo
import PGA.Model.Dec
import PGA.Model.ThermoDec
/-! Helper lemmas for C06: the range intersection fold of `ThermochemGroupAdditive.__init__`, the invariant
of constructed `ThermochemIncomplete` objects, what each class does outside / inside its range, and how
the sequential sums and `G = H − S` propagate errors and warnings; at the end, the order of decimal literals decided on
natural numbers, for the table obligations of C06 and C14. -/
namespace PGA.Thermo


/-! ### range intersection -/

theorem inRange_rangeStep (T : Rat) (acc r : Option Range) :
    inRange T (rangeStep acc r) ↔ inRange T acc ∧ inRange T r := by
  cases r with
  | none => exact (and_iff_left trivial).symm
  | some dr =>
    cases acc with
    | none => exact (and_iff_right trivial).symm
    | some a =>
      show max a.1 dr.1 ≤ T ∧ T ≤ min a.2 dr.2 ↔ _
      rw [max_le_iff, le_min_iff]
      exact and_and_and_comm

theorem inRange_foldl (T : Rat) (rs : List (Option Range)) (acc : Option Range) :
    inRange T (rs.foldl rangeStep acc) ↔ inRange T acc ∧ ∀ r ∈ rs, inRange T r := by
  induction rs generalizing acc with
  | nil => simp
  | cons r rs ih =>
    rw [List.foldl_cons, ih, inRange_rangeStep]
    simp only [List.mem_cons, forall_eq_or_imp]
    tauto

theorem inRange_estRange (T : Rat) (rs : List (Option Range)) :
    inRange T (estRange rs) ↔ ∀ r ∈ rs, inRange T r :=
  (inRange_foldl T rs none).trans (and_iff_right trivial)

theorem foldl_rangeStep_none (rs : List (Option Range)) (acc : Option Range) :
    rs.foldl rangeStep acc = none ↔ acc = none ∧ ∀ r ∈ rs, r = none := by
  induction rs generalizing acc with
  | nil => simp
  | cons r rs ih =>
    rw [List.foldl_cons, ih]
    simp only [List.mem_cons, forall_eq_or_imp]
    cases r <;> cases acc <;> simp [rangeStep]

theorem rangeStep_comm (acc x y : Option Range) : rangeStep (rangeStep acc x) y = rangeStep (rangeStep acc y) x := by
  cases x <;> cases y <;> cases acc <;> simp only [rangeStep]
  · rw [max_comm, min_comm]
  · rw [max_right_comm, min_right_comm]

theorem estRange_perm {rs rs' : List (Option Range)} (h : rs.Perm rs') : estRange rs = estRange rs' :=
  h.foldl_eq' (fun x _ y _ z => rangeStep_comm z x y) none

/-- each end of one step's result is that end of one of the two ranges -/
theorem rangeStep_attained {acc x : Option Range} {m : Range} (h : rangeStep acc x = some m) :
    (∃ r, some r ∈ [acc, x] ∧ r.1 = m.1) ∧ (∃ r, some r ∈ [acc, x] ∧ r.2 = m.2) := by
  cases x with
  | none => exact ⟨⟨m, (show acc = some m from h) ▸ .head _, rfl⟩, ⟨m, (show acc = some m from h) ▸ .head _, rfl⟩⟩
  | some dr =>
    cases acc with
    | none => exact ⟨⟨m, h ▸ .tail _ (.head _), rfl⟩, ⟨m, h ▸ .tail _ (.head _), rfl⟩⟩
    | some a =>
      cases h
      exact ⟨(max_choice a.1 dr.1).elim (fun e => ⟨a, .head _, e.symm⟩) (fun e => ⟨dr, .tail _ (.head _), e.symm⟩),
        (min_choice a.2 dr.2).elim (fun e => ⟨a, .head _, e.symm⟩) (fun e => ⟨dr, .tail _ (.head _), e.symm⟩)⟩

/-- each end of the intersection is that end of one of the ranges met -/
theorem foldl_rangeStep_attained (rs : List (Option Range)) (acc : Option Range) {lo hi : Rat}
    (h : rs.foldl rangeStep acc = some (lo, hi)) :
    (∃ r, some r ∈ acc :: rs ∧ r.1 = lo) ∧ (∃ r, some r ∈ acc :: rs ∧ r.2 = hi) := by
  induction rs generalizing acc with
  | nil =>
    have m : some (lo, hi) ∈ [acc] := (show acc = _ from h) ▸ .head _
    exact ⟨⟨_, m, rfl⟩, ⟨_, m, rfl⟩⟩
  | cons x rs ih =>
    have back : ∀ r, some r ∈ rangeStep acc x :: rs →
        (∃ r', some r' ∈ acc :: x :: rs ∧ r'.1 = r.1) ∧ (∃ r', some r' ∈ acc :: x :: rs ∧ r'.2 = r.2) := by
      intro r hr
      rcases List.mem_cons.mp hr with e | hr
      · obtain ⟨⟨a, ma, ea⟩, ⟨b, mb, eb⟩⟩ := rangeStep_attained e.symm
        exact ⟨⟨a, List.mem_append_left rs ma, ea⟩, ⟨b, List.mem_append_left rs mb, eb⟩⟩
      · exact ⟨⟨r, .tail _ (.tail _ hr), rfl⟩, ⟨r, .tail _ (.tail _ hr), rfl⟩⟩
    obtain ⟨⟨r₁, m₁, e₁⟩, ⟨r₂, m₂, e₂⟩⟩ := ih _ h
    obtain ⟨⟨a, ma, ea⟩, _⟩ := back r₁ m₁
    obtain ⟨_, ⟨b, mb, eb⟩⟩ := back r₂ m₂
    exact ⟨⟨a, ma, ea.trans e₁⟩, ⟨b, mb, eb.trans e₂⟩⟩

/-! ### constructed `ThermochemIncomplete` objects -/

/-- invariant of constructed `ThermochemIncomplete` objects: the range passed the base-class assertion and the
inner table correlation exists exactly when there is heat-capacity data, built from this object's own data -/
structure Incomplete.WF (c : Incomplete) : Prop where
  base : baseInitOk c.range = true
  nocp : c.cp = [] → c.corr = none
  hascp : c.cp ≠ [] → ∃ ip d, RawData.mk ip (c.Href.getD 0) (c.Sref.getD 0) c.cp c.Tref c.range = .ok d ∧ c.corr = some d

/-- what a successful construction establishes: the invariant, the stored data, and the inner table correlation
as built with the same interpolant -/
theorem Incomplete.mk_wf {ip : Interp} {Href Sref : Option Rat} {cp : List Pt} {Tref : Rat} {range : Option Range}
    {c : Incomplete} (hmk : Incomplete.mk ip Href Sref cp Tref range = .ok c) :
    c.WF ∧ c.Href = Href ∧ c.Sref = Sref ∧ c.cp = cp ∧ c.Tref = Tref ∧ c.range = range ∧
      (cp ≠ [] → ∃ d, RawData.mk ip (Href.getD 0) (Sref.getD 0) cp Tref range = .ok d ∧ c.corr = some d) := by
  unfold Incomplete.mk at hmk
  split at hmk
  · cases hmk
  · rename_i hb
    have hb' : baseInitOk range = true := by simpa using hb
    cases cp with
    | nil =>
      cases hmk
      exact ⟨⟨hb', fun _ => rfl, fun h => absurd rfl h⟩, rfl, rfl, rfl, rfl, rfl, fun h => absurd rfl h⟩
    | cons q qs =>
      simp only at hmk
      split at hmk
      · cases hmk
      · rename_i d hd
        rw [mk_sortPts] at hd
        cases hmk
        exact ⟨⟨hb', (fun h => by cases h), fun _ => ⟨ip, d, hd, rfl⟩⟩, rfl, rfl, rfl, rfl, rfl, fun _ => ⟨d, hd, rfl⟩⟩

/-- **the constructor guards, positively**: a non-empty table with strictly increasing temperatures, and either a
declared range `lo ≤ hi` containing the table and `T_ref`, or no declared range and `T_ref` between two tabulated
temperatures — then `ThermochemRawData.__init__` succeeds (whatever the interpolant and the reference values) -/
theorem RawData.mk_ok_of {ip : Interp} {Href Sref : Rat} {pts : List Pt} {Tref : Rat} {range : Option Range}
    (hne : pts ≠ []) (hinc : strictInc pts = true)
    (hr : ∀ r, range = some r → r.1 ≤ r.2 ∧ (∀ p ∈ pts, r.1 ≤ p.1 ∧ p.1 ≤ r.2) ∧ r.1 ≤ Tref ∧ Tref ≤ r.2)
    (hn : range = none → ∃ p ∈ pts, ∃ q ∈ pts, p.1 ≤ Tref ∧ Tref ≤ q.1) :
    ∃ d, RawData.mk ip Href Sref pts Tref range = .ok d := by
  have hlt := (strictInc_iff pts).mp hinc
  have hle : pts.Pairwise KeyLe := hlt.imp (fun h => le_of_lt h)
  have hs := sortPts_of_sorted pts hle
  obtain ⟨p0, rest, rfl⟩ := List.exists_cons_of_ne_nil hne
  have hmin : ∀ x ∈ p0 :: rest, p0.1 ≤ x.1 := by
    intro x hx
    rcases List.mem_cons.mp hx with rfl | hx
    · exact le_refl _
    · exact (List.pairwise_cons.mp hle).1 x hx
  have hmax := le_lastPt p0 rest hle
  have hlm := lastPt_mem p0 rest
  unfold RawData.mk
  rw [hs]
  simp only
  cases range with
  | none =>
    obtain ⟨p, hp, q, hq, h1, h2⟩ := hn rfl
    have ho : outsideR (p0.1, (lastPt p0 rest).1) Tref = false :=
      outsideR_false.mpr ⟨le_trans (hmin p hp) h1, le_trans h2 (hmax q hq)⟩
    have hnl : ¬ ((lastPt p0 rest).1 < p0.1) := not_lt.mpr (hmax p0 (List.mem_cons_self ..))
    simp only [ho, Bool.false_eq_true, if_false, hnl]
    cases rest with
    | nil => exact ⟨_, rfl⟩
    | cons q' qs => rw [if_pos hinc]; exact ⟨_, rfl⟩
  | some r =>
    obtain ⟨hlh, hall, h1, h2⟩ := hr r rfl
    have c1 : ¬ (p0.1 < r.1) := not_lt.mpr (hall p0 (List.mem_cons_self ..)).1
    have c2 : ¬ ((lastPt p0 rest).1 > r.2) := not_lt.mpr (hall _ hlm).2
    have ho : outsideR r Tref = false := outsideR_false.mpr ⟨h1, h2⟩
    have hnl : ¬ (r.2 < r.1) := not_lt.mpr hlh
    simp only [c1, c2, decide_false, Bool.or_self, Bool.false_eq_true, if_false, ho, hnl]
    cases rest with
    | nil => exact ⟨_, rfl⟩
    | cons q' qs => rw [if_pos hinc]; exact ⟨_, rfl⟩

/-- `ThermochemIncomplete.__init__` succeeds when the base-class assertion holds and the table correlation (if there
is a table) can be built -/
theorem Incomplete.mk_ok_of {ip : Interp} {Href Sref : Option Rat} {cp : List Pt} {Tref : Rat} {range : Option Range}
    (hb : baseInitOk range = true)
    (hd : cp ≠ [] → ∃ d, RawData.mk ip (Href.getD 0) (Sref.getD 0) cp Tref range = .ok d) :
    ∃ c, Incomplete.mk ip Href Sref cp Tref range = .ok c := by
  unfold Incomplete.mk
  rw [hb, if_neg Bool.noConfusion]
  cases cp with
  | nil => exact ⟨_, rfl⟩
  | cons q qs =>
    obtain ⟨d, hd⟩ := hd (List.cons_ne_nil _ _)
    simp only [mk_sortPts, hd]
    exact ⟨_, rfl⟩

theorem Signalled.of_error {e : Err} {w : Bool} : Signalled (.error e, w) := Or.inl ⟨e, rfl⟩
theorem Signalled.of_warn {r : Except Err Rat} : Signalled (r, true) := Or.inr rfl

theorem convertErr_outside : convertErr (.error .outside) = .error .incomplete := rfl
theorem convertErr_ok (v : Rat) : convertErr (.ok v) = .ok v := rfl

/-- out of its range, a table correlation raises the range error for every property -/
theorem RawData.outside_err (d : RawData) {T : Rat} (h : ¬ inRange T (some d.range)) :
    d.CpoR T = .error .outside ∧ d.HoRT T = .error .outside ∧ d.SoR T = .error .outside ∧ d.GoRT T = .error .outside := by
  have e := checkRange_err (r := d.range) (T := T) h
  unfold RawData.GoRT RawData.CpoR RawData.HoRT RawData.SoR
  simp only [e, and_self]

/-- in range (positive lower end) every property of a table correlation is a value -/
theorem RawData.inside_ok (d : RawData) (hpos : 0 < d.range.1) {T : Rat} (hT : inRange T (some d.range)) :
    (∃ v, d.CpoR T = .ok v) ∧ (∃ v, d.HoRT T = .ok v) ∧ (∃ v, d.SoR T = .ok v) ∧ (∃ v, d.GoRT T = .ok v) := by
  have eH := (HoRT_in_range hpos hT).1
  have eS := SoR_in_range hT
  refine ⟨⟨_, CpoR_in_range hT⟩, ⟨_, eH⟩, ⟨_, eS⟩, ?_⟩
  unfold RawData.GoRT
  rw [eH, eS]
  exact ⟨_, rfl⟩

/-! ### the getters of `ThermochemIncomplete`, without and with heat-capacity data -/

theorem Incomplete.eval_nocp {c : Incomplete} (h : c.cp = []) (T : Rat) :
    c.CpoR T = (.error .incomplete, false) ∧
    c.HoRT T = (match c.Href with | none => (.error .incomplete, false) | some v => (.ok v, c.warnNoCp T)) ∧
    c.SoR T = (match c.Sref with | none => (.error .incomplete, false) | some v => (.ok v, c.warnNoCp T)) := by
  unfold Incomplete.CpoR Incomplete.HoRT Incomplete.SoR
  rw [h]
  exact ⟨rfl, rfl, rfl⟩

theorem Incomplete.eval_cp {c : Incomplete} {d : RawData} (h : c.cp ≠ []) (hc : c.corr = some d) (T : Rat) :
    c.CpoR T = (convertErr (d.CpoR T), false) ∧
    c.HoRT T = (match c.Href with | none => (.error .incomplete, false) | some _ => (convertErr (d.HoRT T), false)) ∧
    c.SoR T = (match c.Sref with | none => (.error .incomplete, false) | some _ => (convertErr (d.SoR T), false)) := by
  obtain ⟨q, qs, hq⟩ := List.exists_cons_of_ne_nil h
  unfold Incomplete.CpoR Incomplete.HoRT Incomplete.SoR
  rw [hq, hc]
  exact ⟨rfl, by cases c.Href <;> rfl, by cases c.Sref <;> rfl⟩

/-- the inner table correlation, when there is one, was built from the object's own heat-capacity data -/
theorem Incomplete.WF.corr_built {c : Incomplete} (hw : c.WF) {d : RawData} (hc : c.corr = some d) :
    c.cp ≠ [] ∧ ∃ ip, RawData.mk ip (c.Href.getD 0) (c.Sref.getD 0) c.cp c.Tref c.range = .ok d := by
  have hcp : c.cp ≠ [] := fun h => by rw [hw.nocp h] at hc; cases hc
  obtain ⟨ip, d', hd, hc'⟩ := hw.hascp hcp
  rw [hc'] at hc
  cases hc
  exact ⟨hcp, ip, hd⟩

/-- a constituent evaluated outside its declared range signals (error, or the warning when it has no Cp data) -/
theorem Incomplete.outside_signalled {c : Incomplete} (hw : c.WF) {r : Range} (hr : c.range = some r) {T : Rat}
    (hT : ¬ inRange T (some r)) :
    Signalled (c.CpoR T) ∧ Signalled (c.HoRT T) ∧ Signalled (c.SoR T) ∧
    (c.cp ≠ [] → c.CpoR T = (.error .incomplete, false) ∧ c.HoRT T = (.error .incomplete, false) ∧
      c.SoR T = (.error .incomplete, false)) := by
  by_cases hcp : c.cp = []
  · obtain ⟨e1, e2, e3⟩ := Incomplete.eval_nocp hcp T
    have hwarn : c.warnNoCp T = true := by
      rw [Incomplete.warnNoCp, hr]
      exact (Bool.or_eq_true _ _).mpr (.inr (outsideR_true.mpr ((not_and_or.mp hT).imp not_le.mp not_le.mp)))
    rw [e1, e2, e3, hwarn]
    refine ⟨Signalled.of_error, ?_, ?_, fun h => absurd hcp h⟩
    · cases c.Href <;> [exact Signalled.of_error; exact Signalled.of_warn]
    · cases c.Sref <;> [exact Signalled.of_error; exact Signalled.of_warn]
  · obtain ⟨ip, d, hd, hc⟩ := hw.hascp hcp
    obtain ⟨e1, e2, e3⟩ := Incomplete.eval_cp hcp hc T
    obtain ⟨o1, o2, o3, _⟩ := d.outside_err (T := T) ((RawData.mk_built hd).range_some r hr ▸ hT)
    have k1 : c.CpoR T = (.error .incomplete, false) := by rw [e1, o1]; rfl
    have k2 : c.HoRT T = (.error .incomplete, false) := by rw [e2, o2]; cases c.Href <;> rfl
    have k3 : c.SoR T = (.error .incomplete, false) := by rw [e3, o3]; cases c.Sref <;> rfl
    exact ⟨k1 ▸ Signalled.of_error, k2 ▸ Signalled.of_error, k3 ▸ Signalled.of_error, fun _ => ⟨k1, k2, k3⟩⟩

/-- where its inner table correlation (if it has one) is in range, with positive lower end, a constituent returns a
value for each property it has data for -/
theorem Incomplete.inside_ok {c : Incomplete} (hw : c.WF) {T : Rat}
    (hT : ∀ d, c.corr = some d → 0 < d.range.1 ∧ inRange T (some d.range)) :
    (c.cp ≠ [] → ∃ v, c.CpoR T = (.ok v, false)) ∧
    (c.Href ≠ none → IsValue (c.HoRT T)) ∧ (c.Sref ≠ none → IsValue (c.SoR T)) := by
  by_cases hcp : c.cp = []
  · obtain ⟨_, e2, e3⟩ := Incomplete.eval_nocp hcp T
    rw [e2, e3]
    refine ⟨fun h => absurd hcp h, fun hh => ?_, fun hs => ?_⟩
    · cases h : c.Href <;> [exact absurd h hh; exact ⟨_, rfl⟩]
    · cases h : c.Sref <;> [exact absurd h hs; exact ⟨_, rfl⟩]
  · obtain ⟨ip, d, hd, hc⟩ := hw.hascp hcp
    obtain ⟨e1, e2, e3⟩ := Incomplete.eval_cp hcp hc T
    obtain ⟨hpos, hin⟩ := hT d hc
    obtain ⟨⟨v1, o1⟩, ⟨v2, o2⟩, ⟨v3, o3⟩, _⟩ := d.inside_ok hpos hin
    rw [e1, e2, e3, o1, o2, o3]
    refine ⟨fun _ => ⟨v1, rfl⟩, fun hh => ?_, fun hs => ?_⟩
    · cases h : c.Href <;> [exact absurd h hh; exact ⟨v2, rfl⟩]
    · cases h : c.Sref <;> [exact absurd h hs; exact ⟨v3, rfl⟩]

/-! ### sequential sums and `G = H − S` -/

/-- a warning already issued, or a constituent that signals, makes the sum signal -/
theorem sumEval_signalled (f : Incomplete → Out) (cs : List (Incomplete × Rat)) (acc : Rat) (w : Bool)
    (h : w = true ∨ ∃ c ∈ cs, Signalled (f c.1)) : Signalled (sumEval f cs acc w) := by
  induction cs generalizing acc w with
  | nil =>
    rcases h with rfl | ⟨c, hc, _⟩
    · exact Signalled.of_warn
    · cases hc
  | cons c cs ih =>
    obtain ⟨c, n⟩ := c
    unfold sumEval
    rcases hf : f c with ⟨r, w'⟩
    cases r with
    | error e => exact Signalled.of_error
    | ok v =>
      refine ih _ _ ?_
      rcases h with rfl | ⟨c', hc', hs⟩
      · exact Or.inl (Bool.true_or _)
      · rcases List.mem_cons.mp hc' with rfl | hc'
        · rw [hf] at hs
          rcases hs with ⟨e, he⟩ | (hw : w' = true)
          · cases he
          · exact Or.inl (by rw [hw, Bool.or_true])
        · exact Or.inr ⟨c', hc', hs⟩

theorem sumEval_value (f : Incomplete → Out) (cs : List (Incomplete × Rat)) (acc : Rat) (w : Bool)
    (h : ∀ c ∈ cs, IsValue (f c.1)) : IsValue (sumEval f cs acc w) := by
  induction cs generalizing acc w with
  | nil => exact ⟨acc, rfl⟩
  | cons c cs ih =>
    obtain ⟨c, n⟩ := c
    unfold sumEval
    obtain ⟨v, hv⟩ := h (c, n) (List.mem_cons_self ..)
    rcases hf : f c with ⟨r, w'⟩
    rw [hf] at hv
    simp only at hv
    subst hv
    exact ih _ _ (fun c' hc' => h c' (List.mem_cons_of_mem _ hc'))

theorem gibbs_signalled {h : Out} (s : Unit → Out) (hs : Signalled h) : Signalled (gibbs h s) := by
  obtain ⟨r, w⟩ := h
  unfold gibbs
  cases r with
  | error e => exact Signalled.of_error
  | ok hv =>
    rcases hs with ⟨e, he⟩ | hw
    · cases he
    · simp only at hw; subst hw
      rcases s () with ⟨r', w'⟩
      cases r' with
      | error e => exact Signalled.of_error
      | ok sv => simp only [Bool.true_or]; exact Signalled.of_warn

theorem gibbs_value {h : Out} {s : Unit → Out} (hh : IsValue h) (hs : IsValue (s ())) :
    ∃ hv sv, h.1 = .ok hv ∧ (s ()).1 = .ok sv ∧ (gibbs h s).1 = .ok (hv - sv) := by
  obtain ⟨r, w⟩ := h
  obtain ⟨hv, e⟩ := hh
  simp only at e; subst e
  obtain ⟨sv, e'⟩ := hs
  refine ⟨hv, sv, rfl, e', ?_⟩
  unfold gibbs
  rcases hs' : s () with ⟨r', w'⟩
  rw [hs'] at e'
  simp only at e'; subst e'
  rfl

/-- what a successful construction of an estimate establishes -/
theorem Estimate.mk_ok {cs : List (Incomplete × Rat)} {e : Estimate} (hmk : Estimate.mk cs = .ok e) :
    e.cors = cs ∧ e.range = estRange (cs.map (fun c => c.1.range)) ∧ baseInitOk e.range = true := by
  simp only [Estimate.mk] at hmk
  split at hmk
  · cases hmk
  · rename_i hb
    simp only [Except.ok.injEq] at hmk; subst hmk
    exact ⟨rfl, rfl, by simpa using hb⟩

/-! ### the internal-error outcome is unreachable -/


theorem RawData.no_internal (d : RawData) (T : Rat) :
    d.CpoR T ≠ .error .internal ∧ d.HoRT T ≠ .error .internal ∧ d.SoR T ≠ .error .internal := by
  by_cases h : inRange T (some d.range)
  · rw [CpoR_in_range h, SoR_in_range h, RawData.HoRT, checkRange_ok.mpr h]
    exact ⟨nofun, by split_ifs <;> nofun, nofun⟩
  · obtain ⟨e1, e2, e3, _⟩ := d.outside_err h
    rw [e1, e2, e3]
    exact ⟨nofun, nofun, nofun⟩

theorem convertErr_internal {r : Except Err Rat} (h : r ≠ .error .internal) : convertErr r ≠ .error .internal := by
  unfold convertErr
  split
  · simp
  · exact h

/-- the `AttributeError` outcome (`_correlation` missing) is unreachable for constructed objects -/
theorem Incomplete.no_internal {c : Incomplete} (hw : c.WF) (T : Rat) :
    (c.CpoR T).1 ≠ .error .internal ∧ (c.HoRT T).1 ≠ .error .internal ∧ (c.SoR T).1 ≠ .error .internal := by
  by_cases hcp : c.cp = []
  · obtain ⟨e1, e2, e3⟩ := Incomplete.eval_nocp hcp T
    rw [e1, e2, e3]
    exact ⟨nofun, by cases c.Href <;> nofun, by cases c.Sref <;> nofun⟩
  · obtain ⟨ip, d, _, hc⟩ := hw.hascp hcp
    obtain ⟨e1, e2, e3⟩ := Incomplete.eval_cp hcp hc T
    obtain ⟨n1, n2, n3⟩ := d.no_internal T
    rw [e1, e2, e3]
    exact ⟨convertErr_internal n1, by cases c.Href <;> [nofun; exact convertErr_internal n2],
      by cases c.Sref <;> [nofun; exact convertErr_internal n3]⟩

end PGA.Thermo

/-! ### the order of decimal literals, decided without rational arithmetic

The table obligations compare the same few temperatures again and again; through `Dec.toRat` each comparison
normalises two fractions. -/
namespace PGA

/-- `m·10^e ≤ n·10^f`: on the natural numbers when mantissas and exponents are natural, as those of the shipped
temperatures are (the smaller exponent is taken out of both sides); otherwise as the rationals decide -/
def decLe (m e n f : Int) : Bool :=
  match m, e, n, f with
  | .ofNat x, .ofNat e, .ofNat y, .ofNat f => Nat.ble (x * 10 ^ (e - f)) (y * 10 ^ (f - e))
  | _, _, _, _ => decide ((⟨m, e⟩ : Dec).toRat ≤ (⟨n, f⟩ : Dec).toRat)

/-- the comparison of `decLe` on natural mantissas and exponents -/
theorem natDec_le (x e y f : ℕ) :
    x * 10 ^ (e - f) ≤ y * 10 ^ (f - e) ↔ (x : ℚ) * 10 ^ e ≤ (y : ℚ) * 10 ^ f := by
  obtain ⟨k, p, q, rfl, rfl, hp, hq⟩ : ∃ k p q, e = k + p ∧ f = k + q ∧ e - f = p ∧ f - e = q :=
    ⟨min e f, e - f, f - e, by omega, by omega, rfl, rfl⟩
  rw [hp, hq, pow_add, pow_add, mul_left_comm (x : ℚ), mul_left_comm (y : ℚ),
    mul_le_mul_iff_right₀ (pow_pos (by norm_num) k), ← Nat.cast_le (α := ℚ)]
  push_cast
  rfl

theorem decLe_eq (m e n f : Int) : decLe m e n f = decide ((⟨m, e⟩ : Dec).toRat ≤ (⟨n, f⟩ : Dec).toRat) := by
  unfold decLe
  split
  · rw [Bool.eq_iff_iff, Nat.ble_eq, decide_eq_true_eq, natDec_le]
    rfl
  · rfl

def Dec.le (a b : Dec) : Bool := decLe a.m a.e b.m b.e

theorem Dec.le_eq (a b : Dec) : a.le b = decide (a.toRat ≤ b.toRat) := decLe_eq ..

def Thermo.Dec.le (a b : Thermo.Dec) : Bool := decLe a.m a.e b.m b.e

theorem Thermo.Dec.le_eq (a b : Thermo.Dec) : a.le b = decide (a.toRat ≤ b.toRat) := decLe_eq ..

theorem Dec.toRat_zero : (⟨0, 0⟩ : Dec).toRat = 0 := by norm_num [Dec.toRat]

end PGA
