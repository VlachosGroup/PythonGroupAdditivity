import PGA.Model.Match
import Mathlib.Data.List.Nodup
/-! The pruned backtracking enumerator returns, without repetition, exactly the assignments all of
whose prefixes pass the pruning test (every size). -/
namespace PGA.Match

/-- every prefix of `f` longer than `from_` passes `ok` -/
def PrefOK (ok : List Nat → Bool) (f : List Nat) (from_ : Nat) : Prop :=
  ∀ m, from_ < m → m ≤ f.length → ok (f.take m) = true

/-- the test on the prefixes longer than `p` is the test on the one of length `p + 1` and on the longer ones -/
theorem prefOK_succ {ok : List Nat → Bool} {f : List Nat} {p : Nat} (hp : p < f.length) :
    PrefOK ok f p ↔ ok (f.take (p + 1)) = true ∧ PrefOK ok f (p + 1) :=
  ⟨fun h => ⟨h _ p.lt_succ_self hp, fun m h1 h2 => h m (Nat.lt_of_succ_lt h1) h2⟩,
   fun ⟨h0, h⟩ m h1 h2 => if e : m = p + 1 then e ▸ h0 else h m (by omega) h2⟩

theorem mem_enum (n : Nat) (ok : List Nat → Bool) :
    ∀ k pre f, f ∈ enum n ok k pre ↔
      (∃ suf, f = pre ++ suf ∧ suf.length = k ∧ (∀ a ∈ suf, a < n)) ∧ PrefOK ok f pre.length := by
  intro k
  induction k with
  | zero =>
    intro pre f
    simp only [enum, List.mem_singleton, List.length_eq_zero_iff]
    constructor
    · rintro rfl
      exact ⟨⟨[], (List.append_nil _).symm, rfl, nofun⟩, fun m h1 h2 => absurd h1 (Nat.not_lt.2 h2)⟩
    · rintro ⟨⟨_, rfl, rfl, _⟩, _⟩
      exact List.append_nil pre
  | succ k ih =>
    intro pre f
    have htake (a : Nat) (suf : List Nat) : (pre ++ [a] ++ suf).take (pre.length + 1) = pre ++ [a] :=
      List.take_left' (by simp)
    simp only [enum, List.mem_flatMap, List.mem_range]
    constructor
    · rintro ⟨a, ha, hf⟩
      split at hf
      · obtain ⟨⟨suf, rfl, hl, hlt⟩, hp⟩ := (ih _ _).1 hf
        refine ⟨⟨a :: suf, by simp, congrArg _ hl, List.forall_mem_cons.2 ⟨ha, hlt⟩⟩,
          (prefOK_succ (by simp)).2 ⟨?_, by simpa using hp⟩⟩
        rwa [htake]
      · cases hf
    · rintro ⟨⟨suf, rfl, hl, hlt⟩, hp⟩
      obtain ⟨a, suf, rfl⟩ := List.exists_cons_of_length_eq_add_one hl
      rw [List.append_cons] at hp ⊢
      obtain ⟨h0, hp⟩ := (prefOK_succ (by simp)).1 hp
      rw [htake] at h0
      refine ⟨a, hlt a List.mem_cons_self, ?_⟩
      rw [if_pos h0]
      exact (ih _ _).2 ⟨⟨suf, rfl, Nat.succ.inj hl, fun b hb => hlt b (List.mem_cons_of_mem _ hb)⟩, by simpa using hp⟩

/-- every enumerated list extends the prefix it was started with -/
theorem enum_prefix (n : Nat) (ok : List Nat → Bool) (k : Nat) (pre f : List Nat)
    (h : f ∈ enum n ok k pre) : pre <+: f := by
  obtain ⟨⟨suf, rfl, _, _⟩, _⟩ := (mem_enum n ok k pre f).1 h
  exact List.prefix_append _ _

theorem enum_nodup (n : Nat) (ok : List Nat → Bool) : ∀ k pre, (enum n ok k pre).Nodup := by
  intro k
  induction k with
  | zero => intro pre; simp [enum]
  | succ k ih =>
    intro pre
    simp only [enum]
    rw [List.nodup_flatMap]
    refine ⟨?_, ?_⟩
    · intro a _
      split
      · exact ih _
      · exact List.nodup_nil
    · refine List.Nodup.pairwise_of_forall_ne (List.nodup_range) ?_
      intro a _ b _ hab
      simp only [Function.onFun]
      rw [List.disjoint_left]
      intro f hfa hfb
      split at hfa
      · split at hfb
        · have pa := enum_prefix n ok k _ f hfa
          have pb := enum_prefix n ok k _ f hfb
          have := List.prefix_of_prefix_length_le pa pb (by simp)
          have e := List.IsPrefix.eq_of_length this (by simp)
          have : a = b := by simpa using e
          exact hab this
        · simp at hfb
      · simp at hfa

end PGA.Match
