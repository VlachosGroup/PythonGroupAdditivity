import PGA.Model.Aromatize
import PGA.Spec.MolIso
import PGA.Proofs.Neighbours
/-! Lemmas about the Benson perception model (`PGA/Model/Aromatize.lean`).  Visiting a ring does the same to the molecule
however the ring's atom list is written (`aromStep_equiv`, from `eligible_equiv` and `ringEdge_equiv`).  The updates commute;
an update does not disturb the check of a ring that shares no bond with it and never makes a failing ring pass — hence the
order theorem `aromatizeRings_perm` under the guard `BondDisjointEligible`. -/
namespace PGA.Arom
open PGA.Spec

theorem joins_comm (e : Bond) (x y : Nat) : e.joins x y = e.joins y x := by
  unfold Bond.joins; exact Bool.or_comm _ _

theorem bondBetween_comm (m : Mol) (x y : Nat) : m.bondBetween x y = m.bondBetween y x := by
  unfold Mol.bondBetween
  congr 1; funext e; exact joins_comm e x y

theorem kindAt_comm (m : Mol) (x y : Nat) : kindAt m x y = kindAt m y x := by
  unfold kindAt; rw [bondBetween_comm]

/-! ### six-atom lists -/

theorem six_of_length {r : List Nat} (h : r.length = 6) : ∃ a0 a1 a2 a3 a4 a5, r = [a0, a1, a2, a3, a4, a5] := by
  rcases r with _ | ⟨a0, _ | ⟨a1, _ | ⟨a2, _ | ⟨a3, _ | ⟨a4, _ | ⟨a5, _ | ⟨a6, l⟩⟩⟩⟩⟩⟩⟩ <;> simp at h
  exact ⟨a0, a1, a2, a3, a4, a5, rfl⟩

theorem eligible_length (m : Mol) (r : List Nat) (h : eligible m r = true) : r.length = 6 := by
  unfold eligible at h
  split at h
  · rfl
  · cases h

theorem eligible_eq_false (m : Mol) (r : List Nat) (h : r.length ≠ 6) : eligible m r = false :=
  Bool.eq_false_iff.2 fun he => h (eligible_length m r he)

theorem edgePairs_length_ne (r : List Nat) (h : r.length ≠ 6) : edgePairs r = [] := by
  unfold edgePairs
  split
  · exact absurd rfl h
  · rfl

theorem _root_.PGA.Spec.RingEquiv.perm {r r' : List Nat} (h : RingEquiv r r') : r.Perm r' := by
  induction h with
  | refl r => exact .refl r
  | rot a l => exact (List.perm_append_singleton a l).symm
  | rev r => exact (List.reverse_perm r).symm
  | trans _ _ ih1 ih2 => exact ih1.trans ih2

/-- A function of a ring's atom list that is constant off the six-atom lists takes the same value on every way of
writing a ring as soon as it does so for a six-atom list started one atom later and for one walked the other way. -/
theorem _root_.PGA.Spec.RingEquiv.six_invariant {α : Type} {f : List Nat → α} {d : α} (hd : ∀ r, r.length ≠ 6 → f r = d)
    (hrot : ∀ a0 a1 a2 a3 a4 a5, f [a1, a2, a3, a4, a5, a0] = f [a0, a1, a2, a3, a4, a5])
    (hrev : ∀ a0 a1 a2 a3 a4 a5, f [a5, a4, a3, a2, a1, a0] = f [a0, a1, a2, a3, a4, a5])
    {r r' : List Nat} (h : RingEquiv r r') : f r' = f r := by
  induction h with
  | refl r => rfl
  | rot a l =>
    by_cases hl : (a :: l).length = 6
    · obtain ⟨a0, a1, a2, a3, a4, a5, e⟩ := six_of_length hl
      cases e
      exact hrot _ _ _ _ _ _
    · rw [hd _ hl, hd]; simpa using hl
  | rev r =>
    by_cases hl : r.length = 6
    · obtain ⟨a0, a1, a2, a3, a4, a5, rfl⟩ := six_of_length hl
      exact hrev a0 a1 a2 a3 a4 a5
    · rw [hd _ hl, hd]; simpa using hl
  | trans _ _ ih1 ih2 => exact ih2.trans ih1

/-! ### the ring check does not depend on how the ring is written -/

/-- the bond part of `eligible` as a function of the six kinds -/
def alt (k0 k1 k2 k3 k4 k5 : Option BondKind) : Bool :=
  if k0 == some .single then
    k1 == some .double && k2 == some .single && k3 == some .double && k4 == some .single && k5 == some .double
  else if k0 == some .double then
    k1 == some .single && k2 == some .double && k3 == some .single && k4 == some .double && k5 == some .single
  else false

theorem alt_iff (k0 k1 k2 k3 k4 k5 : Option BondKind) : alt k0 k1 k2 k3 k4 k5 = true ↔
    (k0 = some .single ∧ k1 = some .double ∧ k2 = some .single ∧ k3 = some .double ∧ k4 = some .single ∧ k5 = some .double) ∨
    (k0 = some .double ∧ k1 = some .single ∧ k2 = some .double ∧ k3 = some .single ∧ k4 = some .double ∧ k5 = some .single) := by
  unfold alt
  by_cases h0s : k0 = some .single
  · subst h0s; simp [and_assoc]
  · by_cases h0d : k0 = some .double
    · subst h0d; simp [and_assoc]
    · simp [h0s, h0d]

theorem alt_rot (k0 k1 k2 k3 k4 k5 : Option BondKind) : alt k1 k2 k3 k4 k5 k0 = alt k0 k1 k2 k3 k4 k5 := by
  rw [Bool.eq_iff_iff, alt_iff, alt_iff]
  constructor <;> (rintro (⟨a, b, c, d, e, f⟩ | ⟨a, b, c, d, e, f⟩) <;> simp_all)

theorem alt_rev (k0 k1 k2 k3 k4 k5 : Option BondKind) : alt k4 k3 k2 k1 k0 k5 = alt k0 k1 k2 k3 k4 k5 := by
  rw [Bool.eq_iff_iff, alt_iff, alt_iff]
  constructor <;> (rintro (⟨a, b, c, d, e, f⟩ | ⟨a, b, c, d, e, f⟩) <;> simp_all)

theorem eligible_six (m : Mol) (a0 a1 a2 a3 a4 a5 : Nat) :
    eligible m [a0, a1, a2, a3, a4, a5] =
      (isC m a0 && isC m a1 && isC m a2 && isC m a3 && isC m a4 && isC m a5 &&
       alt (kindAt m a0 a1) (kindAt m a1 a2) (kindAt m a2 a3) (kindAt m a3 a4) (kindAt m a4 a5) (kindAt m a5 a0)) := rfl

/-- the check reads the graph only at the ring's atoms and between consecutive ring atoms -/
theorem eligible_congr {m m' : Mol} {r : List Nat} (hc : ∀ x, isC m' x = isC m x)
    (hk : ∀ p ∈ edgePairs r, kindAt m' p.1 p.2 = kindAt m p.1 p.2) : eligible m' r = eligible m r := by
  by_cases hl : r.length = 6
  · obtain ⟨a0, a1, a2, a3, a4, a5, rfl⟩ := six_of_length hl
    obtain ⟨k0, k1, k2, k3, k4, k5, -⟩ := by simpa only [edgePairs, List.forall_mem_cons] using hk
    simp only [eligible_six, hc, k0, k1, k2, k3, k4, k5]
  · rw [eligible_eq_false m' r hl, eligible_eq_false m r hl]

theorem eligible_rot (m : Mol) (a0 a1 a2 a3 a4 a5 : Nat) :
    eligible m [a1, a2, a3, a4, a5, a0] = eligible m [a0, a1, a2, a3, a4, a5] := by
  rw [eligible_six, eligible_six, alt_rot]
  ac_rfl

theorem eligible_rev (m : Mol) (a0 a1 a2 a3 a4 a5 : Nat) :
    eligible m [a5, a4, a3, a2, a1, a0] = eligible m [a0, a1, a2, a3, a4, a5] := by
  rw [eligible_six, eligible_six, kindAt_comm m a5 a4, kindAt_comm m a4 a3, kindAt_comm m a3 a2, kindAt_comm m a2 a1,
    kindAt_comm m a1 a0, kindAt_comm m a0 a5, alt_rev]
  ac_rfl

theorem eligible_equiv (m : Mol) {r r' : List Nat} (h : RingEquiv r r') : eligible m r' = eligible m r :=
  h.six_invariant (eligible_eq_false m) (eligible_rot m) (eligible_rev m)

/-- whether a bond joins two consecutive atoms of a ring is a question about the set of ring bonds, not about where the
atom list starts or which way round it runs -/
theorem ringEdge_equiv {r r' : List Nat} (h : RingEquiv r r') (e : Bond) : ringEdge r' e = ringEdge r e := by
  refine h.six_invariant (f := fun r => ringEdge r e) (d := false)
    (fun r hl => by unfold ringEdge; rw [edgePairs_length_ne r hl]; rfl) (fun a0 a1 a2 a3 a4 a5 => ?_)
    (fun a0 a1 a2 a3 a4 a5 => ?_)
  · exact (List.perm_append_singleton (a0, a1) [(a1, a2), (a2, a3), (a3, a4), (a4, a5), (a5, a0)]).any_eq
  · simp only [ringEdge, edgePairs, List.any_cons, List.any_nil, Bool.or_false, joins_comm e a5 a4, joins_comm e a4 a3,
      joins_comm e a3 a2, joins_comm e a2 a1, joins_comm e a1 a0, joins_comm e a0 a5]
    ac_rfl

theorem sharesBond_comm (r r' : List Nat) : sharesBond r r' = sharesBond r' r := by
  have imp : ∀ r r', sharesBond r r' = true → sharesBond r' r = true := by
    intro r r'
    unfold sharesBond
    simp only [List.any_eq_true, Bool.or_eq_true, Bool.and_eq_true, beq_iff_eq]
    rintro ⟨p, hp, p', hp', h⟩
    exact ⟨p', hp', p, hp, h.imp (fun ⟨a, b⟩ => ⟨a.symm, b.symm⟩) (fun ⟨a, b⟩ => ⟨b.symm, a.symm⟩)⟩
  exact Bool.eq_iff_iff.2 ⟨imp r r', imp r' r⟩

/-! ### the updates: what they leave alone, and that they commute -/

/-- retype a bond when the flag is set -/
def stepAny (b : Bool) (e : Bond) : Bond := if b then { e with kind := BondKind.aromatic } else e

theorem stepAny_joins (b : Bool) (e : Bond) (x y : Nat) : (stepAny b e).joins x y = e.joins x y := by
  cases b <;> rfl

theorem noParallel_stepAny {l : List Bond} (h : NoParallel l) (g : Bond → Bool) :
    NoParallel (l.map fun e => stepAny (g e) e) := by
  refine List.pairwise_map.2 (h.imp fun {e e'} hh => ?_)
  rw [stepAny_joins]
  cases g e <;> exact hh

theorem stepAny_stepAny (b b' : Bool) (e : Bond) : stepAny b' (stepAny b e) = stepAny (b || b') e := by
  cases b <;> cases b' <;> rfl

theorem ringEdge_kind (r : List Nat) (e : Bond) (k : BondKind) : ringEdge r { e with kind := k } = ringEdge r e := rfl

theorem ringEdge_stepAny (r : List Nat) (b : Bool) (e : Bond) : ringEdge r (stepAny b e) = ringEdge r e := by
  cases b <;> rfl

theorem setAromatic_bonds (m : Mol) (r : List Nat) :
    (setAromatic m r).bonds = m.bonds.map fun e => stepAny (ringEdge r e) e := rfl

@[simp] theorem setAromatic_rings (m : Mol) (r : List Nat) : (setAromatic m r).rings = m.rings := rfl
@[simp] theorem setAromatic_natoms (m : Mol) (r : List Nat) : (setAromatic m r).natoms = m.natoms := by
  simp [setAromatic, Mol.natoms]

/-- the update sees the ring through its atom set and its set of bonds only -/
theorem setAromatic_congr (m : Mol) (r r' : List Nat) (hc : ∀ i, r'.contains i = r.contains i)
    (he : ∀ e, ringEdge r' e = ringEdge r e) : setAromatic m r' = setAromatic m r := by
  unfold setAromatic
  simp only [hc, he]

/-- **One ring, written differently**: visiting it does the same to the molecule. -/
theorem aromStep_equiv (m : Mol) {r r' : List Nat} (h : RingEquiv r r') : aromStep m r' = aromStep m r := by
  unfold aromStep
  rw [eligible_equiv m h, setAromatic_congr m r r' (fun _ => h.perm.contains_eq.symm) (ringEdge_equiv h)]

theorem setAromatic_comm (m : Mol) (r r' : List Nat) :
    setAromatic (setAromatic m r) r' = setAromatic (setAromatic m r') r := by
  unfold setAromatic
  simp only [List.mapIdx_mapIdx, List.map_map]
  congr 1
  · congr 1; funext i a
    simp only [Function.comp]
    cases r.contains i <;> cases r'.contains i <;> rfl
  · congr 1; funext e
    show stepAny (ringEdge r' (stepAny _ e)) (stepAny _ e) = stepAny (ringEdge r (stepAny _ e)) (stepAny _ e)
    rw [ringEdge_stepAny, ringEdge_stepAny, stepAny_stepAny, stepAny_stepAny, Bool.or_comm]

theorem isC_setAromatic (m : Mol) (r : List Nat) (x : Nat) : isC (setAromatic m r) x = isC m x := by
  unfold isC Mol.atom? setAromatic
  simp only [List.getElem?_mapIdx]
  cases m.atoms[x]? with
  | none => rfl
  | some a => simp only [Option.map]; split <;> rfl

theorem bondBetween_setAromatic (m : Mol) (r : List Nat) (x y : Nat) :
    (setAromatic m r).bondBetween x y = (m.bondBetween x y).map fun e => stepAny (ringEdge r e) e := by
  have : ((fun e : Bond => e.joins x y) ∘ fun e => stepAny (ringEdge r e) e) = fun e => e.joins x y :=
    funext fun e => stepAny_joins _ e x y
  unfold Mol.bondBetween
  rw [setAromatic_bonds, List.find?_map, this]

theorem kindAt_setAromatic (m : Mol) (r : List Nat) (x y : Nat) :
    kindAt (setAromatic m r) x y = (m.bondBetween x y).map fun e => if ringEdge r e then BondKind.aromatic else e.kind := by
  unfold kindAt
  rw [bondBetween_setAromatic, Option.map_map]
  congr 1; funext e
  show (stepAny (ringEdge r e) e).kind = _
  cases ringEdge r e <;> rfl

/-- an update never creates a SINGLE or DOUBLE bond -/
theorem kindAt_setAromatic_sd (m : Mol) (r : List Nat) (x y : Nat) (k : BondKind) (hk : k ≠ .aromatic)
    (h : kindAt (setAromatic m r) x y = some k) : kindAt m x y = some k := by
  rw [kindAt_setAromatic] at h
  unfold kindAt
  cases hb : m.bondBetween x y with
  | none => rw [hb] at h; cases h
  | some e =>
    rw [hb] at h
    simp only [Option.map, Option.some.injEq] at h ⊢
    split at h
    · exact absurd h.symm hk
    · exact h

/-- a ring that fails the check keeps failing it whatever other ring is made aromatic -/
theorem eligible_mono (m : Mol) (r r' : List Nat) (h : eligible (setAromatic m r) r' = true) : eligible m r' = true := by
  obtain ⟨a0, a1, a2, a3, a4, a5, rfl⟩ := six_of_length (eligible_length _ _ h)
  rw [eligible_six] at h ⊢
  simp only [isC_setAromatic, Bool.and_eq_true] at h ⊢
  refine ⟨h.1, (alt_iff _ _ _ _ _ _).2 ?_⟩
  have S := fun x y => kindAt_setAromatic_sd m r x y .single (by decide)
  have D := fun x y => kindAt_setAromatic_sd m r x y .double (by decide)
  rcases (alt_iff _ _ _ _ _ _).1 h.2 with ⟨h0, h1, h2, h3, h4, h5⟩ | ⟨h0, h1, h2, h3, h4, h5⟩
  · exact Or.inl ⟨S _ _ h0, D _ _ h1, S _ _ h2, D _ _ h3, S _ _ h4, D _ _ h5⟩
  · exact Or.inr ⟨D _ _ h0, S _ _ h1, D _ _ h2, S _ _ h3, D _ _ h4, S _ _ h5⟩

/-! ### rings that share no bond -/

/-- a bond joining a consecutive pair of `r'` is not a ring bond of a ring `r` sharing no bond with `r'` -/
theorem ringEdge_of_disjoint (r r' : List Nat) (hd : sharesBond r r' = false) (e : Bond) (p' : Nat × Nat)
    (hp' : p' ∈ edgePairs r') (hj : e.joins p'.1 p'.2 = true) : ringEdge r e = false := by
  refine Bool.eq_false_iff.2 fun hre => Bool.eq_false_iff.1 hd ?_
  obtain ⟨⟨x, y⟩, hp, hpj⟩ := List.any_eq_true.1 hre
  refine List.any_eq_true.2 ⟨(x, y), hp, List.any_eq_true.2 ⟨p', hp', ?_⟩⟩
  -- both pairs are the end atoms of `e`, in one order or the other
  obtain ⟨x', y'⟩ := p'
  simp only [Bond.joins, Bool.or_eq_true, Bool.and_eq_true, beq_iff_eq] at hj hpj ⊢
  rcases hj with ⟨rfl, rfl⟩ | ⟨rfl, rfl⟩ <;> rcases hpj with ⟨rfl, rfl⟩ | ⟨rfl, rfl⟩ <;> simp

theorem kindAt_setAromatic_disjoint (m : Mol) (r r' : List Nat) (hd : sharesBond r r' = false) (p' : Nat × Nat)
    (hp' : p' ∈ edgePairs r') : kindAt (setAromatic m r) p'.1 p'.2 = kindAt m p'.1 p'.2 := by
  rw [kindAt_setAromatic]
  unfold kindAt
  cases hb : m.bondBetween p'.1 p'.2 with
  | none => rfl
  | some e =>
    simp [ringEdge_of_disjoint r r' hd e p' hp' (bondBetween_some hb).2]

/-- making a ring aromatic does not change the check of a ring that shares no bond with it -/
theorem eligible_setAromatic_disjoint (m : Mol) (r r' : List Nat) (hd : sharesBond r r' = false) :
    eligible (setAromatic m r) r' = eligible m r' :=
  eligible_congr (isC_setAromatic m r) (kindAt_setAromatic_disjoint m r r' hd)

/-! ### the loop over the rings -/

/-- all the updates of a list of rings, unconditionally -/
def setAll (rs : List (List Nat)) (m : Mol) : Mol := rs.foldl setAromatic m

theorem setAll_perm (rs rs' : List (List Nat)) (hp : rs.Perm rs') (m : Mol) : setAll rs m = setAll rs' m :=
  List.Perm.foldl_eq' hp (fun x _ y _ z => setAromatic_comm z x y) m

/-- If the rings that pass the check on `m` pairwise share no bond, the loop applies exactly their updates: visiting one
of them neither spoils another one nor makes a failing ring pass, so the guard and the rings it speaks of are the same
after the visit. -/
theorem aromatizeRings_eq_setAll : ∀ (rs : List (List Nat)) (m : Mol), BondDisjointEligible m rs →
    aromatizeRings rs m = setAll (rs.filter (eligible m)) m
  | [], _, _ => rfl
  | r :: rs, m, hd => by
    unfold BondDisjointEligible at hd
    show aromatizeRings rs (aromStep m r) = _
    unfold aromStep
    by_cases he : eligible m r = true
    · rw [List.filter_cons_of_pos he] at hd ⊢
      obtain ⟨hhead, htail⟩ := List.pairwise_cons.1 hd
      have hf : rs.filter (eligible (setAromatic m r)) = rs.filter (eligible m) :=
        List.filter_congr fun r' hr' => by
          cases he' : eligible m r'
          · exact Bool.eq_false_iff.2 (mt (eligible_mono m r r') (Bool.eq_false_iff.1 he'))
          · exact (eligible_setAromatic_disjoint m r r' (hhead r' (List.mem_filter.2 ⟨hr', he'⟩))).trans he'
      have hd' : BondDisjointEligible (setAromatic m r) rs := by unfold BondDisjointEligible; rwa [hf]
      rw [if_pos he, aromatizeRings_eq_setAll rs _ hd', hf]
      rfl
    · rw [List.filter_cons_of_neg he] at hd ⊢
      rw [if_neg he]
      exact aromatizeRings_eq_setAll rs m hd

/-- **Order of the ring list.** Two lists of rings that are permutations of each other, no two rings that pass the check
sharing a bond: the loop gives the same molecule. -/
theorem aromatizeRings_perm (m : Mol) (rs rs' : List (List Nat)) (hp : rs.Perm rs') (hd : BondDisjointEligible m rs) :
    aromatizeRings rs' m = aromatizeRings rs m := by
  have hd' : BondDisjointEligible m rs' :=
    ((hp.filter _).pairwise_iff fun h => (sharesBond_comm _ _).trans h).1 hd
  rw [aromatizeRings_eq_setAll rs m hd, aromatizeRings_eq_setAll rs' m hd']
  exact (setAll_perm _ _ (hp.filter _) m).symm

end PGA.Arom
