import PGA.Proofs.RingTop
/-!
# Shapes of the trees the engine builds (towards C09-T4)

`kinds e` — the finitely many sequences of child *kinds* (string leaf, integer leaf, node of rule `n`)
a successful evaluation of `e` can append, for expressions without `ZeroOrMore`.
`Conf G t` — hereditarily: every node's children have one of the kind sequences of its rule body, and
every string leaf is non-empty.  `eval_conf`: everything the engine outputs conforms.
-/
set_option linter.unusedVariables false
namespace PGA.Ring
open PGA.Chars

inductive Kind where
  | str | int | node (n : Nat)
  deriving DecidableEq, Repr

def kindOf : Ast → Kind
  | .node n _ => .node n
  | .str _ => .str
  | .int _ => .int

def kinds : Expr → List (List Kind)
  | .eos => [[]]
  | .digit _ => [[.int]]
  | .number => [[.int]]
  | .string => [[.str]]
  | .lit _ _ => [[.str]]
  | .filler _ _ => [[]]
  | .opt a => [] :: kinds a
  | .star _ => []
  | .allNil => [[]]
  | .allCons a r => (kinds a).flatMap fun x => (kinds r).map fun y => x ++ y
  | .anyNil => []
  | .anyCons a r => kinds a ++ kinds r
  | .literals _ _ => [[.str]]
  | .ref n => [[.node n]]

/-- no `ZeroOrMore`, every literal token non-empty -/
def plain : Expr → Bool
  | .star _ => false
  | .lit tok _ => !tok.isEmpty
  | .literals toks _ => toks.all (fun t => !t.isEmpty)
  | .opt a => plain a
  | .allCons a r => plain a && plain r
  | .anyCons a r => plain a && plain r
  | _ => true

def allPlain (G : Grammar) : Bool :=
  G.rules.all fun r => match r with | some b => plain b | none => true

inductive Conf (G : Grammar) : Ast → Prop where
  | str (s : List Char) : s ≠ [] → Conf G (.str s)
  | int (v : Nat) : Conf G (.int v)
  | node (n : Nat) (body : Expr) (kids : List Ast) : G.rules[n]? = some (some body) →
      kids.map kindOf ∈ kinds body → (∀ k ∈ kids, Conf G k) → Conf G (.node n kids)

/-- what a successful result outputs -/
def OutOK (G : Grammar) (e : Expr) : Res → Prop
  | .ok _ out _ => out.map kindOf ∈ kinds e ∧ ∀ t ∈ out, Conf G t
  | _ => True

theorem OutOK.nil {G : Grammar} {e : Expr} {st : St} {cur : Option Err} (h : [] ∈ kinds e) : OutOK G e (.ok st [] cur) :=
  ⟨h, nofun⟩

theorem OutOK.one {G : Grammar} {e : Expr} {st : St} {cur : Option Err} {t : Ast} (h : kinds e = [[kindOf t]])
    (ht : Conf G t) : OutOK G e (.ok st [t] cur) :=
  ⟨by rw [h]; exact List.mem_singleton_self _, fun x hx => by rw [List.mem_singleton.mp hx]; exact ht⟩

theorem take_fst (fil : List (List Char)) (st : St) (n : Nat) (s : List Char) (st' : St)
    (h : take fil st n = some (s, st')) : s = st.rest.take n := by
  simp only [take] at h
  split at h
  · cases h
  · cases h; rfl

theorem digitLoop_out (G : Grammar) (k : Nat) : ∀ (n : Nat) (st : St) (acc : List Char) (cur : Option Err),
    OutOK G (.digit k) (digitLoop G n st acc cur) := by
  intro n
  induction n with
  | zero =>
    intro st acc cur
    simp only [digitLoop, pyInt]
    split
    · exact .one rfl (.int _)
    · trivial
  | succ n ih =>
    intro st acc cur
    unfold digitLoop
    split
    · trivial
    · split
      · split
        · trivial
        · exact ih _ _ _
      · trivial

theorem literalsLoop_out (G : Grammar) (st : St) (e : Expr) (he : kinds e = [[.str]]) :
    ∀ (toks : List (List Char)) (cur : Option Err), (∀ t ∈ toks, t ≠ []) → OutOK G e (literalsLoop G st toks cur) := by
  intro toks
  induction toks with
  | nil => intro cur _; cases cur <;> trivial
  | cons tok more ih =>
    intro cur hne
    unfold literalsLoop
    split
    · next hm =>
      split
      · trivial
      · next s st1 ht =>
        refine .one he (.str s ?_)
        rw [take_fst _ _ _ _ _ ht, hm]
        exact hne tok (List.mem_cons_self ..)
    · exact ih _ fun t ht => hne t (List.mem_cons_of_mem _ ht)

theorem evalLeaf_conf (G : Grammar) (e : Expr) (st : St) (cur : Option Err) (hp : plain e = true) :
    OutOK G e (evalLeaf G e st cur) := by
  cases e with
  | eos =>
    simp only [evalLeaf]
    split
    · exact .nil (List.mem_singleton_self _)
    · trivial
  | digit n => exact digitLoop_out G n n st [] cur
  | number =>
    simp only [evalLeaf]
    split
    · trivial
    · split
      · split
        · trivial
        · split
          · trivial
          · split
            · exact .one rfl (.int _)
            · trivial
      · trivial
  | string =>
    simp only [evalLeaf]
    split
    · trivial
    · next c r hrest =>
      split
      · split
        · trivial
        · next s st1 ht =>
          refine .one rfl (.str s ?_)
          rw [take_fst _ _ _ _ _ ht, hrest]
          nofun
      · trivial
  | lit tok noErr =>
    simp only [plain, Bool.not_eq_true', List.isEmpty_eq_false_iff] at hp
    simp only [evalLeaf]
    split
    · next hm =>
      split
      · trivial
      · next s st1 ht =>
        refine .one rfl (.str s ?_)
        rw [take_fst _ _ _ _ _ ht, hm]
        exact hp
    · trivial
  | filler tok noErr =>
    simp only [evalLeaf]
    split
    · split
      · trivial
      · exact .nil (List.mem_singleton_self _)
    · trivial
  | literals toks name =>
    simp only [plain, List.all_eq_true, Bool.not_eq_true', List.isEmpty_eq_false_iff] at hp
    have g := literalsLoop_out G st (.literals toks name) rfl toks cur hp
    simp only [evalLeaf]
    generalize literalsLoop G st toks cur = r at g
    cases r with
    | fail => cases name <;> trivial
    | _ => exact g
  | _ => trivial

theorem OutOK.seqPost {G : Grammar} {a rest : Expr} {st1 : St} {out1 : List Ast} {cur1 : Option Err} {r : Res}
    (g1 : OutOK G a (.ok st1 out1 cur1)) (g2 : OutOK G rest r) : OutOK G (.allCons a rest) (seqPost out1 r) := by
  cases r with
  | ok st2 out2 cur2 =>
    refine ⟨?_, fun t ht => (List.mem_append.mp ht).elim (g1.2 t) (g2.2 t)⟩
    simp only [kinds, List.map_append, List.mem_flatMap, List.mem_map]
    exact ⟨_, g1.1, _, g2.1, rfl⟩
  | _ => trivial

theorem eval_conf (G : Grammar) (hG : allPlain G = true) :
    ∀ (e : Expr) (st : St) (cur : Option Err) (bound : Nat), plain e = true → OutOK G e (eval G e st cur bound) := by
  refine eval_induction G ?leaf ?opt ?star ?allNil ?allCons ?anyNil ?anyCons ?ref
  case leaf =>
    intro e st cur b he hp
    rw [eval_leaf G st cur b he]
    exact evalLeaf_conf G e st cur hp
  case opt =>
    intro a st cur b ih hp
    have g := ih hp
    rw [eval_opt]
    generalize eval G a st cur b = r at g
    cases r with
    | fail => exact .nil (List.mem_cons_self ..)
    | ok => exact ⟨List.mem_cons_of_mem _ g.1, g.2⟩
    | abort => trivial
  case star => intro a st cur b _ _ hp; cases hp
  case allNil =>
    intro st cur b _
    rw [eval_allNil]
    exact .nil (List.mem_singleton_self _)
  case allCons =>
    intro a rest st cur b ih1 ih2 hp
    simp only [plain, Bool.and_eq_true] at hp
    have g := ih1 hp.1
    rw [eval_allCons]
    generalize h : eval G a st cur b = r at g
    cases r with
    | ok st1 out1 cur1 =>
      dsimp only
      split
      · trivial
      · next hle => exact g.seqPost (ih2 _ _ _ h (Nat.not_lt.mp hle) hp.2)
    | _ => trivial
  case anyNil =>
    intro st cur b _
    rw [eval_anyNil]
    cases cur <;> trivial
  case anyCons =>
    intro a rest st cur b ih1 ih2 hp
    simp only [plain, Bool.and_eq_true] at hp
    have g := ih1 hp.1
    rw [eval_anyCons]
    generalize h : eval G a st cur b = r at g
    cases r with
    | ok => exact ⟨List.mem_append_left _ g.1, g.2⟩
    | abort => trivial
    | fail err cur' =>
      have g2 := ih2 _ _ h hp.2
      dsimp only
      generalize eval G rest st (catchErr err cur') b = r2 at g2
      cases r2 with
      | ok => exact ⟨List.mem_append_right _ g2.1, g2.2⟩
      | _ => trivial
  case ref =>
    intro n st cur b ih _
    rw [eval_ref]
    split
    · next body hb =>
      split
      · next r hr =>
        split
        · next hlt =>
          have g := ih body r hb hr hlt (List.all_eq_true.mp hG (some body) (List.mem_of_getElem? hb))
          generalize eval G body st cur r = r2 at g
          cases r2 with
          | ok st2 out2 cur2 => exact .one rfl (.node n body out2 hb g.1 g.2)
          | _ => trivial
        · trivial
      · trivial
    · trivial

/-- the tree of an accepted text conforms to the grammar table and is a node of the root rule -/
theorem parse_conf (G : Grammar) (hG : allPlain G = true) (s : List Char) (ast : Ast) (fin : St)
    (h : parse G s = .accepted ast fin) : Conf G ast ∧ kindOf ast = .node G.root := by
  obtain ⟨st0, out, cur, _, he, _⟩ := parse_accepted h
  have g := eval_conf G hG (.ref G.root) st0 none G.top rfl
  rw [he] at g
  exact ⟨g.2 _ (List.mem_cons_self ..), (List.cons.inj (List.mem_singleton.mp g.1)).1⟩

end PGA.Ring
