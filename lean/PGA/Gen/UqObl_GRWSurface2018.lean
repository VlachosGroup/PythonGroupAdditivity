-- GENERATED by harness/translate.py from the live objects of the working tree.
-- Do not edit: rewritten (if changed) on every check run.
import PGA.Gen.Lib_GRWSurface2018
import PGA.Gen.Uq_GRWSurface2018
import PGA.Gen.UqObl_GRWAqueous2018
namespace PGA.Gen.UqObl_GRWSurface2018
open PGA PGA.LibTable PGA.Gen.Uq_GRWSurface2018

/-- one row and column per descriptor of the uncertainty basis -/
theorem sized_basis : (dim == PGA.Gen.Lib_GRWSurface2018.uqBasis.length) = true := by decide +kernel
theorem sized_m : squareSized dim mInt = true := by decide +kernel
theorem sized_l : squareSized dim lInt = true := by decide +kernel
/-- this library ships the matrix of GRWAqueous2018, entry for entry, so the witness is the same too: the two dear
evaluations (`sym`, `cert`) are taken from there -/
theorem same_m : mInt = Uq_GRWAqueous2018.mInt := rfl
theorem same_l : lInt = Uq_GRWAqueous2018.lInt := rfl
theorem same_dim : dim = Uq_GRWAqueous2018.dim := rfl
theorem same_scale : certScale = Uq_GRWAqueous2018.certScale := rfl
theorem sym : symmetric dim mInt = true := by
  rw [same_dim, same_m]
  exact UqObl_GRWAqueous2018.sym
theorem scale_pos : 0 < certScale := by decide +kernel
/-- the kernel re-checks the witness: `certScale·M − L·Lᵀ` is diagonally dominant with non-negative diagonal,
`L` being the lower triangle of `lInt` -/
theorem cert : certUpper dim certScale mInt lInt = true := by
  rw [same_dim, same_scale, same_m, same_l]
  exact UqObl_GRWAqueous2018.cert
/-- hence the stored matrix is positive semi-definite: `0 ≤ xᵀMx` for every rational vector -/
theorem psd (x : Nat → Rat) : 0 ≤ quadForm dim mInt x :=
  psd_of_certUpper dim certScale mInt lInt x sized_m sized_l sym scale_pos cert

end PGA.Gen.UqObl_GRWSurface2018
