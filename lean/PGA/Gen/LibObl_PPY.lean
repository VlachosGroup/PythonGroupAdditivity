-- GENERATED by harness/translate.py from the live objects of the working tree.
-- Do not edit: rewritten (if changed) on every check run.
import PGA.Gen.Lib_PPY
import PGA.Gen.LibObl_BensonGA
import PGA.Props.C14Eval
import PGA.Proofs.LibTable
namespace PGA.Gen.LibObl_PPY
open PGA PGA.LibTable PGA.Gen.Lib_PPY

/-- group records and remaps are those of BensonGA, record for record: what is evaluated over them is taken from there -/
theorem same_groups : groups = Lib_BensonGA.groups := rfl
theorem same_remaps : remaps = Lib_BensonGA.remaps := rfl

/-- every group of the library as loaded is self-consistent -/
theorem groups_wf : groups.all wfGroup = true := by
  rw [same_groups]
  exact LibObl_BensonGA.groups_wf
/-- C14-T1 for this library (instance of `C14_wf_group_evaluates`): every group is
constructed by the thermo model from its dumped data and returns a value for Cp/R, H/RT, S/R, G/RT - whichever it has
data for - at every rational T of its range, for every interpolant -/
theorem groups_evaluate (ip : PGA.Thermo.Interp) : ∀ g ∈ groups, ∃ c, g.correlation ip = .ok c ∧
    ∀ T, PGA.Thermo.inRange T (effRange g) → EvaluatesAt g c T :=
  fun g hg => C14_wf_group_evaluates ip g (List.all_eq_true.mp groups_wf g hg)
/-- ... and reproduces its reference values and its table, for an interpolant that passes through the table and has
additive integrals (instance of `C14_wf_group_reproduces`) -/
theorem groups_reproduce (ip : PGA.Thermo.Interp) (hgood : ip.Good) : ∀ g ∈ groups, ip.Hits g.pts →
    ∃ c, g.correlation ip = .ok c ∧ ReproducesData g c :=
  fun g hg hh => C14_wf_group_reproduces ip hgood g (List.all_eq_true.mp groups_wf g hg) hh
theorem names_distinct : keysDistinct (groups.map (·.name)) = true := by
  rw [same_groups]
  exact LibObl_BensonGA.names_distinct
theorem remaps_wf : remaps.all wfRemap = true := by decide +kernel
theorem remaps_chain_free : chainFree remaps = true := by
  rw [same_remaps]
  exact LibObl_BensonGA.remaps_chain_free
theorem remap_keys_distinct : keysDistinct (remaps.map (·.key)) = true := by
  rw [same_remaps]
  exact LibObl_BensonGA.remap_keys_distinct

end PGA.Gen.LibObl_PPY
