-- GENERATED by harness/translate.py from the live objects of the working tree.
-- Do not edit: rewritten (if changed) on every check run.
import PGA.Gen.Lib_GRWAqueous2018
import PGA.Gen.Uq_GRWAqueous2018
import PGA.Proofs.Psd
namespace PGA.Gen.UqObl_GRWAqueous2018
open PGA PGA.LibTable PGA.Gen.Uq_GRWAqueous2018

/-- one row and column per descriptor of the uncertainty basis -/
theorem sized_basis : (dim == PGA.Gen.Lib_GRWAqueous2018.uqBasis.length) = true := by decide +kernel
theorem sized_m : squareSized dim mInt = true := by decide +kernel
theorem sized_l : squareSized dim lInt = true := by decide +kernel
theorem sym : symmetric dim mInt = true := symmetric_of_symPeel (by decide +kernel)
theorem scale_pos : 0 < certScale := by decide +kernel
/-- the kernel re-checks the witness: `certScale·M − L·Lᵀ` is diagonally dominant with non-negative diagonal,
`L` being the lower triangle of `lInt` -/
theorem cert : certUpper dim certScale mInt lInt = true := by decide +kernel
/-- hence the stored matrix is positive semi-definite: `0 ≤ xᵀMx` for every rational vector -/
theorem psd (x : Nat → Rat) : 0 ≤ quadForm dim mInt x :=
  psd_of_certUpper dim certScale mInt lInt x sized_m sized_l sym scale_pos cert

end PGA.Gen.UqObl_GRWAqueous2018
