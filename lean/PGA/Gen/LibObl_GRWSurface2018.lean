-- GENERATED by harness/translate.py from the live objects of the working tree.
-- Do not edit: rewritten (if changed) on every check run.
import PGA.Gen.Lib_GRWSurface2018
import PGA.Props.C14Eval
import PGA.Proofs.LibTable
namespace PGA.Gen.LibObl_GRWSurface2018
open PGA PGA.LibTable PGA.Gen.Lib_GRWSurface2018


/-- every group of the library as loaded is self-consistent -/
theorem groups_wf : groups.all wfGroup = true := all_wfGroup (by decide +kernel)
/-- C14-T1 for this library (instance of `C14_wf_group_evaluates`): every group is
constructed by the thermo model from its dumped data and returns a value for Cp/R, H/RT, S/R, G/RT - whichever it has
data for - at every rational T of its range, for every interpolant -/
theorem groups_evaluate (ip : PGA.Thermo.Interp) : ∀ g ∈ groups, ∃ c, g.correlation ip = .ok c ∧
    ∀ T, PGA.Thermo.inRange T (effRange g) → EvaluatesAt g c T :=
  fun g hg => C14_wf_group_evaluates ip g (List.all_eq_true.mp groups_wf g hg)
/-- ... and reproduces its reference values and its table, for an interpolant that passes through the table and has
additive integrals (instance of `C14_wf_group_reproduces`) -/
theorem groups_reproduce (ip : PGA.Thermo.Interp) (hgood : ip.Good) : ∀ g ∈ groups, ip.Hits g.pts →
    ∃ c, g.correlation ip = .ok c ∧ ReproducesData g c :=
  fun g hg hh => C14_wf_group_reproduces ip hgood g (List.all_eq_true.mp groups_wf g hg) hh
theorem names_distinct : keysDistinct (groups.map (·.name)) = true := keysDistinct_of_ascending (by decide +kernel)
theorem remaps_wf : remaps.all wfRemap = true := by decide +kernel
theorem remaps_chain_free : chainFree remaps = true := (chainFree_eq_codes _).trans (by decide +kernel)
theorem remap_keys_distinct : keysDistinct (remaps.map (·.key)) = true := (keysDistinct_eq_codes _).trans (by decide +kernel)
/-- every uncertainty-basis descriptor names an entry that has thermochemical data -/
theorem uq_basis_has_data : uqBasis.all (fun d => groups.any fun g => g.name == d && g.hasThermo) = true :=
  (basisHasData_eq_codes _ _).trans (by decide +kernel)
theorem uq_basis_distinct : keysDistinct uqBasis = true := keysDistinct_of_ascending (by decide +kernel)
theorem uq_dof_number : uqDof.isNum = true := by decide +kernel

end PGA.Gen.LibObl_GRWSurface2018
